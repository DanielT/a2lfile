import A2lVerif.Lemmas.Limits
/-!
# C12 — check(): limit plausibility follows data type and conversion

Property theorems only; model in Model/Limits.lean (exact rational arithmetic). Quantification: all 11 data types,
all coefficients in ℚ, all declared limits.
-/

namespace A2l.Lim

theorem datatypeLimits_le (dt : DataType) : (datatypeLimits dt).1 ≤ (datatypeLimits dt).2 := by
  cases dt <;> decide +kernel

/-- identity and table conversions, and a missing / unresolved conversion: the raw range of the data type -/
theorem direct_range (dt : DataType) :
    calcLimits .direct dt = some (datatypeLimits dt) ∧ calcLimits .absent dt = some (datatypeLimits dt) := ⟨rfl, rfl⟩

/-- **LINEAR a·x+b, either sign of a**: the calculated limits are exactly the minimum and the maximum of a·x+b over
    the raw range of the data type. -/
theorem linear_range (a b : Rat) (dt : DataType) :
    ∃ L U, calcLimits (.linear (some (a, b))) dt = some (L, U) ∧
      (∀ x, (datatypeLimits dt).1 ≤ x → x ≤ (datatypeLimits dt).2 → L ≤ a * x + b ∧ a * x + b ≤ U) ∧
      (∃ x, (datatypeLimits dt).1 ≤ x ∧ x ≤ (datatypeLimits dt).2 ∧ a * x + b = L) ∧
      (∃ x, (datatypeLimits dt).1 ≤ x ∧ x ≤ (datatypeLimits dt).2 ∧ a * x + b = U) := by
  have hle := datatypeLimits_le dt
  by_cases ha : a ≥ 0
  · exact ⟨_, _, if_pos ha,
      fun x h1 h2 => ⟨add_le_add_left (mul_le_mul_of_nonneg_left h1 ha) b,
        add_le_add_left (mul_le_mul_of_nonneg_left h2 ha) b⟩,
      ⟨_, le_refl _, hle, rfl⟩, ⟨_, hle, le_refl _, rfl⟩⟩
  · have ha' : a ≤ 0 := (not_le.mp ha).le
    exact ⟨_, _, if_neg ha,
      fun x h1 h2 => ⟨add_le_add_left (mul_le_mul_of_nonpos_left h2 ha') b,
        add_le_add_left (mul_le_mul_of_nonpos_left h1 ha') b⟩,
      ⟨_, hle, le_refl _, rfl⟩, ⟨_, le_refl _, hle, rfl⟩⟩

/-- **linear special case of RAT_FUNC** (INT = (b·PHYS + c)/f, inverted): the calculated limits bound exactly the
    physical values whose raw value lies in the raw range. -/
theorem ratfunc_linear_range (b c f : Rat) (hb : b ≠ 0) (hf : f ≠ 0) (dt : DataType) :
    ∃ L U, calcLimits (.ratFunc (some (0, b, c, 0, 0, f))) dt = some (L, U) ∧
      ∀ x, ((datatypeLimits dt).1 ≤ (b * x + c) / f ∧ (b * x + c) / f ≤ (datatypeLimits dt).2) ↔ (L ≤ x ∧ x ≤ U) := by
  -- the inversion the code applies to a raw value is affine of slope `f / b`, and it inverts `x ↦ (b * x + c) / f`
  have hfun : ∀ y, f * (y / b) - c / b = f / b * y + -(c / b) := fun y => by
    rw [div_mul_eq_mul_div, mul_div_assoc, sub_eq_add_neg]
  have hinv : ∀ x, f / b * ((b * x + c) / f) + -(c / b) = x := fun x => by
    rw [div_mul_div_comm, mul_comm f, mul_div_mul_right _ _ hf, add_div, mul_div_cancel_left₀ _ hb,
      add_neg_cancel_right]
  obtain ⟨L, U, h, hiff⟩ := affine_interval (f / b) (-(c / b)) _ _ (div_ne_zero hf hb) (datatypeLimits_le dt)
  simp only [← hfun] at h
  refine ⟨L, U, Eq.trans (if_pos ⟨rfl, rfl, rfl, hf, hb⟩) h, fun x => ?_⟩
  rw [← hinv x, ← hiff, hinv]

/-- **the decision**, for each of the five carriers: an error is reported exactly when a declared limit lies outside
    the calculated range by more than the relative tolerance. -/
theorem error_iff (carrier : Carrier) (conv : Conv) (dt : DataType)
    (ex cl : Rat × Rat) (h : calcLimits conv dt = some cl) :
    reportsError carrier conv dt ex = some true ↔
      (ex.1 < cl.1 - ratAbs (cl.1 * tol) ∨ ex.2 > cl.2 + ratAbs (cl.2 * tol)) := by
  rw [reportsError_of_calc carrier conv dt ex cl h, ← limitsValid_eq_false_iff]
  cases limitsValid ex cl <;> decide

/-- TYPEDEF_MEASUREMENT decides like MEASUREMENT (it compared without tolerance before the fix recorded in
    DESIGN 9.4: declared limits outside the range by less than the tolerance were reported for this carrier only) -/
theorem typedef_measurement_same_decision (conv : Conv) (dt : DataType) (ex : Rat × Rat) :
    reportsError .typedefMeasurement conv dt ex = reportsError .measurement conv dt ex := by
  unfold reportsError
  cases calcLimits conv dt <;> rfl

/-- the comparison without tolerance is the stricter one: whatever it accepts, the tolerant one accepts; and the two
    differ (UBYTE range 0..255, declared upper limit 255.0001) -/
theorem strict_implies_tolerant (ex cl : Rat × Rat) (h : limitsValidStrict ex cl = true) : limitsValid ex cl = true := by
  rw [← Bool.not_eq_false, limitsValid_eq_false_iff]
  rw [← Bool.not_eq_false, limitsValidStrict_eq_false_iff] at h
  rintro (h1 | h1)
  · exact h (.inl (lt_of_lt_of_le h1 (sub_le_self _ (ratAbs_nonneg _))))
  · exact h (.inr (lt_of_le_of_lt (le_add_of_nonneg_right (ratAbs_nonneg _)) h1))

theorem tolerant_not_strict :
    limitsValid (0, 2550001 / 10000) (0, 255) = true ∧ limitsValidStrict (0, 2550001 / 10000) (0, 255) = false := by
  decide +kernel

/-- declared limits inside the calculated range never cause an error, for any carrier -/
theorem inside_no_error (carrier : Carrier) (conv : Conv) (dt : DataType) (ex cl : Rat × Rat)
    (h : calcLimits conv dt = some cl) (h1 : cl.1 ≤ ex.1) (h2 : ex.2 ≤ cl.2) :
    reportsError carrier conv dt ex = some false := by
  have hs : limitsValidStrict ex cl = true := by
    rw [← Bool.not_eq_false, limitsValidStrict_eq_false_iff, not_or]
    exact ⟨not_lt.2 h1, not_lt.2 h2⟩
  rw [reportsError_of_calc carrier conv dt ex cl h, strict_implies_tolerant ex cl hs]
  rfl

/-- declared limits outside by more than the tolerance always cause an error, for any carrier -/
theorem outside_error (carrier : Carrier) (conv : Conv) (dt : DataType) (ex cl : Rat × Rat)
    (h : calcLimits conv dt = some cl)
    (hout : ex.1 < cl.1 - ratAbs (cl.1 * tol) ∨ ex.2 > cl.2 + ratAbs (cl.2 * tol)) :
    reportsError carrier conv dt ex = some true := by
  rw [reportsError_of_calc carrier conv dt ex cl h, (limitsValid_eq_false_iff ex cl).2 hout]
  rfl

/-- **conversions that are not evaluated (FORM, general RAT_FUNC) never cause a limit error**, for any declared
    limits representable as finite `f64` values. General = everything but the invertible linear case `(b·x + c) / f` with
    `b ≠ 0` and `f ≠ 0`: the constant function `b = 0` included (see `constant_ratfunc_never_errors`). -/
theorem not_evaluated_never_errors (carrier : Carrier) (dt : DataType) (ex : Rat × Rat)
    (h1 : -maxF64 ≤ ex.1) (h2 : ex.2 ≤ maxF64) :
    reportsError carrier .form dt ex = some false ∧
    ∀ a b c d e f : Rat, ¬(a = 0 ∧ d = 0 ∧ e = 0 ∧ f ≠ 0 ∧ b ≠ 0) →
      reportsError carrier (.ratFunc (some (a, b, c, d, e, f))) dt ex = some false := 
  ⟨inside_no_error carrier .form dt ex _ rfl h1 h2,
   fun _ _ _ _ _ _ hn => inside_no_error carrier _ dt ex _ (if_neg hn) h1 h2⟩

/-- `COEFFS 0 0 c 0 0 f` (a constant; nothing to invert) is not evaluated: no limit error whatever is declared. Before the
    fix recorded in DESIGN 9.4 the code divided by `b = 0` here and reported every declared pair against NaN limits. -/
theorem constant_ratfunc_never_errors (carrier : Carrier) (dt : DataType) (c f : Rat) (ex : Rat × Rat)
    (h1 : -maxF64 ≤ ex.1) (h2 : ex.2 ≤ maxF64) :
    reportsError carrier (.ratFunc (some (0, 0, c, 0, 0, f))) dt ex = some false :=
  (not_evaluated_never_errors carrier dt ex h1 h2).2 0 0 c 0 0 f (fun h => h.2.2.2.2 rfl)

/-- `calcLimits` always answers, so the `limitSpecial` report of `Chk.limitReport` (the rational model cannot follow the
    `f64` arithmetic) is never produced -/
theorem calcLimits_total (conv : Conv) (dt : DataType) : ∃ cl, calcLimits conv dt = some cl := by
  cases conv with
  | absent => exact ⟨_, rfl⟩
  | direct => exact ⟨_, rfl⟩
  | form => exact ⟨_, rfl⟩
  | linear o =>
    cases o with
    | none => exact ⟨_, rfl⟩
    | some p =>
      obtain ⟨L, U, h, _⟩ := linear_range p.1 p.2 dt
      exact ⟨_, h⟩
  | ratFunc o =>
    cases o with
    | none => exact ⟨_, rfl⟩
    | some p =>
      obtain ⟨a, b, c, d, e, f⟩ := p
      by_cases hc : a = 0 ∧ d = 0 ∧ e = 0 ∧ f ≠ 0 ∧ b ≠ 0
      · obtain ⟨rfl, rfl, rfl, hf, hb⟩ := hc
        obtain ⟨L, U, h, _⟩ := ratfunc_linear_range b c f hb hf dt
        exact ⟨_, h⟩
      · exact ⟨_, if_neg hc⟩

example : calcLimits (.linear (some (-1, 0))) .ubyte = some (-255, 0) := by decide +kernel
example : calcLimits (.ratFunc (some (0, -2, 1, 0, 0, 4))) .sbyte = some (-507 / 2, 513 / 2) := by decide +kernel
example : reportsError .measurement (.linear (some (-1, 0))) .ubyte (-255, 0) = some false := by decide +kernel
example : reportsError .measurement (.linear (some (-1, 0))) .ubyte (-256, 0) = some true := by decide +kernel

/-! ## the defect repaired by the `fix:` commit for C12 (kept as a witness)
Before the fix the code computed, for a < 0, `upper = a*lower + b; lower = a*upper + b` — the second line reads the upper
limit that the first line has just overwritten. -/
def linearUnfixed (a b : Rat) (dt : DataType) : Rat × Rat :=
  let (lo, _hi) := datatypeLimits dt
  let upper := a * lo + b
  (a * upper + b, upper)

theorem linearUnfixed_wrong :
    linearUnfixed (-1) 0 .ubyte = (0, 0) ∧
    ¬ (∀ x : Rat, 0 ≤ x → x ≤ 255 → (linearUnfixed (-1) 0 .ubyte).1 ≤ -1 * x + 0) := by
  have h : linearUnfixed (-1) 0 .ubyte = (0, 0) := by decide +kernel
  refine ⟨h, fun hall => absurd (hall 255 (by decide +kernel) (by decide +kernel)) ?_⟩
  rw [h]
  decide +kernel

end A2l.Lim
