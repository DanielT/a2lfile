import A2lVerif.Lemmas.TableShape
import A2lVerif.Gen.Symbols
/-! # C03 — the regenerated table of the shipped code satisfies the table hypothesis (`tableOk`) of the panic-freedom
    theorems; their other hypotheses are about the token array (`TokOk`) and the special parsers (`SpecialOk`) -/
namespace A2l.Tree
open A2l.G

def shippedKnown : Known := ⟨symA2lFile, symAsap2Version, symTagAsap2Version⟩

theorem shipped_tableOk : tableOk Shipped.table shippedKnown = true :=
  tableOk_of_shapeOk shipped_shapeOk (by decide +kernel) (by decide +kernel)

end A2l.Tree
