import A2lVerif.Model.Graph
import A2lVerif.Lemmas.Basics
/-!
# C11 — check(): reference diagnostics are sound, complete and total

Property theorems over the reference-graph model (Model/Graph.lean). Totality and purity are by construction here
(`refReport` is a total function of an immutable value); on the real code they are observed by the sweep in the
harness (catch_unwind, model compared before/after), and that no panic site of `checker.rs` is reachable is
`check_never_panics` of `Props/C11Struct.lean`.
-/
namespace A2l.Gr

/-- **sound and complete**: a name is reported exactly when some covered reference names it and it does not exist in
    that reference's target namespace -/
theorem report_iff (m : Module) (t : String) :
    t ∈ refReport m ↔ ∃ r ∈ m.refs, r.covered = true ∧ r.target = t ∧ m.has r.ns r.target = false := by
  simp only [refReport, List.mem_map, List.mem_filter, Bool.and_eq_true, Bool.not_eq_eq_eq_not, Bool.not_true]
  constructor
  · rintro ⟨r, ⟨hr, hc, hh⟩, rfl⟩; exact ⟨r, hr, hc, rfl, hh⟩
  · rintro ⟨r, hr, hc, rfl, hh⟩; exact ⟨r, ⟨hr, hc, hh⟩, rfl⟩

/-- **a fully consistent file yields an empty report** -/
theorem consistent_empty (m : Module) (h : consistent m = true) : refReport m = [] :=
  map_filter_eq_nil _ fun r hr => by rw [List.all_eq_true.1 h r hr]; exact Bool.and_false _

/-- **corrupting one covered reference to a name that does not exist yields a report naming exactly that target**,
    and nothing else when the file was consistent -/
theorem corrupt_one (m : Module) (h : consistent m = true) (pre post : List Ref) (r : Ref) (bad : String)
    (hm : m.refs = pre ++ r :: post) (hc : r.covered = true) (hbad : m.has r.ns bad = false) :
    refReport { m with refs := pre ++ { r with target := bad } :: post } = [bad] := by
  simp only [consistent, List.all_eq_true, hm, List.mem_append, List.mem_cons] at h
  -- `has` only looks at the definitions, which the corruption leaves alone
  exact map_filter_single (p := fun x => x.covered && !m.has x.ns x.target) Ref.target
    (fun x hx => by rw [h x (.inl hx)]; exact Bool.and_false _)
    (fun x hx => by rw [h x (.inr (.inr hx))]; exact Bool.and_false _)
    (x := { r with target := bad }) (by dsimp only; rw [hc, hbad]; rfl)

/-- the report never invents names: every reported name is the target of a reference of the module -/
theorem report_subset (m : Module) : ∀ t ∈ refReport m, ∃ r ∈ m.refs, r.target = t := by
  intro t ht
  obtain ⟨r, hr, _, ht', _⟩ := (report_iff m t).1 ht
  exact ⟨r, hr, ht'⟩

example : consistent ⟨[(0, "a"), (1, "cm")], [⟨1, true, "cm"⟩, ⟨0, false, "a"⟩]⟩ = true := by decide +kernel
example : refReport ⟨[(0, "a")], [⟨1, true, "cm"⟩, ⟨0, true, "a"⟩, ⟨0, false, "zz"⟩]⟩ = ["cm"] := by decide +kernel

theorem validComponent_iff (x : String) (cont : List (List String)) :
    validComponent x cont = true ↔ ∀ comps ∈ cont, x ∈ comps := by
  simp [validComponent, List.all_eq_true]

theorem not_validComponent_iff (x : String) (cont : List (List String)) :
    (!validComponent x cont) = true ↔ ∃ comps ∈ cont, x ∉ comps := by
  simp only [validComponent, List.not_all_eq_any_not, List.any_eq_true, Bool.not_eq_true', List.contains_eq_mem,
    decide_eq_false_iff_not]

theorem thisReport_rule (c : ThisCase) (hd : c.direct = false) (hc : c.containing ≠ []) :
    thisReport c = c.refs.filter fun x => !validComponent x c.containing := by
  have hne : c.containing.isEmpty = false := by
    cases h : c.containing with
    | nil => exact absurd h hc
    | cons _ _ => rfl
  unfold thisReport
  induction c.refs with
  | nil => rfl
  | cons x xs ih =>
    rw [List.filterMap_cons, List.filter_cons, ih]
    simp only [hd, hne, Bool.not_false, Bool.and_self, if_true]
    cases validComponent x c.containing <;> rfl

/-- when the rule applies (typedef not used directly, contained in at least one structure): `x` is reported exactly when
    some `THIS.x` reference exists and some containing structure has no component `x` -/
theorem this_report_iff (c : ThisCase) (hd : c.direct = false) (hc : c.containing ≠ []) (t : String) :
    t ∈ thisReport c ↔ t ∈ c.refs ∧ ∃ comps ∈ c.containing, t ∉ comps := by
  rw [thisReport_rule c hd hc, List.mem_filter, not_validComponent_iff]

/-- a typedef all of whose `THIS.x` name a component of every containing structure yields no report -/
theorem this_consistent_empty (c : ThisCase) (hd : c.direct = false) (hc : c.containing ≠ [])
    (h : ∀ x ∈ c.refs, ∀ comps ∈ c.containing, x ∈ comps) : thisReport c = [] := by
  apply List.eq_nil_iff_forall_not_mem.2
  intro t ht
  obtain ⟨hx, comps, hcm, hn⟩ := (this_report_iff c hd hc t).1 ht
  exact hn (h t hx comps hcm)

/-- renaming one `THIS.x` to a component that one containing structure lacks yields exactly that name -/
theorem this_corrupt_one (c : ThisCase) (hd : c.direct = false) (hc : c.containing ≠ [])
    (h : ∀ x ∈ c.refs, ∀ comps ∈ c.containing, x ∈ comps) (pre post : List String) (x bad : String)
    (hr : c.refs = pre ++ x :: post) (comps : List String) (hcm : comps ∈ c.containing) (hbad : bad ∉ comps) :
    thisReport { c with refs := pre ++ bad :: post } = [bad] := by
  have hv : ∀ y ∈ c.refs, (!validComponent y c.containing) = false := fun y hy => by
    rw [(validComponent_iff y c.containing).2 (h y hy)]
    rfl
  rw [thisReport_rule { c with refs := pre ++ bad :: post } hd hc]
  exact (List.map_id _).symm.trans (map_filter_single id
    (fun y hy => hv y (hr ▸ List.mem_append_left _ hy))
    (fun y hy => hv y (hr ▸ List.mem_append_right _ (List.mem_cons_of_mem _ hy)))
    ((not_validComponent_iff bad c.containing).2 ⟨comps, hcm, hbad⟩))

/-- when the rule does not apply (the typedef is used directly by an INSTANCE, or no structure contains it), `THIS.x` is an
    ordinary name: it is reported, with its prefix, exactly when no object of that name exists -/
theorem this_fallback_iff (c : ThisCase) (h : c.direct = true ∨ c.containing = []) (t : String) :
    t ∈ thisReport c ↔ ∃ x ∈ c.refs, x ∉ c.objects ∧ t = "THIS." ++ x := by
  have hcond : (!c.direct && !c.containing.isEmpty) = false := by
    rcases h with h | h
    · simp [h]
    · simp [h]
  simp only [thisReport, hcond, Bool.false_eq_true, ↓reduceIte, List.mem_filterMap]
  constructor
  · rintro ⟨x, hx, h'⟩
    split at h'
    · cases h'
    · rename_i ho
      cases h'
      exact ⟨x, hx, by simpa using ho, rfl⟩
  · rintro ⟨x, hx, ho, rfl⟩
    refine ⟨x, hx, ?_⟩
    simp [ho]

/-! non-vacuity: two containing structures, `ax` is a component of only one of them -/
example : thisReport ⟨false, [], [(true, ["ax", "cv"]), (true, ["cv"]), (false, [])], ["ax", "cv"]⟩ = ["ax"] := by decide +kernel
example : thisReport ⟨true, ["cv"], [(true, ["ax"])], ["ax", "cv"]⟩ = ["THIS.ax"] := by decide +kernel
example : (⟨false, [], [(true, ["ax", "cv"]), (true, ["cv"])], ["cv"]⟩ : ThisCase).containing ≠ [] := by decide +kernel

end A2l.Gr
