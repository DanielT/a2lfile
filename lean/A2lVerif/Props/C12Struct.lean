import A2lVerif.Lemmas.Checker
/-!
# C12 on the structural model of `checker.rs`: which data type and which conversion each carrier is tested against

`Props/C12.lean` proves that `reportsError carrier conv dt (lower, upper)` is the right verdict for a given data type
and conversion. This file proves that the structural checker model (`Model/Checker.lean`, tied to the real `check()` by
the ordered report list with exact limits, `chkfull`) applies it to the right pair for each of the five carriers:

* MEASUREMENT / TYPEDEF_MEASUREMENT: the object's own data type; the FIRST COMPU_METHOD of the conversion's name
  (`ItemList::get`), none for `NO_COMPU_METHOD` or a name that does not resolve;
* CHARACTERISTIC / TYPEDEF_CHARACTERISTIC: FNC_VALUES of the first RECORD_LAYOUT of the deposit's name;
* AXIS_PTS: AXIS_PTS_X of the first RECORD_LAYOUT of the deposit's name;
* standard axis `k` (0-based position among ALL AXIS_DESCR of the characteristic, not among the standard ones): AXIS_PTS_X /
  _Y / _Z / _4 / _5 number `k` of that record layout, the AXIS_DESCR's own conversion and limits; positions beyond the fifth
  and absent dimensions yield a ContentError and no limit test.
-/
namespace A2l.Chk
open A2l.Lim

/-- one limit test reports exactly when the limits model says so (`limitSpecial`: the rational model cannot follow) -/
theorem limitReport_eq (carrier : Carrier) (m : Module) (conversion : Name) (dt : DataType) (item block : Name)
    (lower upper : Rat) :
    limitReport carrier m conversion dt item block lower upper =
      match reportsError carrier (convOf m conversion) dt (lower, upper), calcLimits (convOf m conversion) dt with
      | some true, some cl => [.limit item block lower upper cl.1 cl.2]
      | some false, _ => []
      | _, _ => [.limitSpecial item block] := by
  unfold limitReport reportsError
  cases hc : calcLimits (convOf m conversion) dt with
  | none => rfl
  | some cl =>
    cases hv : limitsValid (lower, upper) cl <;> simp [hv]

/-- the conversion a name stands for: the FIRST COMPU_METHOD of that name; absent for a name that does not resolve (this
    includes `NO_COMPU_METHOD` unless a COMPU_METHOD is literally called so) -/
theorem convOf_eq (m : Module) (conversion : Name) :
    convOf m conversion = match m.compuMethod.find? (·.name == conversion) with
      | none => .absent
      | some cm => cm.toConv := rfl

/-- MEASUREMENT: own data type, own conversion, tolerant comparison -/
theorem measurement_limit_test (x : Measurement) (m : Module) :
    checkMeasurement x m =
      missingUnless (s "NO_COMPU_METHOD") (s "MEASUREMENT") x.name (s "COMPU_METHOD") x.conversion m.compuMethodNames ++
      limitReport .measurement m x.conversion x.datatype x.name (s "MEASUREMENT") x.lower x.upper ++
      checkRefMemorySegment m x.refMemorySegment ++ checkFunctionList m x.functionList := rfl

/-- TYPEDEF_MEASUREMENT: own data type, own conversion, the same tolerant comparison -/
theorem typedef_measurement_limit_test (x : Measurement) (m : Module) :
    checkTypedefMeasurement x m =
      missingUnless (s "NO_COMPU_METHOD") (s "TYPEDEF_MEASUREMENT") x.name (s "COMPU_METHOD") x.conversion m.compuMethodNames ++
      limitReport .typedefMeasurement m x.conversion x.datatype x.name (s "TYPEDEF_MEASUREMENT") x.lower x.upper := rfl

/-- the reports of the second loop of `check_characteristic_common` for the AXIS_DESCR at position `idx`:
    a standard axis is tested against dimension `idx` of the record layout -/
def stdAxisReport (kind name rlName : Name) (m : Module) (rl : RecordLayout) (idx : Nat) (ad : AxisDescr) : List Report :=
  if ad.attr == s "STD_AXIS" then
    match rl.axisRefs[idx]? with
    | some (some dt) => limitReport .axisDescrStd m ad.conversion dt name (s "AXIS_DESCR") ad.lower ad.upper
    | _ => [.content name kind (s "Referenced RECORD_LAYOUT " ++ rlName ++ s " does not have AXIS_PTS_" ++
              (axisPtsNames[idx]?.getD (s "?")) ++ s ".")]
  else []

/-- **standard axes are tested by POSITION**: the `k`-th AXIS_DESCR (counted over all AXIS_DESCR) against dimension `k` -/
theorem std_axis_by_position (kind name rlName : Name) (m : Module) (rl : RecordLayout) (start : Nat) (ads : List AxisDescr) :
    stdAxisLoop kind name rlName m rl start ads =
      (ads.zipIdx start).flatMap fun p => stdAxisReport kind name rlName m rl p.2 p.1 := by
  induction ads generalizing start with
  | nil => rfl
  | cons ad rest ih =>
    simp only [stdAxisLoop, List.zipIdx_cons, List.flatMap_cons, ih]
    rfl

/-- the dimensions of a record layout in the order `check()` indexes them -/
example (rl : RecordLayout) : rl.axisRefs = [rl.axisPtsX, rl.axisPtsY, rl.axisPtsZ, rl.axisPts4, rl.axisPts5] := rfl

/-- a standard axis at position 5 or beyond is never limit-tested (and never makes `check()` index out of bounds) -/
theorem std_axis_beyond_fifth (kind name rlName : Name) (m : Module) (rl : RecordLayout) (idx : Nat) (ad : AxisDescr)
    (h : 5 ≤ idx) (hs : (ad.attr == s "STD_AXIS") = true) :
    stdAxisReport kind name rlName m rl idx ad =
      [.content name kind (s "Referenced RECORD_LAYOUT " ++ rlName ++ s " does not have AXIS_PTS_" ++ s "?" ++ s ".")] := by
  have h1 : rl.axisRefs[idx]? = none := List.getElem?_eq_none (show rl.axisRefs.length ≤ idx from h)
  have h2 : axisPtsNames[idx]? = none := List.getElem?_eq_none (show axisPtsNames.length ≤ idx from h)
  simp only [stdAxisReport, hs, h1, h2, if_true, Option.getD_none]

/-- CHARACTERISTIC / TYPEDEF_CHARACTERISTIC: FNC_VALUES of the first record layout of that name, own conversion -/
theorem characteristic_limit_test (kind : Name) (c : Characteristic) (m : Module) (objects : List Name) (direct : Bool)
    (containing : List TypedefStructure) (rl : RecordLayout) (dt : DataType)
    (hrl : m.recordLayout.find? (·.name == c.recordLayout) = some rl) (hf : rl.fncValues = some dt) :
    characteristicCommonReports kind c m objects direct containing =
      missingUnless (s "NO_COMPU_METHOD") kind c.name (s "COMPU_METHOD") c.conversion m.compuMethodNames ++
      axisLoopReports c.name m objects direct containing 0 c.axisDescr ++
      (if c.axisDescr.length != expectedAxisCount c.ctype then
        [.content c.name kind (s "Expected " ++ idxText (expectedAxisCount c.ctype) ++ s " AXIS_DESCR for type " ++
          c.ctype ++ s ", found " ++ idxText c.axisDescr.length)] else []) ++
      (limitReport .characteristic m c.conversion dt c.name kind c.lower c.upper ++
        stdAxisLoop kind c.name c.recordLayout m rl 0 c.axisDescr) := by
  unfold characteristicCommonReports
  have : m.getRecordLayout c.recordLayout = some rl := hrl
  rw [this]
  simp only [hf]

/-- AXIS_PTS: AXIS_PTS_X of the first record layout of the deposit's name -/
theorem axis_pts_limit_test (a : AxisPts) (m : Module) (objects : List Name) (rl : RecordLayout) (dt : DataType)
    (hrl : m.recordLayout.find? (·.name == a.depositRecord) = some rl) (hx : rl.axisPtsX = some dt) :
    checkAxisPts a m objects =
      missingUnless (s "NO_COMPU_METHOD") (s "AXIS_PTS") a.name (s "COMPU_METHOD") a.conversion m.compuMethodNames ++
      missingUnless (s "NO_INPUT_QUANTITY") (s "AXIS_PTS") a.name (s "MEASUREMENT") a.inputQuantity objects ++
      limitReport .axisPts m a.conversion dt a.name (s "AXIS_PTS") a.lower a.upper ++
      checkFunctionList m a.functionList ++ checkRefMemorySegment m a.refMemorySegment := by
  unfold checkAxisPts
  have : m.getRecordLayout a.depositRecord = some rl := hrl
  rw [this]
  simp only [hx]

/-! non-vacuity: a MAP whose second axis is the standard one is tested against AXIS_PTS_Y (SWORD), not against AXIS_PTS_X -/
def demoRl : RecordLayout :=
  { name := s "rl", fncValues := some .ubyte, axisPtsX := some .ubyte, axisPtsY := some .sword, axisPtsZ := none,
    axisPts4 := none, axisPts5 := none }

def comAxis : AxisDescr :=
  { attr := s "COM_AXIS", inputQuantity := s "NO_INPUT_QUANTITY", conversion := s "NO_COMPU_METHOD", lower := 0, upper := 1,
    axisPtsRef := some (s "ap"), curveAxisRef := none }

def stdAxis : AxisDescr :=
  { attr := s "STD_AXIS", inputQuantity := s "NO_INPUT_QUANTITY", conversion := s "NO_COMPU_METHOD", lower := -1000,
    upper := 1000, axisPtsRef := none, curveAxisRef := none }

example : stdAxisLoop (s "CHARACTERISTIC") (s "c") (s "rl") {} demoRl 0 [comAxis, stdAxis] = [] := by decide +kernel
example : stdAxisLoop (s "CHARACTERISTIC") (s "c") (s "rl") {} demoRl 0 [stdAxis, comAxis] =
    [.limit (s "c") (s "AXIS_DESCR") (-1000) 1000 0 255] := by decide +kernel

end A2l.Chk
