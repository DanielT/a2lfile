import A2lVerif.Lemmas.CleanupPass
/-!
# C10 — cleanup(): only unreferenced helper objects are removed, nothing new dangles

The theorems are about the reference-graph model of `cleanup` (`Model/Cleanup.lean`, which mirrors `src/cleanup.rs`
and `src/cleanup/*.rs`; `./check C10` compares it, through the driver command `cln`, with `A2lFile::cleanup()` on
generated modules). The predicates of the statements (`helperTags`, `Ns`, `siteNs`, `resolves`, `consistent`,
`wellSited`) stand at the end of the model file, `key` and `repair` in `Lemmas/Cleanup.lean`. `Lemmas/CleanupPass.lean`
has `cleanup` as a list of twelve passes (`pipeline`); most theorems here read off what one of them leaves behind
(`post_cleanup`, with the position of the pass in the list).
-/
namespace A2l.Cl

/-- a child that `cleanup` never deletes -/
def nonHelper (n : Node) : Bool := !helperTags.contains n.tag

/-- **only helpers are removed**: the children after `cleanup` are, as (keyword, name) pairs, a sublist of the
    children before (nothing is added, renamed or reordered), and the children that are not GROUP, FUNCTION,
    COMPU_METHOD, COMPU_TAB, COMPU_VTAB, COMPU_VTAB_RANGE, UNIT or RECORD_LAYOUT are all still there, in order. -/
theorem only_helpers_removed (m : Module) :
    ((cleanup m).map key).Sublist (m.map key) ∧
    ((cleanup m).filter nonHelper).map key = (m.filter nonHelper).map key := by
  refine ⟨keys_cleanup m, ?_⟩
  -- `nonHelper n` is `nh n.tag`, and `repair` keeps the key
  rw [show (cleanup m).filter nonHelper = _ from only_nh_cleanup m, List.map_map]
  rfl

theorem repair_refs (m : Module) (n : Node) :
    (repair m n).refs = n.refs.filter fun r =>
      (!convRepairSel.contains (n.tag, r.site) || (namesOf ["COMPU_METHOD"] m).contains r.target) &&
      (!funcRefSel.contains (n.tag, r.site) || (namesOf ["FUNCTION"] m).contains r.target) := by
  unfold repair dropIn
  simp only [List.filter_filter]

/-- **objects and typedefs are altered only at fields that were already dangling** — exact form: the non-helper
    children after `cleanup` are the non-helper children before, each one `repair`ed; `repair` keeps keyword and
    name, keeps a sublist of the references (`repair_refs`: a filter), and every reference it drops dangles
    in `m`: a FUNCTION_LIST entry naming no FUNCTION of `m`, or a conversion naming no COMPU_METHOD of `m`. -/
theorem objects_refs_only_repaired (m : Module) :
    (cleanup m).filter nonHelper = (m.filter nonHelper).map (repair m) ∧
    ∀ n : Node, (repair m n).tag = n.tag ∧ (repair m n).name = n.name ∧ (repair m n).refs.Sublist n.refs ∧
      ∀ r ∈ n.refs, r ∉ (repair m n).refs → resolves m r = false := by
  refine ⟨only_nh_cleanup m, fun n => ⟨rfl, rfl, ?_, ?_⟩⟩
  · rw [repair_refs]; exact List.filter_sublist
  · intro r hr hnot
    -- a reference is dropped by one of the two filters; the field of that filter targets the name space
    -- in which the name is missing
    obtain ⟨hF, hC⟩ : (∀ p ∈ funcRefSel, siteNs p.2 = some .function) ∧
        ∀ p ∈ convRepairSel, siteNs p.2 = some .compuMethod := by decide +kernel
    unfold repair at hnot
    rw [mem_dropIn_refs, mem_dropIn_refs, dropIn_tag] at hnot
    unfold resolves
    by_cases hf : (n.tag, r.site) ∈ funcRefSel ∧ (namesOf ["FUNCTION"] m).contains r.target = false
    · rw [hF _ hf.1]; exact hf.2
    · by_cases hc : (n.tag, r.site) ∈ convRepairSel ∧ (namesOf ["COMPU_METHOD"] m).contains r.target = false
      · rw [hC _ hc.1]; exact hc.2
      · refine absurd ⟨⟨hr, fun hs => ?_⟩, fun hs => ?_⟩ hnot
        · exact Bool.not_eq_false _ ▸ fun hk => hf ⟨hs, hk⟩
        · exact Bool.not_eq_false _ ▸ fun hk => hc ⟨hs, hk⟩

/-- **nothing that remains refers to something removed**: in a module whose references to deletable
    children sit in the fields where the grammar allows them (`wellSited`: e.g. a conversion only in AXIS_PTS,
    AXIS_DESCR, CHARACTERISTIC, MEASUREMENT, the TYPEDEFs and OVERWRITE; see `refSel`), every reference that is
    left after `cleanup` and whose target existed before still has its target.

    `wellSited` is needed because the model's children are arbitrary (keyword, field) combinations: `cleanup` only
    looks at the fields of `refSel`, so a COMPU_METHOD referenced only from, say, a `Measurement.conversion` field
    of a FRAME would be deleted. The driver marks an input that is not `wellSited`, and the comparison of
    `./check C10` then reports a mismatch. No uniqueness of names is needed. -/
theorem no_new_dangling_ref (m : Module) (hw : wellSited m = true) :
    ∀ n' ∈ cleanup m, ∀ r ∈ n'.refs, resolves m r = true → resolves (cleanup m) r = true := by
  intro n' hn' r hr hres
  unfold resolves at hres ⊢
  cases hns : siteNs r.site with
  | none => rfl
  | some ns =>
    rw [hns] at hres
    simp only [List.contains_iff_mem] at hres ⊢
    refine pres_cleanup ns m n' hn' r hr ⟨hns, ?_⟩ hres
    obtain ⟨n, hn, ht, _, hrs⟩ := sub_cleanup n' hn'
    exact ht ▸ wellSited_iff.1 hw n hn r (hrs r hr)

/-- **cleanup keeps a consistent `wellSited` module consistent** -/
theorem no_new_dangling (m : Module) (hw : wellSited m = true) (hc : consistent m = true) :
    consistent (cleanup m) = true := by
  rw [consistent_iff] at hc ⊢
  intro n' hn' r hr
  obtain ⟨n, hn, _, _, hrs⟩ := sub_cleanup n' hn'
  exact no_new_dangling_ref m hw n' hn' r hr (hc n hn r (hrs r hr))

/-- `wellSited` cannot be dropped: a COMPU_METHOD referenced from a field where the grammar has no conversion -/
theorem no_new_dangling_counterexample :
    let m : Module := [⟨"FRAME", "f", [⟨"Measurement.conversion", "cm"⟩]⟩, ⟨"COMPU_METHOD", "cm", []⟩]
    consistent m = true ∧ wellSited m = false ∧ consistent (cleanup m) = false := by
  decide +kernel

/-- every UNIT that is left is reachable from the REF_UNIT of a COMPU_METHOD that is left, through REF_UNITs of
    UNITs that are left (`UReach`, `Lemmas/Cleanup.lean`) -/
theorem remaining_unit_reachable (m : Module) (x : Node) (hx : x ∈ cleanup m) (ht : x.tag = "UNIT") :
    UReach (cleanup m) (targetsOf unitUseSel (cleanup m)) x.name :=
  post_cleanup (p := .units) (i := 8) rfl m x hx ht

/-- **all unreferenced ones are removed**: a COMPU_METHOD, conversion table, UNIT or RECORD_LAYOUT that is left
    after `cleanup` is referenced by a child that is left, through one of the fields of its name space (`refSel`):
    a COMPU_METHOD by a conversion of an object or typedef, a conversion table by the COMPU_TAB_REF or
    STATUS_STRING_REF of a COMPU_METHOD, a UNIT by the REF_UNIT of a COMPU_METHOD or of a UNIT, a RECORD_LAYOUT by
    an object, typedef or MOD_COMMON. No hypothesis is needed. -/
theorem removed_unreferenced (m : Module) (x : Node) (hx : x ∈ cleanup m) (ns : Ns)
    (hns : ns ∈ [Ns.compuMethod, Ns.convTab, Ns.unit, Ns.recordLayout]) (ht : x.tag ∈ ns.tags) :
    ∃ sel, refSel ns = some sel ∧ ∃ n ∈ cleanup m, ∃ r ∈ n.refs, (n.tag, r.site) ∈ sel ∧ r.target = x.name := by
  simp only [List.mem_cons, List.not_mem_nil, or_false] at hns
  rcases hns with rfl | rfl | rfl | rfl
  · exact ⟨_, rfl, mem_targetsOf.1
      (post_cleanup (p := .prune ["COMPU_METHOD"] convUseSel) (i := 6) rfl m x hx ht)⟩
  · exact ⟨_, rfl, mem_targetsOf.1 (post_cleanup (p := .prune tabTags tabUseSel) (i := 7) rfl m x hx ht)⟩
  · refine ⟨_, rfl, ?_⟩
    have hU : x.tag = "UNIT" := List.mem_singleton.1 ht
    have := remaining_unit_reachable m x hx hU
    generalize x.name = t at this
    cases this with
    | base h =>
      obtain ⟨n, hn, r, hr, hs, hrt⟩ := mem_targetsOf.1 h
      exact ⟨n, hn, r, hr, List.mem_cons.2 (Or.inl (List.mem_singleton.1 hs)), hrt⟩
    | @step u r hu hut _ hr hs =>
      exact ⟨u, hu, r, hr, hut ▸ hs ▸ List.mem_cons_of_mem _ List.mem_cons_self, rfl⟩
  · exact ⟨_, rfl, mem_targetsOf.1
      (post_cleanup (p := .prune ["RECORD_LAYOUT"] layoutUseSel) (i := 11) rfl m x hx ht)⟩

/-- the converse for GROUPs and FUNCTIONs: a GROUP that is left is named by a USER_RIGHTS/REF_GROUP or still has a
    sub group, measurement or characteristic; a FUNCTION that is left is named by a FUNCTION_LIST (of an AXIS_PTS,
    CHARACTERISTIC, MEASUREMENT or GROUP that is left) or still has content -/
theorem empty_groups_functions_removed (m : Module) (x : Node) (hx : x ∈ cleanup m) :
    (x.tag = "GROUP" → x.name ∈ targetsOf groupWL.usedSel (cleanup m) ∨ isEmpty groupWL x = false) ∧
    (x.tag = "FUNCTION" → x.name ∈ targetsOf functionWL.usedSel (cleanup m) ∨ isEmpty functionWL x = false) :=
  ⟨queueable_eq_false_iff.1 (post_cleanup (p := .queue groupWL) (i := 1) rfl m x hx),
    queueable_eq_false_iff.1 (post_cleanup (p := .queue functionWL) (i := 4) rfl m x hx)⟩

/-- **the model's fuel is never exhausted**: both work queues (`delete_empty_groups`, the function cleanup) are
    always drained, so the fuel-bounded `loop` of the model computes what the unbounded Rust `while let` computes,
    and the Rust loops terminate (the number of pops is bounded by `fuel`, see `work_queue_pops_exponential` for
    how large it can get). -/
theorem work_queues_drained (m : Module) : queuesDrained m = true := queuesDrained_true m

/-- **`cleanup` is idempotent**, for every module: no uniqueness of names, no `wellSited`, no other hypothesis. -/
theorem idempotent (m : Module) : cleanup (cleanup m) = cleanup m := by
  rw [cleanup_eq_runs m, cleanup_eq_runs]
  exact runs_idem pipeline_facts.1

theorem wellSited_filter {m : Module} (p : Node → Bool) (h : wellSited m = true) : wellSited (m.filter p) = true :=
  wellSited_iff.2 fun n hn => wellSited_iff.1 h n (List.mem_filter.1 hn).1

/-- a chain UNIT `u2` ← UNIT `u1` ← COMPU_METHOD `cm` ← MEASUREMENT, a conversion table, a record layout, a used and
    an empty group/function pair, plus unreferenced helpers of every kind and one dangling conversion -/
def sample : Module :=
  [⟨"UNIT", "u1", [⟨"RefUnit.unit", "u2"⟩]⟩, ⟨"UNIT", "u2", []⟩, ⟨"UNIT", "u3", [⟨"RefUnit.unit", "u2"⟩]⟩,
   ⟨"COMPU_METHOD", "cm", [⟨"RefUnit.unit", "u1"⟩, ⟨"CompuTabRef.conversion_table", "vt"⟩]⟩,
   ⟨"COMPU_METHOD", "cm_unused", [⟨"RefUnit.unit", "u3"⟩]⟩,
   ⟨"COMPU_VTAB", "vt", []⟩, ⟨"COMPU_TAB", "ct_unused", []⟩,
   ⟨"RECORD_LAYOUT", "rl", []⟩, ⟨"RECORD_LAYOUT", "rl_unused", []⟩,
   ⟨"MEASUREMENT", "me", [⟨"Measurement.conversion", "cm"⟩, ⟨"FunctionList.name_list", "f1"⟩]⟩,
   ⟨"MEASUREMENT", "me2", [⟨"Measurement.conversion", "missing"⟩]⟩,
   ⟨"CHARACTERISTIC", "ch", [⟨"Characteristic.deposit", "rl"⟩, ⟨"Characteristic.conversion", "cm"⟩]⟩,
   ⟨"FUNCTION", "f1", []⟩, ⟨"FUNCTION", "f2", [⟨"SubFunction.identifier_list", "f3"⟩]⟩, ⟨"FUNCTION", "f3", []⟩,
   ⟨"GROUP", "g1", [⟨"RefMeasurement.identifier_list", "me"⟩, ⟨"SubGroup.identifier_list", "g2"⟩]⟩,
   ⟨"GROUP", "g2", []⟩, ⟨"GROUP", "g3", []⟩,
   ⟨"USER_RIGHTS", "-", [⟨"RefGroup.identifier_list", "g3"⟩]⟩]

/-- Stated as one conjunction because the kernel then evaluates `cleanup sample` once, and `siteNs` once per
    reference of `sample`, not once per fact. -/
theorem sample_facts : cleanup sample =
  [⟨"UNIT", "u1", [⟨"RefUnit.unit", "u2"⟩]⟩, ⟨"UNIT", "u2", []⟩,
   ⟨"COMPU_METHOD", "cm", [⟨"RefUnit.unit", "u1"⟩, ⟨"CompuTabRef.conversion_table", "vt"⟩]⟩,
   ⟨"COMPU_VTAB", "vt", []⟩,
   ⟨"RECORD_LAYOUT", "rl", []⟩,
   ⟨"MEASUREMENT", "me", [⟨"Measurement.conversion", "cm"⟩, ⟨"FunctionList.name_list", "f1"⟩]⟩,
   ⟨"MEASUREMENT", "me2", []⟩,
   ⟨"CHARACTERISTIC", "ch", [⟨"Characteristic.deposit", "rl"⟩, ⟨"Characteristic.conversion", "cm"⟩]⟩,
   ⟨"FUNCTION", "f1", []⟩,
   ⟨"GROUP", "g1", [⟨"RefMeasurement.identifier_list", "me"⟩]⟩,
   ⟨"GROUP", "g3", []⟩,
   ⟨"USER_RIGHTS", "-", [⟨"RefGroup.identifier_list", "g3"⟩]⟩] ∧
    wellSited sample = true ∧ consistent sample = false ∧ consistent (cleanup sample) = true ∧
    consistent (sample.filter fun n => n.name != "me2") = true := by decide +kernel

example : cleanup sample =
  [⟨"UNIT", "u1", [⟨"RefUnit.unit", "u2"⟩]⟩, ⟨"UNIT", "u2", []⟩,
   ⟨"COMPU_METHOD", "cm", [⟨"RefUnit.unit", "u1"⟩, ⟨"CompuTabRef.conversion_table", "vt"⟩]⟩,
   ⟨"COMPU_VTAB", "vt", []⟩,
   ⟨"RECORD_LAYOUT", "rl", []⟩,
   ⟨"MEASUREMENT", "me", [⟨"Measurement.conversion", "cm"⟩, ⟨"FunctionList.name_list", "f1"⟩]⟩,
   ⟨"MEASUREMENT", "me2", []⟩,
   ⟨"CHARACTERISTIC", "ch", [⟨"Characteristic.deposit", "rl"⟩, ⟨"Characteristic.conversion", "cm"⟩]⟩,
   ⟨"FUNCTION", "f1", []⟩,
   ⟨"GROUP", "g1", [⟨"RefMeasurement.identifier_list", "me"⟩]⟩,
   ⟨"GROUP", "g3", []⟩,
   ⟨"USER_RIGHTS", "-", [⟨"RefGroup.identifier_list", "g3"⟩]⟩] := sample_facts.1

/-- the hypotheses of the theorems hold for the sample: well sited, queues drained; it is not consistent before
    (`me2` has a dangling conversion) and consistent afterwards -/
example : wellSited sample = true ∧ queuesDrained sample = true ∧ consistent sample = false ∧
    consistent (cleanup sample) = true :=
  ⟨sample_facts.2.1, queuesDrained_true sample, sample_facts.2.2.1, sample_facts.2.2.2.1⟩

/-- the same module without the dangling conversion is consistent, so `no_new_dangling` is not vacuous -/
example : consistent (sample.filter fun n => n.name != "me2") = true ∧
    wellSited (sample.filter fun n => n.name != "me2") = true :=
  ⟨sample_facts.2.2.2.2, wellSited_filter _ sample_facts.2.1⟩

/-- chain of `k + 1` groups, each listing the previous one twice as sub group; group 0 is empty -/
def chain (k : Nat) : Module :=
  (List.range (k + 1)).map fun i =>
    ⟨"GROUP", toString i,
      if i = 0 then [] else [⟨"SubGroup.identifier_list", toString (i - 1)⟩, ⟨"SubGroup.identifier_list", toString (i - 1)⟩]⟩

/-- **the work queue of `delete_empty_groups` pops an exponential number of indices**: an item is pushed once per
    entry naming a deleted item, and every pop of an empty item pushes its (empty) owners again. For the chain of
    `k + 1` groups there are `2^(k+1) - 1` pops (here k = 5: 63 pops for 6 groups); the same holds for
    SUB_FUNCTION. The result is still correct (all six groups are deleted). -/
theorem work_queue_pops_exponential :
    (runLoop groupWL (chain 5)).2.1.length = 63 ∧ (runLoop groupWL (chain 5)).2.2 = true ∧ cleanup (chain 5) = [] := by
  decide +kernel

end A2l.Cl
