import A2lVerif.Lemmas.Merge
/-! C08 — merge: what happens to A's nodes, to B's nodes and to the names (model `A2l.Mg.merge`). -/
namespace A2l.Mg

/-- C08.4 `fresh_terminates`: `make_unique_name` stops at candidate number `k ≤ |orig| + |merge| + 1` (the fuel
    `|orig| + |merge| + 2` of the model is never used up: every earlier candidate was taken, the `k`-th is free), and
    the name it returns is used neither in A's nor in B's namespace. -/
theorem fresh_terminates (c : String) (orig merge : List Node) :
    ∃ k, 1 ≤ k ∧ k ≤ orig.length + merge.length + 1 ∧ makeUniqueName c orig merge = mergeName c k ∧
      (∀ j, 1 ≤ j → j < k → nameTaken orig merge (mergeName c j) = true) ∧
      nameTaken orig merge (mergeName c k) = false ∧
      makeUniqueName c orig merge ∉ orig.map (·.name) ∧ makeUniqueName c orig merge ∉ merge.map (·.name) := by
  obtain ⟨k, h1, h2, h3, h4, h5⟩ := makeUniqueName_spec c orig merge
  exact ⟨k, h1, h2, h3, h5, h4, makeUniqueName_not_mem c orig merge⟩

/-- the result does not depend on the fuel once it exceeds `|orig| + |merge|` -/
theorem fresh_fuel_irrelevant (c : String) (orig merge : List Node) (fuel : Nat) (h : orig.length + merge.length + 1 ≤ fuel) :
    uniqueLoop (nameTaken orig merge) c fuel 1 = makeUniqueName c orig merge := by
  obtain ⟨k, h1, _, h3, h4, h5⟩ := uniqueLoop_nameTaken c orig merge fuel h
  obtain ⟨k', h1', _, h3', h4', h5'⟩ := makeUniqueName_spec c orig merge
  -- both runs stop at the least free candidate
  have : k = k' := by
    rcases Nat.lt_trichotomy k k' with hlt | he | hgt
    · have := h5' k h1 hlt; rw [h4] at this; cases this
    · exact he
    · have := h5 k' h1' hgt; rw [h4'] at this; cases this
  rw [h3, h3', this]

/-- the candidates are pairwise different, also across base names (injectivity of the renaming) -/
theorem fresh_injective {c₁ c₂ : String} {i j : Nat} (hi : 1 ≤ i) (hj : 1 ≤ j) (h : mergeName c₁ i = mergeName c₂ j) :
    c₁ = c₂ ∧ i = j := by
  have := mergeName_base_inj h
  subst this
  exact ⟨rfl, mergeName_inj hi hj h⟩

/-- C08.1 `a_preserved`: the result is `A' ++ new` where `A'` is A node by node: same tag and name; the references
    are unchanged except that FUNCTION and GROUP nodes may gain some at the end; the hash is unchanged except for a
    MOD_PAR that received parts of B's MOD_PAR (`"*"` = unknown). -/
theorem a_preserved (a b : Module) : ∃ A' new, merge a b = A' ++ new ∧ Pointwise Pres a A' :=
  ext_mergeSt a b

/-- in particular every node of A outside FUNCTION / GROUP / MOD_PAR is a node of the result, unchanged -/
theorem a_preserved_plain (a b : Module) (n : Node) (hn : n ∈ a) (h1 : n.tag ≠ "FUNCTION") (h2 : n.tag ≠ "GROUP")
    (h3 : n.tag ≠ "MOD_PAR") : n ∈ merge a b :=
  (ext_mergeSt a b).mem_plain hn ⟨h1, h2, h3⟩

theorem a_preserved_length (a b : Module) : a.length ≤ (merge a b).length := by
  obtain ⟨A', new, e, hp⟩ := ext_mergeSt a b
  show a.length ≤ (mergeSt a b).a.length
  rw [e, List.length_append, ← hp.length_eq]; omega

/-- C08.3 `names_unique`: names unique per namespace in A and in B ⟹ unique per namespace in the result -/
theorem names_unique (a b : Module) (ha : UniqueNames a) (hb : UniqueNames b) : UniqueNames (merge a b) :=
  (minv_mergeSt ha hb).ua

/-- C08.2 `b_represented`: (names unique per namespace in A and in B) every node `x` of B in one of the namespaces with
    `calculate_item_actions` (UNIT, COMPU_TAB/VTAB/VTAB_RANGE, COMPU_METHOD, RECORD_LAYOUT, the objects, the typedefs, FRAME,
    TRANSFORMER) has a representative `y` in the result with `x`'s tag and hash, whose name is `rep … x.name`: `x.name` itself
    or a fresh `x.name.MERGE<k>`; `y` carries `x`'s references after ALL renames (so it is identical to `x` as B's module
    finally describes it), and it is either a node of A with `x`'s name or an added node whose name is not a name of A's
    namespace. (Since fix c009b82 the comparison happens after all renames, in the last round of the fixpoint loops.) -/
theorem b_represented (a b : Module) (ha : UniqueNames a) (hb : UniqueNames b) (ns : Ns) (hns : ns.std)
    (x : Node) (hx : x ∈ b) (hxt : x.tag ∈ ns.tags) :
    ∃ y ∈ merge a b, y.tag = x.tag ∧ y.hash = x.hash ∧ y.name = rep (mergeSt a b).plans ns x.name ∧
      (y.name = x.name ∨ ∃ k, 1 ≤ k ∧ y.name = mergeName x.name k) ∧
      y.refs = (renAll (mergeSt a b).plans x).refs ∧
      ((y ∈ a ∧ y.name = x.name) ∨ y.name ∉ names ns a) := by
  have h := minv_mergeSt ha hb
  exact h.rep ns (std_mem_finalKeys hns) (tags_mem_finalMoved ns) x hx hxt

/-- the form that held of the code before fix c009b82: a representative taken from A is `renAll ps x` for a suffix `ps` of the
    log of plans. It follows from `b_represented` with `ps` = the whole log. -/
theorem b_represented_old_form (a b : Module) (ha : UniqueNames a) (hb : UniqueNames b) (ns : Ns) (hns : ns.std)
    (x : Node) (hx : x ∈ b) (hxt : x.tag ∈ ns.tags) :
    ∃ y ∈ merge a b, y.tag = x.tag ∧ y.hash = x.hash ∧ y.name = rep (mergeSt a b).plans ns x.name ∧
      (y.name = x.name ∨ ∃ k, 1 ≤ k ∧ y.name = mergeName x.name k) ∧
      ((y ∈ a ∧ y.name = x.name ∧ ∃ ps, ps <:+ (mergeSt a b).plans ∧ y = renAll ps x) ∨
       (y.name ∉ names ns a ∧ y.refs = (renAll (mergeSt a b).plans x).refs)) := by
  obtain ⟨y, hy, h1, h2, h3, h4, h5, h6⟩ := b_represented a b ha hb ns hns x hx hxt
  refine ⟨y, hy, h1, h2, h3, h4, ?_⟩
  rcases h6 with ⟨h6a, h6b⟩ | h6
  · exact .inl ⟨h6a, h6b, _, List.suffix_refl _, node_ext h1 h6b h2 h5⟩
  · exact .inr ⟨h6, h5⟩

/-- FUNCTION and GROUP are merged by name: every FUNCTION / GROUP of B has a node of its kind and name in the result
    (A's node of that name, possibly with more references, or B's node). More generally the own name of every named node of
    B stays defined in its namespace. -/
theorem b_represented_by_name (a b : Module) (ha : UniqueNames a) (hb : UniqueNames b) (ns : Ns)
    (x : Node) (hx : x ∈ b) (hxt : x.tag ∈ ns.tags) : ∃ z ∈ merge a b, z.tag ∈ ns.tags ∧ z.name = x.name := by
  have h := minv_mergeSt ha hb
  exact mem_names.mp (h.own ns (tags_mem_finalMoved ns) x hx hxt)

/-- Without unique names in B the statement is false in the namespaces with a single round (here COMPU_METHOD): of two
    B-elements with one name only the last decides whether "the name" is added; the first one (hash `h1`) is lost.
    In the namespaces with the loop the forcing step adds it (renamed) — and the second one once more under its old name. -/
theorem b_represented_counterexample :
    (let a : Module := [⟨"COMPU_METHOD", "x", "h2", []⟩]
     let b : Module := [⟨"COMPU_METHOD", "x", "h1", []⟩, ⟨"COMPU_METHOD", "x", "h2", []⟩]
     merge a b = a ∧ ¬ ∃ y ∈ merge a b, y.hash = "h1") ∧
    (let a : Module := [⟨"MEASUREMENT", "x", "h2", []⟩]
     let b : Module := [⟨"MEASUREMENT", "x", "h1", []⟩, ⟨"MEASUREMENT", "x", "h2", []⟩]
     merge a b = a ++ [⟨"MEASUREMENT", "x.MERGE", "h1", []⟩, ⟨"MEASUREMENT", "x", "h2", []⟩]) := by decide +kernel

/-- C08.5 `merge_empty_right` -/
theorem merge_empty_right (a : Module) : merge a [] = a := by
  have h : NoConflict (fun _ => false) a [] :=
    { single := fun t _ => by split <;> rfl
      modPar := fun _ _ h => nomatch h
      ifData := by split <;> rfl
      std := fun _ _ _ h => nomatch h
      byName := fun _ _ => Partners.nil ..
      userRights := Partners.nil .. }
  rw [merge_of_noConflict h, List.filter_nil, byKinds_nil, List.append_nil]

/-- C08.5 `merge_self` (names unique per namespace) -/
theorem merge_self (a : Module) (ha : UniqueNames a) : merge a a = a := by
  have hany : ∀ t, ¬ (a.any (·.tag == t) = true) → a.filter (·.tag == t) = [] := fun t h =>
    List.filter_eq_nil_iff.mpr fun x hx hq => h (List.any_eq_true.mpr ⟨x, hx, hq⟩)
  -- two nodes of one namespace with the same name are the same node
  have hname : ∀ (ns : Ns) (t : String), ns.tags = [t] →
      Partners (fun x y => y.tag == t && y.name == x.name) (fun x y => y = x) (fun _ => false) a (a.filter (·.tag == t)) :=
    fun ns t hns => partners_self (q := fun x y => y.name == x.name) (fun x => by simp) fun x hx y hy hxt hyt hq =>
      eq_of_unique (ha ns) hy hx (by simp [hns, hyt]) (by simp [hns, hxt]) (by simpa using hq)
  have h : NoConflict (fun _ => false) a a :=
    { single := fun t _ => by
        rw [filter_false_eq]
        split
        · rfl
        · rename_i h; rw [← List.head?_filter, hany t h]; rfl
      modPar := fun x y hx hy => Option.some.inj (hy.symm.trans hx)
      ifData := by
        rw [filter_false_eq]
        split
        · rfl
        · rename_i h; rw [hany _ h]
      std := fun ns _ x hx hxt => by
        have hnd : ((nsNodes ns a).map (·.name)).Nodup := (names_nsNodes_perm ns a).symm.nodup (ha ns)
        unfold isConflict
        rw [lookup_self_of_nodup hnd (mem_nsNodes.mpr ⟨hx, hxt⟩)]
        simp
      byName := fun t ht => by
        simp only [List.mem_cons, List.not_mem_nil, or_false] at ht
        rcases ht with rfl | rfl
        · exact hname .function _ rfl
        · exact hname .group _ rfl
      userRights := partners_self (q := fun x y => y.hash == x.hash) (fun x => by simp) fun _ _ _ _ _ _ _ => trivial }
  rw [merge_of_noConflict h, filter_false_eq, byKinds_nil, List.append_nil]

/-- without unique names `merge A A = A` fails: the second `x` is compared with the first one and marks the name `x` as
    "rename and add"; the first `x` of B takes the new name (`rename_table.remove`), the second is added under its old name -/
theorem merge_self_counterexample :
    let a : Module := [⟨"MEASUREMENT", "x", "h1", []⟩, ⟨"MEASUREMENT", "x", "h2", []⟩]
    merge a a = a ++ [⟨"MEASUREMENT", "x.MERGE", "h1", []⟩, ⟨"MEASUREMENT", "x", "h2", []⟩] := by decide +kernel

/-- C08.5 `merge_empty_left`: merging into the empty module gives B's nodes, kind by kind in the order of the passes
    (`finalMoved`), provided B is well-formed (`WellFormedB`). Nodes of kinds that `merge_modules` does not handle are dropped
    (they do not occur in `finalMoved`). -/
theorem merge_empty_left (b : Module) (hw : WellFormedB b) : merge [] b = byKinds finalMoved b := by
  have h : NoConflict (fun _ => true) [] b :=
    { single := fun t ht => by
        rw [← filter_true_eq]
        show _ = (b.find? (·.tag == t)).toList
        cases hf : b.find? (·.tag == t) with
        | none => exact List.filter_eq_nil_iff.mpr fun y hy hq => absurd hq (List.find?_eq_none.mp hf y hy)
        | some x => exact filter_single (hw.single t ht) hf
      modPar := fun _ _ _ h => nomatch h
      ifData := by rw [← filter_true_eq]; rfl
      std := fun ns _ x _ _ => by rw [nsNodes_nil]; exact ⟨rfl, rfl⟩
      byName := fun t ht => by
        simp only [List.mem_cons, List.not_mem_nil, or_false] at ht
        rcases ht with rfl | rfl
        · exact partners_empty ((List.pairwise_map.mp hw.fn).imp fun hne => by simp [hne])
        · exact partners_empty ((List.pairwise_map.mp hw.grp).imp fun hne => by simp [hne])
      userRights := partners_empty ((List.pairwise_map.mp hw.ur).imp fun hne => by simp [hne]) }
  rw [merge_of_noConflict h, ← filter_true_eq, List.nil_append]

/-- … so the result is a permutation of B when all kinds of B are handled -/
theorem merge_empty_left_perm (b : Module) (hw : WellFormedB b) (hk : ∀ n ∈ b, n.tag ∈ finalMoved) :
    (merge [] b).Perm b := by
  rw [merge_empty_left b hw]
  have := flatMap_filter_perm b finalMoved finalMoved_nodup
  refine this.trans (List.Perm.of_eq ?_)
  apply List.filter_eq_self.mpr
  intro n hn
  simpa [hasTag] using hk n hn

/-- the unrestricted statement is false: a second USER_RIGHTS with the same `user_level_id` (hash) is dropped, as is a
    second MOD_COMMON, and a kind unknown to `merge_modules` -/
theorem merge_empty_left_counterexample :
    merge [] [⟨"USER_RIGHTS", "", "h", []⟩, ⟨"USER_RIGHTS", "", "h", [⟨"RefGroup.identifier_list", "g"⟩]⟩] =
      [⟨"USER_RIGHTS", "", "h", []⟩] ∧
    merge [] [⟨"MOD_COMMON", "", "h1", []⟩, ⟨"MOD_COMMON", "", "h2", []⟩] = [⟨"MOD_COMMON", "", "h1", []⟩] ∧
    merge [] [⟨"FOO", "x", "h", []⟩] = [] := by decide +kernel

-- non-vacuity: a conflict in a shared namespace across kinds, with a pre-existing `x.MERGE`: the hypotheses hold and a
-- rename to `x.MERGE2` happens
set_option maxRecDepth 4000 in
example :
    let a : Module := [⟨"MEASUREMENT", "x", "h1", []⟩, ⟨"BLOB", "x.MERGE", "h0", []⟩]
    let b : Module := [⟨"CHARACTERISTIC", "x", "h2", []⟩, ⟨"FUNCTION", "f", "h3", [⟨"RefCharacteristic.identifier_list", "x"⟩]⟩]
    UniqueNames a ∧ UniqueNames b ∧
    merge a b = a ++ [⟨"CHARACTERISTIC", "x.MERGE2", "h2", []⟩,
                      ⟨"FUNCTION", "f", "h3", [⟨"RefCharacteristic.identifier_list", "x.MERGE2"⟩]⟩] :=
  by decide +kernel

/-! ### the fixpoint loops of `merge_unit`, `merge_objects`, `merge_transformer` -/

/-- `actions_fixpoint_terminates`: with the fuel `Σ |items of B in the namespaces of the loop| + 1` that `planLoop` passes,
    the loop ends by itself: it makes `k ≤ fuel` rounds (`loopRounds` counts them with the same fuel and does not return
    `none`), more fuel does not change the result, and the result is a fixpoint — computing the actions once more on the final
    merge module yields no rename that is not already in the accumulated table. -/
theorem actions_fixpoint_terminates (a b : Module) (nss : List Ns) (hn : nss.Nodup) :
    (∃ k, loopRounds a nss (loopFuel nss b) b (fun _ => []) = some k ∧ 1 ≤ k ∧ k ≤ loopFuel nss b) ∧
    (∀ extra, fixLoop a nss (loopFuel nss b + extra) b (fun _ => []) = fixLoop a nss (loopFuel nss b) b (fun _ => [])) ∧
    (∀ ns ∈ nss, ∀ k v,
      (calcActions (nsNodes ns a) (nsNodes ns (fixLoop a nss (loopFuel nss b) b (fun _ => [])).1)).ren.get k = some v →
      (((fixLoop a nss (loopFuel nss b) b (fun _ => [])).2 ns).ren.get k).isSome = true) := by
  have hfuel := loopMeasure_le_fuel b nss (fun _ => [])
  obtain ⟨hres, hirr, k, hk, h1, h2⟩ := fixLoop_run hn (loopFuel nss b) b (fun _ => []) (li_init a b nss) hfuel
  exact ⟨⟨k, hk, h1, by omega⟩, fun extra => hirr _ (by omega), hres.conf⟩

/-- the hypothesis `nss.Nodup` for the three lists that `mergeSt` passes to `planLoop`: UNIT; objects + typedefs; TRANSFORMER -/
theorem actions_fixpoint_terminates_used :
    [Ns.unit].Nodup ∧ [Ns.object, Ns.typedef].Nodup ∧ [Ns.transformer].Nodup := by decide +kernel

/-- `renamed_are_merged`: after the plan step of a loop every name in the rename table has action `true` (the forcing step),
    so an element whose references were redirected to a new name is merged under that name -/
theorem renamed_are_merged (nss : List Ns) (hn : nss.Nodup) (st : St) (ns : Ns) (hns : ns ∈ nss) (n : String)
    (h : (((planLoop nss st).plan ns).ren.get n).isSome = true) : ((planLoop nss st).plan ns).act.get n = some true := by
  have hres := (fixLoop_run hn (loopFuel nss st.b) st.b (fun _ => []) (li_init st.a st.b nss) (loopMeasure_le_fuel st.b nss _)).1
  rw [St.plan_planEntries (st := st) (st' := planLoop nss st) rfl, if_pos hns] at h ⊢
  rw [hres.act ns hns n, h]; rfl

/-- The forcing step is needed: here A's `u` refers to a (dangling) `v.MERGE`. Round 1 renames B's `u` and `v` (both
    differ from A's), which turns B's `u` into a twin of A's `u`: the last round (the second) gives `u` the action `false`,
    although the references to `u` were redirected to `u.MERGE`; the forcing step adds it. (A has a dangling reference
    here; the loop itself makes 2 rounds.) -/
theorem renamed_are_merged_needed :
    let a : Module := [⟨"UNIT", "u", "h", [⟨"RefUnit.unit", "v.MERGE"⟩]⟩, ⟨"UNIT", "v", "h1", []⟩]
    let b : Module := [⟨"UNIT", "u", "h", [⟨"RefUnit.unit", "v"⟩]⟩, ⟨"UNIT", "v", "h2", []⟩]
    let res := fixLoop a [.unit] (loopFuel [.unit] b) b (fun _ => [])
    loopRounds a [.unit] (loopFuel [.unit] b) b (fun _ => []) = some 2 ∧
    (res.2 .unit).ren.get "u" = some "u.MERGE" ∧
    (calcActions (nsNodes .unit a) (nsNodes .unit res.1)).act.get "u" = some false ∧
    (res.2 .unit).act.get "u" = some true ∧
    merge a b = a ++ [⟨"UNIT", "u.MERGE", "h", [⟨"RefUnit.unit", "v.MERGE"⟩]⟩, ⟨"UNIT", "v.MERGE", "h2", []⟩] :=
  by decide +kernel

end A2l.Mg
