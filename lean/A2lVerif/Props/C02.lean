import A2lVerif.Lemmas.PO.Compose
import A2lVerif.Lemmas.PO.Sample
import A2lVerif.Lemmas.PO.Counter2
import A2lVerif.Lemmas.PO.Shipped
import A2lVerif.Props.C01
import A2lVerif.Props.C03Table
import A2lVerif.Props.C06
import A2lVerif.Lemmas.PO.Fuel
/-!
# C02 — content preservation (and the gap of C01: values returned by the parser are well-formed)

"For every valid, include-free A2L document the text written after loading contains exactly the same sequence of
significant tokens as the input (every /begin, /end, keyword, identifier, string value and numeric value, in the same
order), differing only in whitespace, number and escape notation, the documented reordering of position-restricted
items, and comments that do not stand between block-level elements. […] a numeric literal that does not fit its field
must be diagnosed, never silently changed."

The theorems of the property, each the last step from the lemmas of `Lemmas/PO/*` (parser output), which stand on
`Lemmas/RT/*` (C01). Models:
`Model/Tree.lean` (`parseFile`, `writeFile`; in `parseVersion` the version tag is the identifier that `get_identifier`
returned, not the peeked token: a file that starts with a comment is accepted, as by the real code),
`Model/Scalars.lean`, `Model/Lex.lean`.

Scope: strict mode, include-free input, no A2ML / IF_DATA element.

## Hypotheses (each with the reason)

* `InOk e lx` — about the input tokens: strict mode; `sym` / `symText` (identifier tokens carry the interned symbol of
  their text and the symbol table gives the text back: the WRITER prints `symbols[arm.tag]`, the parser compared
  `tok.sym`); `fid` (no include file: `Canon` has no included comments / elements); `fl`, `numText` (float codec
  idempotent on its output, output is a number token — a codec that lets `1e999` through as `inf`, as `get_double` did
  before fix 1ba05af, has neither: `inf_not_reloadable` below); `identText`, `cmtText`,
  `lineCmt` (token shapes and "the token behind a `//` comment stands on a later line": facts about the tokenizer
  model; `inOk_of_written_stream` derives all of `InOk` for the written streams of Lemmas/RT, and `inOk_of_lexer`
  derives these three — and `sym`, `fid` — for the output of `Lex.tokenize` on any text, under `TextOk`; see
  "text-level front end" below).
* `tableOk`, `shapeOk`, `seqTblOk`, `TagsOk`, `RootOk` — about the grammar (all true of the shipped table:
  `shipped_grammar_hypotheses`):
  parameters are scalars / structs of scalars / arrays and sequences of these (what Lemmas/RT supports), an arm's block
  flag is its type's, a keyword type of an arm has no tagged part, tags are identifiers, no block of a non-special type
  is called `A2ML`, the root is a parameterless keyword whose version arm has the version type; `seqTblOk`: a sequence is
  the last parameter, and it is a sequence of identifiers, or its elements start with a number, or the element is a block
  whose sub-elements are blocks. For the driver's fuel (`needL_le_tokens`) also `arrTblOk`: no array of dimension 0.
* `NoSpecialOk` — no A2ML / IF_DATA element is loaded. `Canon` relates values of block types only, so a hypothesis "the
  special parsers return well-formed values" of the shape of `TypePost` cannot hold of a special parser that succeeds.
* `Obstacles`: `pos` (finding `reserved-order`; counterexample `reserved_order_model_differs` of C01), `last`
  (counterexample `last_param_offset_unstable` of C01). `seqTblOk` is needed by the PROOF in Lemmas/RT (`SeqStops`), not
  by the round trip: `seq_hypothesis_is_proof_artifact`.

## What is NOT proved

* anything about NON-strict loads that log a recoverable problem (the recoveries drop or skip input; C04 / C06);
  loads that log notices only are covered via C06: `content_preserved_quiet`, `save_reload_stable_quiet`;
* content preservation IN THE SAME ORDER when position-restricted items are out of order (`content_preserved` has the
  in-order case): the written stream is then a permutation, `content_preserved_perm : content_preserved_statement`. It
  follows from `content_preserved_up_to_sibling_order` (for EVERY reordering of siblings, `OT.SibL`, at every depth, the
  values of the written tokens are a permutation of the input values without the dropped comments) and
  `writer_order_is_sibling_permutation` (the order `stringify` produces, `Canon`, IS such a reordering of the input
  order); refinement `writer_order_is_position_reordering` (`OT.SibPL`): only position-restricted items change places,
  every other item keeps its index.
-/
namespace A2l.Tree
open A2l.G A2l.Sc

/-! ## vocabulary (definitions live in `Lemmas/PO/*`; restated by `rfl` / `Iff.rfl`) -/

example (e : Env) (a b : Nat) : seg e a b = (e.toks.toList.drop a).take (b - a) := rfl

/-- `ts` with some comment tokens deleted corresponds token by token to `ws` -/
example (lx : LexEnv) (t : PTok) (ts : List PTok) (ws : List WTok) (h6 : t.ty = 6) (h : TSim lx ts ws) :
    TSim lx (t :: ts) ws := TSim.skip t ts ws h6 h
example (lx : LexEnv) (t : PTok) (w : WTok) (ts : List PTok) (ws : List WTok) (h1 : TokSim lx t w) (h : TSim lx ts ws) :
    TSim lx (t :: ts) (w :: ws) := TSim.tok t w ts ws h1 h

/-- corresponding tokens: identifiers and comments the same text, `/begin` / `/end` the kind, strings the same unescaped
    value, numbers: what `add_integer` prints for what `get_integer` read, or what the float codec made of the token -/
example (lx : LexEnv) (t : PTok) (w : WTok) (ity : IntTy) (v : Int) (hex : Bool) (h0 : t.ty = 5) (hw : w.ty = 5)
    (hval : parseInt ity t.text = some (v, hex)) (htext : w.text = printInt ity v hex) : TokSim lx t w :=
  TokSim.int t w ity v hex h0 hw hval htext

/-- **the value of a token**, defined on tokens without reference to the parser -/
example (t : PTok) : tokVal t = (match t.ty with
    | 0 => .ident t.text
    | 1 => .begin_
    | 2 => .end_
    | 4 => .str (unescape (stripQuotes t.text))
    | 5 => .num (literalValue t.text) (decide (IsHexLit t.text)) t.fl
    | 6 => .cmt t.text
    | n => .other n) := rfl
example (toks : Array PTok) : valuesOf toks = toks.toList.map tokVal := rfl

/-- two values are the same: equal; for numbers: same integer value and notation, or same float value -/
example (l1 l2 : Option Int) (h1 h2 : Bool) (f1 f2 : Option (List Char)) :
    TV.same (.num l1 h1 f1) (.num l2 h2 f2) ↔ ((l1 = l2 ∧ h1 = h2 ∧ l1 ≠ none) ∨ (f1 = f2 ∧ f1 ≠ none)) := Iff.rfl

/-- `Pres inp out`: `out` is `inp` with some COMMENT values deleted, the others pairwise the same, in the same order -/
example (c : TV) (xs ys : List TV) (hc : c.isCmt = true) (h : Pres xs ys) : Pres (c :: xs) ys := Pres.drop c xs ys hc h
example (x y : TV) (xs ys : List TV) (hxy : TV.same x y) (h : Pres xs ys) : Pres (x :: xs) (y :: ys) :=
  Pres.keep x y xs ys hxy h

/-- the configuration of the well-formedness predicates of Lemmas/RT: the environment of the load with any token array -/
example (e : Env) (lx : LexEnv) (X : Array PTok) (ver : Nat) : mkC e lx X ver = ⟨{ e with toks := X }, lx, ver⟩ := rfl

example (code : List CodeEntry) (items : List OT) :
    OT.posAll code items = (PosSorted code items ∧ OT.posDeepL code items) := rfl

/-- the condition on what follows a sequence parameter: the part of `FieldOk` that `FieldWf` leaves out -/
example (c : RCfg) (of : ItemTy) (stop : List Nat) (rest : List WTok) :
    FieldSeqOk c (.seq of stop) rest = SeqStops c of stop (nextNC rest) := rfl

/-- `OT.ok` (Lemmas/RT) = what the parser checked + the condition behind sequences + position order + "a keyword is
    followed by a token" -/
theorem ok_of_parts (c : RCfg) (xs : List OT) (ind : Nat) (parms : List Arm) (pib : Bool) (rest : List WTok)
    (h1 : OT.wfL c parms pib xs) (h2 : OT.seqOkL c ind xs rest) (h3 : OT.posDeepL c.e.code xs)
    (h4 : OT.kwNextL ind xs rest) : OT.okL c ind parms pib xs rest :=
  OT.okL_of_wf c xs ind parms pib rest h1 h2 h3 h4

/-! ## the hypotheses are satisfiable: the sample file as input of a strict load -/

/-- `V 1 71` / `/begin P p "hi" ON` / ` /* c */` / `C 0x5` / `/end P` (version keyword; a block with an identifier, a
    string and an enum parameter, a comment and a repeating child keyword with a hex parameter): all hypotheses of the
    theorems below hold, the strict load succeeds, and the obstacles are absent -/
theorem sample_hypotheses :
    InOk SampleIn.eS Sample.lx ∧ tableOk SampleIn.eS.table SampleIn.eS.known = true ∧
    shapeOk SampleIn.eS.table = true ∧ seqTblOk SampleIn.eS.table = true ∧ TagsOk SampleIn.eS ∧ NoSpecialOk SampleIn.eS ∧
    RootOk SampleIn.eS Sample.rarms ∧ (∃ v s, parseFile 100 SampleIn.eS {} = .ok v s) ∧
    Obstacles SampleIn.eS Sample.items :=
  ⟨SampleIn.inOk, by decide, by decide, by decide, SampleIn.tagsOk, SampleIn.noSpecial,
    SampleIn.rootOk, SampleIn.parses, SampleIn.obstacles⟩

/-- the tokens of that environment are the parser tokens of the sample text (Lemmas/RT/Sample.lean: `Sample.text_items`) -/
example : SampleIn.eS.toks = (mkToks Sample.lx Sample.stream).toArray := rfl

/-- **the shipped grammar satisfies every table hypothesis** of the theorems below (kernel-checked on the regenerated
    table, Lemmas/PO/Shipped.lean): what remains to be assumed for a load with the shipped grammar are `InOk` (the tokens)
    and `NoSpecialOk` (no A2ML / IF_DATA element) -/
theorem shipped_grammar_hypotheses (e : Env) (ht : e.table = Shipped.table) (hs : e.symbols = symbols)
    (hk : e.known = shippedKnown) :
    tableOk e.table e.known = true ∧ shapeOk e.table = true ∧ seqTblOk e.table = true ∧ TagsOk e ∧
      RootOk e shippedRootArms := by
  refine ⟨by rw [ht, hk]; exact shipped_tableOk, by rw [ht]; exact shipped_shapeOk, by rw [ht]; exact shipped_seqTblOk,
    shipped_tagsOk ht hs, ⟨by rw [ht, hk]; exact shipped_root_lookup, ?_⟩⟩
  intro a ha htag
  have := List.all_eq_true.1 shipped_root_verArm a ha
  rw [hk] at htag ⊢
  simp only [Bool.or_eq_true, bne_iff_ne, ne_eq, beq_iff_eq] at this
  rcases this with h | h
  · exact absurd htag h
  · exact h

/-- `InOk` for the written streams of Lemmas/RT: every lexable stream whose identifiers the symbol table knows and whose
    numbers the float codec leaves alone; that line comments are followed by a line break (`hline`) is asked and not used,
    a lexable stream has it (`mkToksFrom_lineCmt`) -/
theorem inOk_of_written_stream {e : Env} {lx : LexEnv} {ws : List WTok} (hst : e.strict = true)
    (ht : e.toks = (mkToks lx ws).toArray) (hlex : StreamLex none ws)
    (hsym : ∀ w ∈ ws, w.ty = 0 → lx.symOf w.text ≠ noSym → symText e.symbols (lx.symOf w.text) = w.text)
    (hfl : ∀ w ∈ ws, w.ty = 5 → ∀ r, lx.flOf w.text = some r → lx.flOf r = some r ∧ NumText r)
    (hline : ∀ (i : Nat) (t t' : PTok), e.toks[i]? = some t → t.ty = 6 → isLineCmt t.text = true →
      e.toks[i + 1]? = some t' → t.line + countNewlines t.text < t'.line) : InOk e lx :=
  inOk_of_stream hst ht hlex hsym hfl

/-! ## theorem 3: integer literals -/

/-- **a literal that does not fit its field is diagnosed**: if the next significant token is the Number token `t` and
    its literal value `n` is below the minimum of the field type, or needs more bits than the field has, or (decimal
    notation) is above the maximum, then the parameter parser fails with `MalformedNumber` at the line of `t` — in
    both modes, for all eight integer types -/
theorem out_of_range_literal_rejected (fuel : Nat) (ctx : Ctx) (w : Nat) (e : Env) (s : PState) (t : PTok) (s1 : PState)
    (n : Int) (htok : expectToken ctx 5 e s = .ok t s1) (hv : literalValue t.text = some n)
    (hbad : n < (intTyOf w).min ∨ (2 ^ (intTyOf w).bits : Nat) ≤ n ∨ (¬ IsHexLit t.text ∧ (intTyOf w).max < n)) :
    parseItem (fuel + 1) ctx (.int w) e s = .err ⟨.malformedNumber, t.line⟩ s1 := by
  refine parseItem_int_err htok (int_overflow_diagnosed (intTyOf w) t.text n hv ?_)
  rcases hbad with h | h | ⟨h1, h2⟩
  · exact .inl h
  · exact .inr (.inl h)
  · refine .inr (.inr ⟨?_, h2⟩)
    split
    · rename_i x r _ heq _
      rw [heq] at h1
      exact h1
    · trivial

/-- `0x1FFFFFFFF` in a `u32` field (the literal that the pinned code truncated to `0xFFFFFFFF`): `MalformedNumber` at
    the line of the literal -/
example : (match parseItem 5 ⟨[], 0, 1⟩ (.int 6)
    { toks := #[⟨5, "0x1FFFFFFFF".toList, 7, 0, noSym, none⟩], strict := false, table := [] } {} with
    | .err d _ => decide (d = ⟨.malformedNumber, 7⟩) | _ => false) = true := by
  rw [toList_of_eq_ofList (s := "0x1FFFFFFFF") (by with_reducible rfl)]
  decide +kernel

/-- **an accepted literal is never changed**: the stored value is the literal's value (decimal), or the two's
    complement reading of the literal's magnitude, which fits the field width (hex); it is in range, and what the
    writer prints for it has the same literal value and the same notation -/
theorem accepted_literal_is_literal_value (fuel : Nat) (ctx : Ctx) (w : Nat) (e : Env) (s : PState) (v : Val) (s' : PState)
    (h : parseItem fuel ctx (.int w) e s = .ok v s') :
    ∃ t x hex off, OneTok e s t s' ∧ t.ty = 5 ∧ v = .int x hex off w ∧ (intTyOf w).inRange x ∧
      (hex = false → literalValue t.text = some x) ∧
      (hex = true → ∃ m : Nat, literalValue t.text = some (m : Int) ∧ m < 2 ^ (intTyOf w).bits ∧ x = wrapTo (intTyOf w) m) ∧
      literalValue (printInt (intTyOf w) x hex) = literalValue t.text ∧
      (IsHexLit (printInt (intTyOf w) x hex) ↔ IsHexLit t.text) := by
  obtain ⟨t, x, hex, off, o1, hty, rfl, hp⟩ := parseItem_int_inv h
  obtain ⟨a1, a2, -⟩ := int_value_preserved hp
  refine ⟨t, x, hex, off, o1, hty, rfl, parseInt_inRange _ _ _ _ hp, ?_, ?_, a1, a2⟩
  · intro hh; subst hh; exact (int_faithful_dec _ _ _ hp).1
  · intro hh; subst hh
    obtain ⟨m, h1, h2, h3, -, -⟩ := int_faithful_hex _ _ _ hp
    exact ⟨m, h1, h2, h3⟩

/-! ## theorem 1 and its fragments -/

/-- **fragment "fields"**: a parameter list the parser accepted (strict mode) is well-typed and corresponds to the
    consumed tokens; `ver` stays, ids are only consumed; a sequence of identifiers in last position ends in front of a
    token that ends it, in every written stream `rest` whose next significant token is the input's (`NextRel`) and, if
    it is an identifier, passes `get_identifier` (`FollowId`) -/
theorem fields_wellformed {e : Env} {lx : LexEnv} (hin : InOk e lx) (X : Array PTok) (ctx : Ctx) (fuel : Nat)
    (its : List ItemTy) (hits : ∀ it ∈ its, itemTyB e.table it = true) (s : PState) (fs : List Val) (s' : PState)
    (h : parseItems fuel ctx its e s = .ok fs s') :
    Adv2 s s' ∧ FieldsWf (mkC e lx X s.ver) its (fs.map normField) ∧
      (∀ ind, TSim lx (seg e s.pos s'.pos) (fieldsToks ind fs)) ∧ (∀ f ∈ fs, FieldLex f) ∧
      (∀ stop, its.getLast? = some (.seq .ident stop) → ∀ rest, NextRel (tailFrom e s'.pos) rest → FollowId rest →
        SeqStops (mkC e lx X s.ver) .ident stop (nextNC rest)) :=
  parseItems_post hin X ctx fuel its hits s fs s' h

/-- **fragments "tagged loop" and "node"**: what `T::parse` returns, for every fuel (`TypePost` / `NodeFacts` in
    `Lemmas/PO/Loop.lean`; the induction is `parse_goals`, `Lemmas/PO/Node.lean`) -/
theorem node_wellformed {e : Env} {lx : LexEnv} (hin : InOk e lx) (X : Array PTok) (hshape : shapeOk e.table = true)
    (htags : TagsOk e) (hns : NoSpecialOk e) (fuel ty : Nat) (ctx : Ctx) (off : Nat) (s : PState) (v : Val) (s' : PState)
    (h : parseType fuel ty ctx off e s = .ok v s') (hfid : ctx.fileid = 0) :
    ∃ info fields ch cm items isB its arms ht, v = .block ty info fields ch cm ∧
      NodeFacts (mkC e lx X s.ver) e ty ctx off s s' info fields ch cm items isB its arms ht :=
  (parse_goals hin X hshape htags hns fuel).1 ty ctx off s v s' h hfid

/-- the fields of `NodeFacts`, for the record -/
example {c : RCfg} {e : Env} {ty : Nat} {ctx : Ctx} {off : Nat} {s s' : PState} {info : Info} {fields : List Val}
    {ch : List (List Val)} {cm : List Cmt} {items : List OT} {isB : Bool} {its : List ItemTy} {arms : List Arm} {ht : Bool}
    (nf : NodeFacts c e ty ctx off s s' info fields ch cm items isB its arms ht) :
    e.table.lookup ty = some (.block isB its arms ht) ∧ FieldsWf c its (fields.map normField) ∧
    OT.wfL c arms isB items ∧ MultOk true arms items ∧ InOrder e (.block ty info fields ch cm) items ∧
    (OT.posAll e.code items → Canon e (.block ty info fields ch cm) items) ∧ OT.lexVL items ∧ OT.endOkL items ∧
    ((isB = true ∨ ht = false ∨ e.toks[s'.pos]? = none) → ∀ ind ind', TSim c.lx (seg e s.pos s'.pos)
      (fieldsToks ind' fields ++ (OT.toksL ind' items ++ closeToks ind ctx.element isB info.endOff))) :=
  ⟨nf.lookup, nf.fwf, nf.wfl, nf.mult, nf.ord, nf.canon, nf.lexv, nf.eokL, nf.sim⟩

/-- **theorem 1 as stated** (full strength): every value a strict `parse_file` returns has an ordered form with
    `Canon`, `StreamLex` and `Writable`. FALSE without the obstacles (module comment); `parse_output_canonical`
    proves it with `InOrder` unconditionally and `Canon` / `Writable` under the named obstacles. -/
def parse_output_canonical_statement : Prop :=
  ∀ (e : Env) (lx : LexEnv) (rarms : List Arm) (fuel : Nat) (v : Val) (s : PState),
    InOk e lx → tableOk e.table e.known = true → shapeOk e.table = true → seqTblOk e.table = true → TagsOk e →
    NoSpecialOk e → RootOk e rarms → parseFile fuel e {} = .ok v s →
    ∃ items ver, Canon e v items ∧ StreamLex none (OT.toksL 0 (OT.fixL false items)) ∧
      Writable (mkC e lx (mkToks lx (OT.toksL 0 (OT.fixL false items))).toArray ver) rarms (OT.fixL false items)

/-- **theorem 1**: for a strict load of an include-free file without A2ML / IF_DATA
    elements, the root value `v` has sub-elements `items` (in input order) such that
    * `v` stands in the order of `items` (`InOrder`), its layout offsets are 0;
    * the written stream `OT.toksL 0 (OT.fixL false items)` corresponds token by token to the whole input (`TSim`);
    * it is lexable (`StreamLex`: the hypothesis `hlex` of `save_reload_stable_partial`), and no offset has to be bumped
      behind a line comment (`OT.fixL false items = items`: every item behind a `//` comment stood on a later line, and
      so did the `/end` behind a `//` comment that is the last item of its block; where the last item is no `//` comment
      the writer's `ends_in_line_comment` says so, `end_offset_kept`);
    * if the position-restricted items stand in position order (`OT.posAll`): `Canon e v items` (hypothesis `hcan`);
    * if moreover the last top-level item is a block: `Writable` (hypothesis `hw`), for the configuration with ANY token
      array `X`.
    What is missing for `parse_output_canonical_statement`: exactly the two obstacle hypotheses. -/
theorem parse_output_canonical {e : Env} {lx : LexEnv} (hin : InOk e lx) (htab : tableOk e.table e.known = true)
    (hshape : shapeOk e.table = true) (hseqT : seqTblOk e.table = true) (htags : TagsOk e) (hns : NoSpecialOk e)
    {rarms : List Arm} (hroot : RootOk e rarms) {fuel : Nat} {v : Val} {s : PState} (h : parseFile fuel e {} = .ok v s) :
    ∃ items ver info ch cm, v = .block e.known.tyA2lFile info [] ch cm ∧ info.startOff = 0 ∧ info.endOff = 0 ∧
      InOrder e v items ∧ TSim lx e.toks.toList (OT.toksL 0 (OT.fixL false items)) ∧
      (OT.posAll e.code items → Canon e v items) ∧
      StreamLex none (OT.toksL 0 (OT.fixL false items)) ∧ OT.fixL false items = items ∧
      (∀ X, OT.posAll e.code items → LastIsBlock items → Writable (mkC e lx X ver) rarms (OT.fixL false items)) := by
  obtain ⟨items, ver, fp⟩ := parseFile_post hin #[] htab hshape htags hns hroot h rfl
  obtain ⟨info, ch, cm, hv, h1, h2⟩ := fp.val
  exact ⟨items, ver, info, ch, cm, hv, h1, h2, fp.ord, (fixL_of_filePost fp).symm ▸ fp.sim, fp.canon, streamLex_of_filePost fp,
    fixL_of_filePost fp,
    fun X hp hl => writable_of_filePost fp hin hseqT hroot ⟨hp, hl⟩ X⟩

/-- **the third obstacle of C01 is derived**: in the stream the writer emits for a strictly loaded file every sequence
    parameter is followed by a token that ends it (`SeqStops`, via `OT.seqOkL`) — `items`, `ver` as in
    `parse_output_canonical` (`FilePost` in `Lemmas/PO/ParseFile.lean` bundles what `parse_file` establishes) -/
theorem sequences_end_in_written_stream {e : Env} {lx : LexEnv} {X0 : Array PTok} {rarms : List Arm} {v : Val}
    {items : List OT} {ver : Nat} (htbl : seqTblOk e.table = true) (fp : FilePost e lx X0 rarms v items ver)
    (X : Array PTok) : OT.seqOkL (mkC e lx X ver) 0 (OT.fixL false items) [] :=
  seqOk_of_filePost htbl fp X

/-- what `parse_file` establishes (`FilePost`), for every token array `X` of the configuration -/
theorem parse_file_post {e : Env} {lx : LexEnv} (hin : InOk e lx) (X : Array PTok)
    (htab : tableOk e.table e.known = true) (hshape : shapeOk e.table = true) (htags : TagsOk e) (hns : NoSpecialOk e)
    {rarms : List Arm} (hroot : RootOk e rarms) {fuel : Nat} {v : Val} {s : PState} (h : parseFile fuel e {} = .ok v s) :
    ∃ items ver, FilePost e lx X rarms v items ver :=
  parseFile_post hin X htab hshape htags hns hroot h rfl

/-! ## theorem 2: content preservation -/

/-- **C02 as stated** (token level): the value sequence of the written tokens is that of the input tokens up to a
    permutation and up to dropped comments. The statement allows ANY permutation of the values; that only
    position-restricted items change places, within their tagged part, is `writer_order_is_position_reordering`. Proved:
    `content_preserved_perm` (below, with `writer_order_is_sibling_permutation`); in the case in which the
    position-restricted items are in order (`OT.posAll`) the permutation is the identity: `content_preserved`. -/
def content_preserved_statement : Prop :=
  ∀ (e : Env) (lx : LexEnv) (rarms : List Arm) (fuel : Nat) (v : Val) (s : PState),
    InOk e lx → tableOk e.table e.known = true → shapeOk e.table = true → TagsOk e → NoSpecialOk e → RootOk e rarms →
    parseFile fuel e {} = .ok v s →
    ∃ (items : List OT) (perm : List TV), Canon e v items ∧
      perm.Perm (valuesOf (mkToks lx (OT.toksL 0 (OT.fixL false items))).toArray) ∧ Pres (valuesOf e.toks) perm

/-- **theorem 2**: the value sequence (`valuesOf`, defined on token arrays without
    reference to the parser) of the parser tokens of the stream `OT.toksL 0 (OT.fixL false items)` is the value sequence
    of the WHOLE input token array with some comment values deleted (`Pres`): every `/begin`, `/end`, tag, identifier
    and enum value with its text, every string with its unescaped value, every number with its integer value and
    notation or its float value, every kept comment with its text, in the same order. `items` are the sub-elements of
    the loaded value in input order; if they stand in position order this stream is what the writer emits
    (`Canon` + `writer_text` of C01), and what the tokenizer reads back from the written text
    (`lexer_reads_written_text` of C01; the stream is lexable by `parse_output_canonical`). -/
theorem content_preserved {e : Env} {lx : LexEnv} (hin : InOk e lx) (htab : tableOk e.table e.known = true)
    (hshape : shapeOk e.table = true) (htags : TagsOk e) (hns : NoSpecialOk e) {rarms : List Arm} (hroot : RootOk e rarms)
    {fuel : Nat} {v : Val} {s : PState} (h : parseFile fuel e {} = .ok v s) :
    ∃ items, InOrder e v items ∧ (OT.posAll e.code items → Canon e v items) ∧
      Pres (valuesOf e.toks) (valuesOf (mkToks lx (OT.toksL 0 (OT.fixL false items))).toArray) := by
  obtain ⟨items, ver, fp⟩ := parse_file_post hin #[] htab hshape htags hns hroot h
  exact ⟨items, fp.ord, fp.canon, pres_of_filePost fp hin⟩

/-- token correspondence gives content preservation (any line numbers for the written tokens) -/
theorem sim_preserves_values {lx : LexEnv} {ts : List PTok} {ws : List WTok} (h : TSim lx ts ws)
    (hfl : ∀ t ∈ ts, t.ty = 5 → ∀ r, t.fl = some r → lx.flOf r = some r) (line : Nat) :
    Pres (ts.map tokVal) ((mkToksFrom lx line ws).map tokVal) :=
  h.pres hfl line

/-- **which comments are kept**: a comment the tagged loop of a BLOCK finds is stored with its text (and written);
    the tagged loop of a parent that is not a block (the root) drops it; comments in front of parameters, between
    `/begin` and the tag and around `/end` are skipped by `expect_token` (`TSim.skip` in the fragments above) -/
theorem comments_kept (fuel : Nat) (ctx : Ctx) (arms : List Arm) (pib : Bool) (ch : List (List Val)) (cm : List Cmt)
    (e : Env) (s : PState) (tok : PTok) (off : Nat)
    (h : getNextTagOrComment ctx e s = .ok (.comment tok off) { s with pos := s.pos + 1 }) :
    parseTagged (fuel + 1) ctx arms pib ch cm e s =
      (if pib then
        parseTagged fuel ctx arms pib ch (⟨tok.text, ctx.line, s.seqId + 1, off, tok.fileid ≠ 0⟩ :: cm) e
          { s with pos := s.pos + 1, seqId := s.seqId + 1 }
      else parseTagged fuel ctx arms pib ch cm e { s with pos := s.pos + 1 }) := by
  rw [parseTagged, bind_def, h]
  cases pib <;> rfl

/-- file-level comments and comments in front of parameters are dropped (`/* a */ V 1 /* b */ 71` loads strictly, the
    loaded value has no comment): `commentsDroppedCheck` = "`runParseFile` succeeds with a root value whose comment lists
    are all empty" (Lemmas/PO/Counter2.lean) -/
theorem comments_dropped_example : Counter2.commentsDroppedCheck = true := by decide +kernel

/-! ## theorem 4: save / reload stability for strict loads -/

/-- **theorem 4** (`save_reload_stable_strict`): `e` = environment of a strict first load (include-free, no A2ML /
    IF_DATA element) that succeeds with root value `v`. There are `items` (the sub-elements of `v` in input order) such
    that, if the two named obstacles are absent (`Obstacles e items`: position order, the file does not end in a
    keyword):
    1. the written text is the rendering of the stream `OT.toksL 0 (OT.fixL false items)` (every sufficient fuel);
    2. the tokenizer model reads that text back into exactly this stream (kinds, texts, line numbers);
    3. the second load succeeds (every sufficient fuel), the second write gives byte-identical text:
       `write(load(write(load t))) = write(load t)`, and the reloaded value equals `v` up to layout bookkeeping
       (`LayoutEq`: everything except `Info.line`, `Info.uid`, `Cmt.line`, `Cmt.uid`): `load(write(load t)) = load t`.
    This is `save_reload_stable_statement` of Props/C01.lean with "`v` is a parser output" discharged for strict mode;
    what remains are the hypotheses listed in the module comment.
    Trap: the statement says of `items` only `InOrder e v items`, which does not determine them (`InOrder` ignores a node
    whose arm index is out of range, so a list that is `InOrder` and not `LastIsBlock` always exists). The proof takes
    the items the parser read; a caller who needs that tie uses `parse_output_canonical` (`TSim` with the input,
    `Writable`) with `save_reload_stable_partial`, or `parse_file_post` with `roundTrip_of_filePost`. -/
theorem save_reload_stable_strict {e : Env} {lx : LexEnv} (hin : InOk e lx) (htab : tableOk e.table e.known = true)
    (hshape : shapeOk e.table = true) (hseqT : seqTblOk e.table = true) (htags : TagsOk e) (hns : NoSpecialOk e)
    {rarms : List Arm} (hroot : RootOk e rarms) {fuel : Nat} {v : Val} {s : PState} (h : parseFile fuel e {} = .ok v s) :
    ∃ items, InOrder e v items ∧ (Obstacles e items →
      (∃ F0, ∀ F, F0 ≤ F → writeFile e v F = renderToks (OT.toksL 0 (OT.fixL false items))) ∧
      (∃ ts, Lex.tokenize (encL (renderToks (OT.toksL 0 (OT.fixL false items)))).toArray = .ok ts ∧
        (ts.map (convTok lx (encL (renderToks (OT.toksL 0 (OT.fixL false items)))).toArray)).toArray =
          (mkToks lx (OT.toksL 0 (OT.fixL false items))).toArray) ∧
      (∀ fuel', OT.needL 0 (OT.fixL false items) + 20 ≤ fuel' →
        ∃ v' s', parseFile fuel' { e with toks := (mkToks lx (OT.toksL 0 (OT.fixL false items))).toArray } {} = .ok v' s' ∧
          (∃ F0, ∀ F, F0 ≤ F →
            writeFile { e with toks := (mkToks lx (OT.toksL 0 (OT.fixL false items))).toArray } v' F = writeFile e v F) ∧
          LayoutEq v v')) := by
  obtain ⟨items, ver, fp⟩ := parse_file_post hin #[] htab hshape htags hns hroot h
  exact ⟨items, fp.ord, roundTrip_of_filePost fp hin hseqT hroot⟩

theorem last_item_is_block_of_position_order {c : RCfg} {rarms : List Arm} {items : List OT}
    (hroot : rootPosB c.e.code rarms = true) (hwf : OT.wfL c rarms false items) (hmult : MultOk true rarms items)
    (hps : PosSorted c.e.code items) : LastIsBlock items := by
  intro o ho
  cases hb : o.isBlk with
  | true => rfl
  | false =>
    exfalso
    simp only [rootPosB, Bool.and_eq_true, List.all_eq_true, List.any_eq_true, Bool.or_eq_true, decide_eq_true_eq] at hroot
    obtain ⟨hconst, b, hbm, ⟨hbb, hbr⟩, hbl⟩ := hroot
    -- every item is a node of an arm: kind and position are those of the arm
    have hnode : ∀ x ∈ items, ∃ a ∈ rarms, x.isBlk = a.block ∧ x.pos c.e.code = constPos c.e.code a.ty ∧
        ∀ j, x.isArm j = true → rarms[j]? = some a := by
      intro x hx
      have hw := OT.wf_of_mem hwf x hx
      cases x with
      | cmt _ _ => simp [OT.wf] at hw
      | node arm tag blk ty so eo fields its =>
        simp only [OT.wf] at hw
        obtain ⟨a, _, _, _, h1, h2, _, h4, _⟩ := hw
        have ham := List.mem_of_getElem? h1
        obtain ⟨p, hp⟩ := Option.isSome_iff_exists.1 (hconst a ham)
        refine ⟨a, ham, h4, ?_, fun j hj => ?_⟩
        · rw [hp, ← h2]
          exact posRestrict_const hp _
        · rw [← beq_iff_eq.1 hj]
          exact h1
    -- the required block stands in front of the last item, which is a keyword
    obtain ⟨jb, hjb⟩ := List.getElem?_of_mem hbm
    obtain ⟨ob, hob⟩ := List.exists_mem_of_length_pos
      (Nat.pos_of_ne_zero fun h0 => nomatch ((hmult jb b hjb).2 hbr h0).2)
    obtain ⟨hobm, hobarm⟩ := List.mem_filter.1 hob
    obtain ⟨ab, -, kb, pb, armb⟩ := hnode ob hobm
    obtain rfl : ab = b := Option.some.inj ((armb jb hobarm).symm.trans hjb)
    obtain ⟨ao, haom, ko, po, -⟩ := hnode o (List.mem_of_getLast? ho)
    obtain ⟨init, hinit⟩ := List.getLast?_eq_some_iff.1 ho
    have hobi : ob ∈ init := by
      rw [hinit] at hobm
      rcases List.mem_append.1 hobm with h | h
      · exact h
      · rw [List.mem_singleton.1 h, hb, hbb] at kb
        cases kb
    obtain ⟨qb, hqb⟩ := Option.isSome_iff_exists.1 (hconst ab hbm)
    obtain ⟨qa, hqa⟩ := Option.isSome_iff_exists.1 (hconst ao haom)
    have hlt : qa < qb := by
      have := hbl ao haom
      rw [← ko, hb, hqa, hqb] at this
      simpa using this
    rw [hqb] at pb
    rw [hqa] at po
    unfold PosSorted at hps
    rw [hinit, List.filter_append, List.pairwise_append] at hps
    have := hps.2.2 ob (List.mem_filter.2 ⟨hobi, by rw [pb]; rfl⟩) o
      (List.mem_filter.2 ⟨List.mem_singleton_self _, by rw [po]; rfl⟩)
    rw [pb, po] at this
    exact absurd this (Nat.not_le_of_lt hlt)

/-- **theorem 4 with position order as the only obstacle**, for grammars whose top-level items are position-restricted
    by constants with a required block behind all keywords (`rootPosB`: `ASAP2_VERSION` 1, `A2ML_VERSION` 2, `PROJECT` 3
    in the shipped grammar, `shipped_root_positions`): a strictly loaded file whose items stand in position order ends
    in that block -/
theorem save_reload_stable_strict_pos {e : Env} {lx : LexEnv} (hin : InOk e lx) (htab : tableOk e.table e.known = true)
    (hshape : shapeOk e.table = true) (hseqT : seqTblOk e.table = true) (htags : TagsOk e) (hns : NoSpecialOk e)
    {rarms : List Arm} (hroot : RootOk e rarms) (hrp : rootPosB e.code rarms = true) {fuel : Nat} {v : Val} {s : PState}
    (h : parseFile fuel e {} = .ok v s) :
    ∃ items, InOrder e v items ∧ (OT.posAll e.code items →
      (∃ F0, ∀ F, F0 ≤ F → writeFile e v F = renderToks (OT.toksL 0 (OT.fixL false items))) ∧
      (∃ ts, Lex.tokenize (encL (renderToks (OT.toksL 0 (OT.fixL false items)))).toArray = .ok ts ∧
        (ts.map (convTok lx (encL (renderToks (OT.toksL 0 (OT.fixL false items)))).toArray)).toArray =
          (mkToks lx (OT.toksL 0 (OT.fixL false items))).toArray) ∧
      (∀ fuel', OT.needL 0 (OT.fixL false items) + 20 ≤ fuel' →
        ∃ v' s', parseFile fuel' { e with toks := (mkToks lx (OT.toksL 0 (OT.fixL false items))).toArray } {} = .ok v' s' ∧
          (∃ F0, ∀ F, F0 ≤ F →
            writeFile { e with toks := (mkToks lx (OT.toksL 0 (OT.fixL false items))).toArray } v' F = writeFile e v F) ∧
          LayoutEq v v')) := by
  obtain ⟨items, ver, fp⟩ := parse_file_post hin #[] htab hshape htags hns hroot h
  exact ⟨items, fp.ord, fun hpos => roundTrip_of_filePost fp hin hseqT hroot
    ⟨hpos, last_item_is_block_of_position_order (c := mkC e lx #[] ver) hrp fp.wf fp.mult hpos.1⟩⟩

/-- the shipped code table has this shape -/
theorem shipped_root_positions : rootPosB Shipped.code shippedRootArms = true := by decide +kernel

/-! ## non-strict loads that report notices only -/

/-- **theorems 2 and 4 for a NON-strict load whose log holds deprecation notices only** (`IsNotice`): by C06
    (`clean_nonstrict_implies_strict_file`; `hsp`, `hsp'`: its hypotheses about the `special` parsers) the strict load of
    the same tokens succeeds with the same value, so everything above applies to it. Stated for `strictOf e` = `e` with
    `strict := true` (the writer does not look at `strict`). -/
theorem quiet_nonstrict_load_is_strict_load (e : Env) (hsp : SpecialSim e) (hsp' : SpecialSimMore e) (v : Val) (s : PState)
    (h : runParseFile (nonStrict e) = .ok v s) (hclean : ∀ d ∈ s.log, IsNotice d) :
    parseFile (4 * e.toks.size + 64) (strictOf e) {} = .ok v s :=
  clean_nonstrict_implies_strict_file e hsp hsp' v s h hclean

theorem content_preserved_quiet {e : Env} {lx : LexEnv} (hsp : SpecialSim e) (hsp' : SpecialSimMore e)
    (hin : InOk (strictOf e) lx) (htab : tableOk e.table e.known = true) (hshape : shapeOk e.table = true)
    (htags : TagsOk (strictOf e)) (hns : NoSpecialOk (strictOf e)) {rarms : List Arm} (hroot : RootOk (strictOf e) rarms)
    {v : Val} {s : PState} (h : runParseFile (nonStrict e) = .ok v s) (hclean : ∀ d ∈ s.log, IsNotice d) :
    ∃ items, InOrder (strictOf e) v items ∧ (OT.posAll e.code items → Canon (strictOf e) v items) ∧
      Pres (valuesOf e.toks) (valuesOf (mkToks lx (OT.toksL 0 (OT.fixL false items))).toArray) :=
  content_preserved (e := strictOf e) hin htab hshape htags hns hroot
    (quiet_nonstrict_load_is_strict_load e hsp hsp' v s h hclean)

theorem save_reload_stable_quiet {e : Env} {lx : LexEnv} (hsp : SpecialSim e) (hsp' : SpecialSimMore e)
    (hin : InOk (strictOf e) lx) (htab : tableOk e.table e.known = true) (hshape : shapeOk e.table = true)
    (hseqT : seqTblOk e.table = true) (htags : TagsOk (strictOf e)) (hns : NoSpecialOk (strictOf e)) {rarms : List Arm}
    (hroot : RootOk (strictOf e) rarms) {v : Val} {s : PState} (h : runParseFile (nonStrict e) = .ok v s)
    (hclean : ∀ d ∈ s.log, IsNotice d) :
    ∃ items, InOrder (strictOf e) v items ∧ (Obstacles (strictOf e) items →
      (∃ F0, ∀ F, F0 ≤ F → writeFile (strictOf e) v F = renderToks (OT.toksL 0 (OT.fixL false items))) ∧
      (∀ fuel', OT.needL 0 (OT.fixL false items) + 20 ≤ fuel' →
        ∃ v' s', parseFile fuel' { strictOf e with toks := (mkToks lx (OT.toksL 0 (OT.fixL false items))).toArray } {} =
            .ok v' s' ∧
          (∃ F0, ∀ F, F0 ≤ F →
            writeFile { strictOf e with toks := (mkToks lx (OT.toksL 0 (OT.fixL false items))).toArray } v' F =
              writeFile (strictOf e) v F))) := by
  obtain ⟨items, hord, hob⟩ := save_reload_stable_strict (e := strictOf e) hin htab hshape hseqT htags hns hroot
    (quiet_nonstrict_load_is_strict_load e hsp hsp' v s h hclean)
  refine ⟨items, hord, fun ob => ?_⟩
  obtain ⟨r1, -, r3⟩ := hob ob
  refine ⟨r1, fun fuel' hf => ?_⟩
  obtain ⟨v', s', p1, p2, -⟩ := r3 fuel' hf
  exact ⟨v', s', p1, p2⟩

/-! ## the obstacles: what each one is, and why it is a hypothesis -/

example (e : Env) (items : List OT) (h : Obstacles e items) : OT.posAll e.code items ∧ LastIsBlock items := ⟨h.pos, h.last⟩

/-- NOT an obstacle: the end offsets. The writer writes the `/end` of a block with offset 1
    instead of 0 if `ends_in_line_comment` holds of the block's text (`OT.fixEo`). For a loaded element this never changes
    the recorded offset: behind a `//` comment as last item the parser recorded an offset ≥ 1 (`OT.endOk`, from the
    token lines), and otherwise `ends_in_line_comment` — which is exact on lexable content, `ends_in_line_comment_exact`
    of Props/C01.lean — answers "no" -/
theorem end_offset_kept (blk : Bool) (eo : Nat) (fields : List Val) (items : List OT) (hf : ∀ f ∈ fields, FieldLex f)
    (hw : OT.lexWL items)
    (he : blk = true → ∀ text off, items.getLast? = some (.cmt text off) → isLineCmt text = true → 1 ≤ eo) :
    OT.fixEo blk eo fields (OT.fixL false items) = eo :=
  fixEo_of_endOk blk eo fields items hf hw he

/-- no offset is bumped for loaded items: start offsets (`OT.noBumpL`), end offsets (`OT.endOkL`) -/
theorem no_offset_bumped (xs : List OT) (alc : Bool) (h : OT.noBumpL alc xs) (hw : OT.lexWL xs) (he : OT.endOkL xs) :
    OT.fixL alc xs = xs :=
  fixL_of_noBump xs alc h hw he

def eoCmt : List Char := " /* a\n // b */".toList

/-- the input on which `ends_in_line_comment` fired spuriously before fix 0390df2, when it looked at the last line only
    (a block whose content ends with the block comment `/* a⏎ // b */` and whose `/end` stands on the same line): the
    exact scan answers "no", the `/end` recorded with offset 0 is written with offset 0, nothing is bumped -/
theorem block_comment_tail_not_bumped :
    OT.endsLC [] [.cmt eoCmt 0] = false ∧
    OT.fixL false [.node 0 ['B'] true 0 0 0 [] [.cmt eoCmt 0]] = [.node 0 ['B'] true 0 0 0 [] [.cmt eoCmt 0]] ∧
    renderToks (OT.toksL 0 [.node 0 ['B'] true 0 0 0 [] [.cmt eoCmt 0]]) = " /begin B /* a\n // b */ /end B".toList := by
  have he : eoCmt = [' ', '/', '*', ' ', 'a', '\n', ' ', '/', '/', ' ', 'b', ' ', '*', '/'] :=
    toList_of_eq_ofList (by with_reducible rfl)
  have h : OT.endsLC [] [.cmt eoCmt 0] = false := by rw [he]; decide +kernel
  have h1 : isLineCommentText eoCmt = false := by rw [he]; decide +kernel
  refine ⟨h, ?_, ?_⟩
  · simp [OT.fixL, OT.fixEo, bumpOff, h, h1]
  · rw [he, toList_of_eq_ofList (s := " /begin B /* a\n // b */ /end B") (by with_reducible rfl)]
    decide +kernel

/-- `Obstacles.pos` is needed: finding `reserved-order` (`R 2 R 1` is written as ` R 1 R 2`; the significant tokens
    change their order and the reloaded model differs) — `reserved_order_model_differs` of Props/C01.lean -/
example : (∃ s, runParseFile (Counter.rEnv Counter.rToks1) = .ok Counter.rV1 s) ∧
    writeFile (Counter.rEnv Counter.rToks1) Counter.rV1 50 = " R 1 R 2".toList ∧
    (∃ s, runParseFile (Counter.rEnv Counter.rToks2) = .ok Counter.rV2 s) ∧ ¬ LayoutEq Counter.rV1 Counter.rV2 :=
  reserved_order_model_differs

/-- `Obstacles.last` is needed: a file that ends in a keyword parameter (with the shipped grammar only one whose items are
    out of position order, e.g. `A2ML_VERSION` behind `PROJECT`: `save_reload_stable_strict_pos`) is not a fixpoint after
    the first write — `last_param_offset_unstable` of Props/C01.lean -/
example : (∃ s, runParseFile (Counter.qEnv Counter.qToks1) = .ok Counter.qV1 s) ∧
    writeFile (Counter.qEnv Counter.qToks1) Counter.qV1 50 = "\n\nK 1".toList ∧
    (∃ s, runParseFile (Counter.qEnv Counter.qToks2) = .ok Counter.qV2 s) ∧
    writeFile (Counter.qEnv Counter.qToks2) Counter.qV2 50 = "\n\nK\n\n  1".toList :=
  last_param_offset_unstable

/-- the table hypothesis `seqTblOk` ("a sequence is the last parameter, …") is needed by the PROOF (Lemmas/RT reads a
    written sequence back only if the next token is of another kind or a stop tag: `SeqStops`), not by the round trip:
    `V 1 71 K 1 2 300` with `K (<u8>)* <u16>` loads strictly (the sequence ends because `300` does not fit `u8`, the error
    is swallowed, the `u16` parameter reads it), but `SeqStops` is false for the written stream, whatever follows -/
theorem seq_hypothesis_is_proof_artifact :
    Counter2.okB (runParseFile (Counter2.sEnv Counter2.sToks)) = true ∧ seqTblOk Counter2.sTbl = false ∧
    ∀ (X : Array PTok) (off ind : Nat) (rest : List WTok),
      ¬ FieldSeqOk (mkC (Counter2.sEnv Counter2.sToks) Counter2.sLx X 6) (.seq (.int 4) [])
        (⟨5, ['3', '0', '0'], off, ind⟩ :: rest) :=
  ⟨by decide +kernel, by decide, fun X off ind rest => by simp [FieldSeqOk, SeqStops, nextNC, firstTy, firstTyS]⟩

/-- `InOk.fl` / `InOk.numText` are needed (the float codec is a parameter of the model): with a codec that turns `1e999`
    into `inf`, as `get_double` did before fix 1ba05af (it rejects a value that is not finite since), `F 1e999` loads
    strictly, the writer prints the float text `inf` verbatim, `inf` is not a number text, and the tokens of
    ` V 1 71 F inf` are rejected (`UnexpectedTokenType`) -/
theorem inf_not_reloadable :
    Counter2.okB (runParseFile (Counter2.fEnv Counter2.fToks1)) = true ∧
    (∀ (e : Env) (F indent off : Nat),
      writeItem (F + 1) e indent (.dbl "inf".toList off) = addWhitespace indent off ++ "inf".toList) ∧
    ¬ NumText "inf".toList ∧
    Counter2.errKind (runParseFile (Counter2.fEnv Counter2.fToks2)) = some .unexpectedTokenType := by
  refine ⟨by decide +kernel, fun _ _ _ _ => rfl, ?_, by decide +kernel⟩
  rintro ⟨c, cs, h, -, h1, -⟩
  have : c = 'i' := by
    have := congrArg List.head? h
    simpa using this.symm
  subst this
  revert h1
  decide

/-! ## text-level front end: the tokenizer facts of `InOk` from `Model/Lex.lean` -/

example (b : Lex.Bytes) (p : UInt8 → Bool) (a e : Nat) :
    Lex.AllIn b p a e = ∀ q, a ≤ q → q < e → ∃ c, b[q]? = some c ∧ p c = true := rfl
example (b : Lex.Bytes) (t : Lex.Token) : Lex.LineC b t =
    (t.ttype = .comment ∧ ∃ st, t.startpos ≤ st ∧ Lex.AllIn b (· == 32) t.startpos st ∧ b[st]? = some 47 ∧
      b[st + 1]? = some 47 ∧ st + 2 ≤ t.endpos ∧ t.endpos ≤ b.size ∧ Lex.AllIn b (· != 10) (st + 1) t.endpos) := rfl
example (b : Lex.Bytes) (t : Lex.Token) : Lex.BlockC b t =
    (t.ttype = .comment ∧ ∃ st, t.startpos ≤ st ∧ Lex.AllIn b (· == 32) t.startpos st ∧ st ≤ t.endpos ∧
      t.endpos ≤ b.size ∧ Lex.BlockCore (b.extract st t.endpos).toList) := rfl
example (toks : List Lex.Token) : Lex.HasInc toks = ∃ t ∈ toks, t.ttype = .include := rfl

/-- **shapes of the tokens `tokenize_core` produces** (all inputs): an identifier token is a non-empty run of identifier
    characters — unless an `/include` token occurs (the word behind it is a path) or its first byte is not a letter or
    `_` (`stepNumber` makes identifier tokens of `-xyz`, `1z`); a comment token is a `//` comment without line break
    or a block comment up to its first `*/`, behind blanks; every token behind a `//` comment is on a later line. -/
theorem lexer_token_shapes (b : Lex.Bytes) (ts : List Lex.Token) (h : Lex.tokenize b = .ok ts) :
    (∀ t ∈ ts, t.ttype = .identifier → Lex.HasInc ts ∨
      (∃ c, b[t.startpos]? = some c ∧ (Lex.isAlpha c || c == 95) = false) ∨
      (Lex.AllIn b Lex.isIdentChar t.startpos t.endpos ∧ t.startpos < t.endpos ∧ t.endpos ≤ b.size)) ∧
    (∀ t ∈ ts, t.ttype = .comment → Lex.LineC b t ∨ Lex.BlockC b t) ∧
    ts.Pairwise (fun a c => Lex.LineC b a → a.line < c.line) :=
  have hs := Lex.tokenize_shapes b ts h
  ⟨fun t ht => (hs.shapes t ht).ident, fun t ht => (hs.shapes t ht).cmt, hs.lcp⟩

example : Lex.tokenize SampleText.bytes = .ok SampleText.ts := SampleText.lexes

/-- what is assumed about the text beside "the tokenizer accepts it" -/
example (bytes : Lex.Bytes) (ts : List Lex.Token) : TextOk bytes ts ↔
    ((∀ t ∈ ts, t.ttype ≠ .include) ∧
     (∀ t ∈ ts, t.ttype = .identifier → ∀ c, bytes[t.startpos]? = some c → (Lex.isAlpha c || c == 95) = true) ∧
     (∀ t ∈ ts, t.ttype = .comment → ∃ text, (bytes.extract t.startpos t.endpos).toList = encL text)) :=
  ⟨fun h => ⟨h.1, h.2, h.3⟩, fun h => ⟨h.1, h.2.1, h.2.2⟩⟩

/-- **`TextOk.identFirst` is needed**: `-xyz` is ONE identifier token (so are `1z`, `5_a`), `get_identifier` accepts it
    in strict mode (it rejects a leading digit only), and its text is not `IdentText` -/
theorem minus_word_is_identifier_token :
    Lex.tokenize #[45, 120, 121, 122] = .ok [⟨.identifier, 0, 4, 1⟩] ∧
    ¬ IdentText (convTok Sample.lx #[45, 120, 121, 122] ⟨.identifier, 0, 4, 1⟩).text := by
  have h1 : Lex.tokenize #[45, 120, 121, 122] = .ok [⟨.identifier, 0, 4, 1⟩] := by decide +kernel
  refine ⟨h1, ?_⟩
  have : (convTok Sample.lx #[45, 120, 121, 122] ⟨.identifier, 0, 4, 1⟩).text = ['-', 'x', 'y', 'z'] := by decide +kernel
  rw [this]
  rintro ⟨c, cs, h, -, hc⟩
  cases h
  revert hc; decide

/-- **the tokenizer facts of `InOk` hold of the tokenizer's output** (`identText`, `cmtText`, `lineCmt`; `sym` and `fid`
    by construction of `convTok`). What remains to be assumed: strict mode, `TextOk`, the symbol table (`symText`) and
    the float codec (`fl`, `numText`). -/
theorem inOk_of_lexer (e : Env) (lx : LexEnv) (bytes : Lex.Bytes) (ts : List Lex.Token)
    (h : Lex.tokenize bytes = .ok ts) (htext : TextOk bytes ts)
    (htoks : e.toks = (ts.map (convTok lx bytes)).toArray) (hstrict : e.strict = true)
    (hsym : ∀ (i : Nat) (t : PTok), e.toks[i]? = some t → t.ty = 0 → t.sym ≠ noSym → symText e.symbols t.sym = t.text)
    (hfl : ∀ (i : Nat) (t : PTok) (r : List Char), e.toks[i]? = some t → t.ty = 5 → t.fl = some r →
      lx.flOf r = some r ∧ NumText r) : InOk e lx := by
  have hget : ∀ (i : Nat) (t : PTok), e.toks[i]? = some t → ∃ tk, ts[i]? = some tk ∧ t = convTok lx bytes tk := by
    intro i t hi
    rw [htoks] at hi
    simp only [List.getElem?_toArray, List.getElem?_map, Option.map_eq_some_iff] at hi
    obtain ⟨tk, h1, h2⟩ := hi
    exact ⟨tk, h1, h2.symm⟩
  refine ⟨hstrict, ?_, hsym, ?_, fun i t r a b c => (hfl i t r a b c).1, ?_, ?_, fun i t r a b c => (hfl i t r a b c).2, ?_⟩
  · intro i t hi hty
    obtain ⟨tk, -, rfl⟩ := hget i t hi
    exact if_pos hty
  · intro i t hi
    obtain ⟨tk, -, rfl⟩ := hget i t hi
    rfl
  · intro i t hi hty
    obtain ⟨tk, h1, rfl⟩ := hget i t hi
    have hk : tk.ttype = .identifier := by
      have : Lex.tokCode tk.ttype = 0 := hty
      revert this
      cases tk.ttype <;> simp [Lex.tokCode]
    exact lexer_identText h htext lx tk (List.mem_of_getElem? h1) hk
  · intro i t hi hty
    obtain ⟨tk, h1, rfl⟩ := hget i t hi
    exact (lexer_cmt h htext lx tk (List.mem_of_getElem? h1) (Lex.tokCode_eq_six.1 hty)).1
  · intro i t t' hi hty hl hi'
    obtain ⟨tk, h1, rfl⟩ := hget i t hi
    obtain ⟨tk', h2, rfl⟩ := hget (i + 1) t' hi'
    exact lexer_lineCmt h htext lx i tk tk' h1 h2 (Lex.tokCode_eq_six.1 hty) hl

/-- the three facts on their own -/
theorem lexer_tokens_wellshaped {bytes : Lex.Bytes} {ts : List Lex.Token} (h : Lex.tokenize bytes = .ok ts)
    (htext : TextOk bytes ts) (lx : LexEnv) :
    (∀ tk ∈ ts, tk.ttype = .identifier → IdentText (convTok lx bytes tk).text) ∧
    (∀ tk ∈ ts, tk.ttype = .comment → CommentText (convTok lx bytes tk).text) ∧
    (∀ (i : Nat) (tk tk' : Lex.Token), ts[i]? = some tk → ts[i + 1]? = some tk' → tk.ttype = .comment →
      isLineCmt (convTok lx bytes tk).text = true →
      tk.line + countNewlines (convTok lx bytes tk).text < tk'.line) :=
  ⟨lexer_identText h htext lx, fun tk htk hty => (lexer_cmt h htext lx tk htk hty).1, lexer_lineCmt h htext lx⟩

/-- non-vacuity: the sample text satisfies the hypotheses of `inOk_of_lexer`; its converted tokens are the token array
    of `SampleIn.eS` (`sample_hypotheses`) -/
theorem sample_text_hypotheses :
    Lex.tokenize SampleText.bytes = .ok SampleText.ts ∧ TextOk SampleText.bytes SampleText.ts ∧
    SampleIn.eS.toks = (SampleText.ts.map (convTok Sample.lx SampleText.bytes)).toArray ∧
    arrTblOk SampleIn.eS.table = true ∧ (∃ v s, runParseFile SampleIn.eS = .ok v s) :=
  ⟨SampleText.lexes, SampleText.textOk, SampleText.toks_eq, by decide, SampleText.runs⟩

/-! ## the driver's fuel -/

/-- **the fuel of `runParseFile` suffices to read a written stream back**: for well-formed items (`OT.wfL`: what the
    parser returns, `node_wellformed`) over a table in which sequences are last and arrays are not empty, the fuel bound
    `OT.needL` of the read-back theorems is at most `3 · tokens + 13`; so `needL + 20 ≤ 4 · tokens + 64`. -/
theorem needL_le_tokens (c : RCfg) (hs : seqTblOk c.e.table = true) (ha : arrTblOk c.e.table = true)
    (xs : List OT) (parms : List Arm) (pib : Bool) (h : OT.wfL c parms pib xs) (lx : LexEnv) :
    OT.needL 0 xs ≤ 3 * (OT.toksL 0 xs).length + 13 ∧
    OT.needL 0 xs + 20 ≤ 4 * (mkToks lx (OT.toksL 0 xs)).toArray.size + 64 := by
  have := A2l.Tree.needL_le_tokens_lemma c hs ha xs parms pib 0 h
  refine ⟨this, ?_⟩
  simp only [List.size_toArray, mkToks, mkToksFrom_length]
  omega

example (tbl : Table) : arrTblOk tbl = tbl.all (fun en => match en.def_ with
    | .block _ items _ _ => items.all arrDimB
    | _ => true) := rfl
example (of : ItemTy) (n : Nat) : arrDimB (.arr of n) = decide (1 ≤ n) := rfl
example : arrDimB .ident = true ∧ arrDimB (.seq .ident []) = true := ⟨rfl, rfl⟩

/-- the shipped table has no array parameter of dimension 0 -/
theorem shipped_arrays_positive : arrTblOk Shipped.table = true := by decide +kernel

/-- **theorem 4 with the driver's fuel**: `save_reload_stable_strict` where both loads are `runParseFile`
    (fuel `4 · tokens + 64`) -/
theorem save_reload_stable_strict_run {e : Env} {lx : LexEnv} (hin : InOk e lx) (htab : tableOk e.table e.known = true)
    (hshape : shapeOk e.table = true) (hseqT : seqTblOk e.table = true) (harr : arrTblOk e.table = true)
    (htags : TagsOk e) (hns : NoSpecialOk e) {rarms : List Arm} (hroot : RootOk e rarms) {v : Val} {s : PState}
    (h : runParseFile e = .ok v s) :
    ∃ items, InOrder e v items ∧ (Obstacles e items →
      (∃ F0, ∀ F, F0 ≤ F → writeFile e v F = renderToks (OT.toksL 0 (OT.fixL false items))) ∧
      (∃ ts, Lex.tokenize (encL (renderToks (OT.toksL 0 (OT.fixL false items)))).toArray = .ok ts ∧
        (ts.map (convTok lx (encL (renderToks (OT.toksL 0 (OT.fixL false items)))).toArray)).toArray =
          (mkToks lx (OT.toksL 0 (OT.fixL false items))).toArray) ∧
      ∃ v' s', runParseFile { e with toks := (mkToks lx (OT.toksL 0 (OT.fixL false items))).toArray } = .ok v' s' ∧
        (∃ F0, ∀ F, F0 ≤ F →
          writeFile { e with toks := (mkToks lx (OT.toksL 0 (OT.fixL false items))).toArray } v' F = writeFile e v F) ∧
        LayoutEq v v') := by
  obtain ⟨items, ver, fp⟩ := parse_file_post hin #[] htab hshape htags hns hroot h
  refine ⟨items, fp.ord, fun ob => ?_⟩
  obtain ⟨r1, r2, r3⟩ := roundTrip_of_filePost fp hin hseqT hroot ob
  exact ⟨r1, r2, r3 _ (needL_le_tokens (mkC e lx #[] ver) hseqT harr _ rarms false
    ((fixL_of_filePost fp).symm ▸ fp.wf) lx).2⟩

/-! ## theorems 2 and 4 from the text -/

/-- **the bytes of every token of a `String` are UTF-8**: token boundaries are char boundaries (`lex_boundaries` of C03;
    `encL chars` satisfies its hypothesis `Utf8Ok`), and a slice of `encL chars` between char boundaries is `encL` of a
    sublist of `chars` -/
theorem token_bytes_of_string_are_utf8 (chars : List Char) (ts : List Lex.Token)
    (h : Lex.tokenize (encL chars).toArray = .ok ts) :
    Lex.Utf8Ok (encL chars).toArray ∧
    ∀ t ∈ ts, ∃ text, ((encL chars).toArray.extract t.startpos t.endpos).toList = encL text :=
  ⟨utf8Ok_encL chars, token_bytes_utf8 chars ts h⟩

/-- `TextOk` for a text that is a `String`: two clauses remain -/
theorem textOk_of_string_input (chars : List Char) (ts : List Lex.Token) (h : Lex.tokenize (encL chars).toArray = .ok ts)
    (hninc : ∀ t ∈ ts, t.ttype ≠ .include)
    (hfirst : ∀ t ∈ ts, t.ttype = .identifier → ∀ c, (encL chars).toArray[t.startpos]? = some c →
      (Lex.isAlpha c || c == 95) = true) : TextOk (encL chars).toArray ts :=
  ⟨hninc, hfirst, fun t ht _ => token_bytes_utf8 chars ts h t ht⟩

/-- **theorem 2, text-level front end**: `chars` is any text (a `String`) the tokenizer accepts, without `/include`,
    whose identifier tokens start with a letter or `_`; `e.toks` are its tokens as the driver converts them; the strict
    load with the driver's fuel succeeds. Conclusion of `content_preserved`. Remaining hypotheses about the tokens:
    `hsym` (symbol table), `hfl` (float codec). -/
theorem content_preserved_text {e : Env} {lx : LexEnv} {chars : List Char} {ts : List Lex.Token}
    (hlex : Lex.tokenize (encL chars).toArray = .ok ts) (hninc : ∀ t ∈ ts, t.ttype ≠ .include)
    (hfirst : ∀ t ∈ ts, t.ttype = .identifier → ∀ c, (encL chars).toArray[t.startpos]? = some c →
      (Lex.isAlpha c || c == 95) = true)
    (htoks : e.toks = (ts.map (convTok lx (encL chars).toArray)).toArray) (hstrict : e.strict = true)
    (hsym : ∀ (i : Nat) (t : PTok), e.toks[i]? = some t → t.ty = 0 → t.sym ≠ noSym → symText e.symbols t.sym = t.text)
    (hfl : ∀ (i : Nat) (t : PTok) (r : List Char), e.toks[i]? = some t → t.ty = 5 → t.fl = some r →
      lx.flOf r = some r ∧ NumText r)
    (htab : tableOk e.table e.known = true) (hshape : shapeOk e.table = true) (htags : TagsOk e) (hns : NoSpecialOk e)
    {rarms : List Arm} (hroot : RootOk e rarms) {v : Val} {s : PState} (h : runParseFile e = .ok v s) :
    ∃ items, InOrder e v items ∧ (OT.posAll e.code items → Canon e v items) ∧
      Pres (valuesOf (ts.map (convTok lx (encL chars).toArray)).toArray)
        (valuesOf (mkToks lx (OT.toksL 0 (OT.fixL false items))).toArray) := by
  have := content_preserved
    (inOk_of_lexer e lx _ ts hlex (textOk_of_string_input chars ts hlex hninc hfirst) htoks hstrict hsym hfl)
    htab hshape htags hns hroot h
  rw [htoks] at this
  exact this

/-- **theorem 4, text-level front end and the driver's fuel**: `write(load(write(load t))) = write(load t)` and
    `load(write(load t)) ≈ load t` for every text `t = chars` (a `String`) the tokenizer accepts, without `/include`, whose
    identifier tokens start with a letter or `_`, strictly loaded by `runParseFile`, under the two obstacles. -/
theorem save_reload_stable_strict_text {e : Env} {lx : LexEnv} {chars : List Char} {ts : List Lex.Token}
    (hlex : Lex.tokenize (encL chars).toArray = .ok ts) (hninc : ∀ t ∈ ts, t.ttype ≠ .include)
    (hfirst : ∀ t ∈ ts, t.ttype = .identifier → ∀ c, (encL chars).toArray[t.startpos]? = some c →
      (Lex.isAlpha c || c == 95) = true)
    (htoks : e.toks = (ts.map (convTok lx (encL chars).toArray)).toArray) (hstrict : e.strict = true)
    (hsym : ∀ (i : Nat) (t : PTok), e.toks[i]? = some t → t.ty = 0 → t.sym ≠ noSym → symText e.symbols t.sym = t.text)
    (hfl : ∀ (i : Nat) (t : PTok) (r : List Char), e.toks[i]? = some t → t.ty = 5 → t.fl = some r →
      lx.flOf r = some r ∧ NumText r)
    (htab : tableOk e.table e.known = true) (hshape : shapeOk e.table = true) (hseqT : seqTblOk e.table = true)
    (harr : arrTblOk e.table = true) (htags : TagsOk e) (hns : NoSpecialOk e)
    {rarms : List Arm} (hroot : RootOk e rarms) {v : Val} {s : PState} (h : runParseFile e = .ok v s) :
    ∃ items, InOrder e v items ∧ (Obstacles e items →
      (∃ F0, ∀ F, F0 ≤ F → writeFile e v F = renderToks (OT.toksL 0 (OT.fixL false items))) ∧
      (∃ ts', Lex.tokenize (encL (renderToks (OT.toksL 0 (OT.fixL false items)))).toArray = .ok ts' ∧
        (ts'.map (convTok lx (encL (renderToks (OT.toksL 0 (OT.fixL false items)))).toArray)).toArray =
          (mkToks lx (OT.toksL 0 (OT.fixL false items))).toArray) ∧
      ∃ v' s', runParseFile { e with toks := (mkToks lx (OT.toksL 0 (OT.fixL false items))).toArray } = .ok v' s' ∧
        (∃ F0, ∀ F, F0 ≤ F →
          writeFile { e with toks := (mkToks lx (OT.toksL 0 (OT.fixL false items))).toArray } v' F = writeFile e v F) ∧
        LayoutEq v v') :=
  save_reload_stable_strict_run
    (inOk_of_lexer e lx _ ts hlex (textOk_of_string_input chars ts hlex hninc hfirst) htoks hstrict hsym hfl)
    htab hshape hseqT harr htags hns hroot h

/-- non-vacuity: every hypothesis of `save_reload_stable_strict_text` holds for the sample text, with the obstacles
    absent (`sample_hypotheses`, `sample_text_hypotheses`) -/
example : ∃ v items, InOrder SampleIn.eS v items := by
  have hs := sample_hypotheses
  have hin := hs.1
  obtain ⟨v, s, hv⟩ := SampleText.runs
  have hb := SampleText.bytes_eq
  have htx := SampleText.textOk
  have hlx := SampleText.lexes
  have htk := SampleText.toks_eq
  rw [hb] at htx hlx htk
  obtain ⟨items, h1, -⟩ := save_reload_stable_strict_text (lx := Sample.lx) hlx htx.noInclude htx.identFirst htk rfl
    hin.symText (fun i t r a b c => ⟨hin.fl i t r a b c, hin.numText i t r a b c⟩)
    hs.2.1 hs.2.2.1 hs.2.2.2.1 (by decide) hs.2.2.2.2.1 hs.2.2.2.2.2.1 hs.2.2.2.2.2.2.1 hv
  exact ⟨v, items, h1⟩

/-! ## content preservation up to the order of siblings -/

/-- `OT.SibL items items'`: the same items up to a permutation of siblings at every depth (generated by: related heads,
    swap of two neighbours, transitivity); layout offsets and arm indices are free -/
example (x y : OT) (l : List OT) : OT.SibL (y :: x :: l) (x :: y :: l) := .swap x y l
example (x y : OT) (xs ys : List OT) (h1 : OT.Sib x y) (h2 : OT.SibL xs ys) : OT.SibL (x :: xs) (y :: ys) := .cons x y xs ys h1 h2
example (a b c : List OT) (h1 : OT.SibL a b) (h2 : OT.SibL b c) : OT.SibL a c := .trans a b c h1 h2
example (i i' : Nat) (tag : List Char) (blk : Bool) (ty so so' eo eo' : Nat) (fields : List Val) (items items' : List OT)
    (h : OT.SibL items items') :
    OT.Sib (.node i tag blk ty so eo fields items) (.node i' tag blk ty so' eo' fields items') :=
  .node i i' tag blk ty so so' eo eo' fields items items' h
example (xs : List OT) : OT.SibL xs xs := OT.SibL.refl xs

theorem sibling_permutation_permutes_values (lx : LexEnv) {items items' : List OT} (h : OT.SibL items items') :
    (valuesOf (mkToks lx (OT.toksL 0 (OT.fixL false items))).toArray).Perm
      (valuesOf (mkToks lx (OT.toksL 0 (OT.fixL false items'))).toArray) :=
  values_perm_of_sib lx h

/-- **theorem 2 up to the order of siblings** (`content_preserved_statement` with "the writer's order is a reordering of
    siblings" as hypothesis): `items` = the sub-elements of the loaded value in input order. For every reordering
    `items'` of siblings, the values of the tokens of the stream `OT.toksL 0 (OT.fixL false items')` are a permutation
    of a list `perm` that is the input value sequence with some comments deleted. -/
theorem content_preserved_up_to_sibling_order {e : Env} {lx : LexEnv} (hin : InOk e lx)
    (htab : tableOk e.table e.known = true) (hshape : shapeOk e.table = true) (htags : TagsOk e) (hns : NoSpecialOk e)
    {rarms : List Arm} (hroot : RootOk e rarms) {fuel : Nat} {v : Val} {s : PState} (h : parseFile fuel e {} = .ok v s) :
    ∃ items, InOrder e v items ∧ ∀ items', OT.SibL items items' →
      ∃ perm, perm.Perm (valuesOf (mkToks lx (OT.toksL 0 (OT.fixL false items'))).toArray) ∧
        Pres (valuesOf e.toks) perm := by
  obtain ⟨items, h1, -, h3⟩ := content_preserved hin htab hshape htags hns hroot h
  exact ⟨items, h1, fun items' hs => ⟨_, sibling_permutation_permutes_values lx hs, h3⟩⟩

/-- **the writer's sort is a permutation** of the group entries (`sortGE` = `apply_position_restrictions` ∘ sort by key) -/
theorem sortGE_is_permutation (code : List CodeEntry) (ges : List GE) : (sortGE code ges).Perm ges :=
  (applyPosG_perm _ _).trans (List.mergeSort_perm ges geLe)

/-- **the order in which `stringify` writes is a reordering of siblings of the input order** (at every depth), for
    every strict load: `items` = the sub-elements of the loaded value in input order (`InOrder`), `items'` = the same in
    the writer's order (`Canon`); the values of the two token streams are permutations of each other, and those of
    `items` are the input values without the dropped comments. Proof: the parser induction (`parse_goals`) carries, beside
    "`Canon` if in position order", the unconditional "`Canon` for some sibling reordering" (`NodeFacts.sibc`,
    `LInv.toSibCanon`: the accumulated group entries are a permutation of the items read, `sortGE` permutes them).
    (Stated for the items the parser read, not for ALL `items` with `InOrder e v items`: `InOrder` does not constrain
    items whose arm index is out of range.) -/
theorem writer_order_is_sibling_permutation {e : Env} {lx : LexEnv} (hin : InOk e lx)
    (htab : tableOk e.table e.known = true) (hshape : shapeOk e.table = true) (htags : TagsOk e) (hns : NoSpecialOk e)
    {rarms : List Arm} (hroot : RootOk e rarms) {fuel : Nat} {v : Val} {s : PState} (h : parseFile fuel e {} = .ok v s) :
    ∃ items items', InOrder e v items ∧ OT.SibL items items' ∧ Canon e v items' ∧
      (valuesOf (mkToks lx (OT.toksL 0 (OT.fixL false items))).toArray).Perm
        (valuesOf (mkToks lx (OT.toksL 0 (OT.fixL false items'))).toArray) ∧
      Pres (valuesOf e.toks) (valuesOf (mkToks lx (OT.toksL 0 (OT.fixL false items))).toArray) := by
  obtain ⟨items, ver, fp⟩ := parse_file_post hin #[] htab hshape htags hns hroot h
  obtain ⟨items', hs, hc, hp, hpres⟩ := writerOrder_of_filePost fp hin
  exact ⟨items, items', fp.ord, hs.toSibL, hc, hp, hpres⟩

/-! ### only position-restricted items change places -/

/-- `OT.SibPL code items items'`: a reordering of siblings (at every depth) in which only position-restricted items
    (`OT.pos code` is `some`: the arm's type has a position restriction) change places; every other item keeps its
    index. Generated by related heads, the exchange of two position-restricted items (anything in between stays),
    transitivity. -/
example (code : List CodeEntry) (x y : OT) (m l : List OT) (hx : (x.pos code).isSome = true) (hy : (y.pos code).isSome = true) :
    OT.SibPL code (y :: (m ++ x :: l)) (x :: (m ++ y :: l)) := .swapFar x y m l hx hy
example (code : List CodeEntry) (x y : OT) (xs ys : List OT) (h1 : OT.SibP code x y) (h2 : OT.SibPL code xs ys) :
    OT.SibPL code (x :: xs) (y :: ys) := .cons x y xs ys h1 h2
example (code : List CodeEntry) (a b c : List OT) (h1 : OT.SibPL code a b) (h2 : OT.SibPL code b c) : OT.SibPL code a c :=
  .trans a b c h1 h2
example (code : List CodeEntry) (i i' : Nat) (tag : List Char) (blk : Bool) (ty so so' eo eo' : Nat) (fields : List Val)
    (items items' : List OT) (h : OT.SibPL code items items') :
    OT.SibP code (.node i tag blk ty so eo fields items) (.node i' tag blk ty so' eo' fields items') :=
  .node i i' tag blk ty so so' eo eo' fields items items' h
example (code : List CodeEntry) (xs : List OT) : OT.SibPL code xs xs := OT.SibPL.refl code xs
example (code : List CodeEntry) (ty : Nat) (fields : List Val) (i : Nat) (tag : List Char) (blk : Bool) (so eo : Nat)
    (items : List OT) : (OT.node i tag blk ty so eo fields items).pos code = posRestrict code ty fields := rfl

/-- non-vacuity: with the code table of C01's counterexample `reserved_order_model_differs` (type 1 takes its position
    from its first parameter) two `R` keywords `R 2`, `R 1` with a comment between them exchange places -/
example : OT.SibPL Counter.rCode
    [.node 0 ['R'] false 1 0 0 [.int 2 false 0 5] [], .cmt "/* c */".toList 1, .node 0 ['R'] false 1 0 0 [.int 1 false 0 5] []]
    [.node 0 ['R'] false 1 0 0 [.int 1 false 0 5] [], .cmt "/* c */".toList 1, .node 0 ['R'] false 1 0 0 [.int 2 false 0 5] []] :=
  .swapFar (.node 0 ['R'] false 1 0 0 [.int 1 false 0 5] []) (.node 0 ['R'] false 1 0 0 [.int 2 false 0 5] [])
    [.cmt "/* c */".toList 1] [] (by decide) (by decide)

theorem position_reordering_is_sibling_reordering {code : List CodeEntry} {items items' : List OT}
    (h : OT.SibPL code items items') : OT.SibL items items' := h.toSibL

/-- **`apply_position_restrictions` moves position-restricted items only** (any group) -/
theorem position_restrictions_move_restricted_items_only (code : List CodeEntry) (g : List OT) :
    OT.SibPL code g (applyPosG (OT.pos code) g) := applyPosG_sibP code g

theorem position_reordering_permutes_values (lx : LexEnv) {code : List CodeEntry} {items items' : List OT}
    (h : OT.SibPL code items items') :
    (valuesOf (mkToks lx (OT.toksL 0 (OT.fixL false items))).toArray).Perm
      (valuesOf (mkToks lx (OT.toksL 0 (OT.fixL false items'))).toArray) :=
  values_perm_of_sib lx h.toSibL

/-- **the refinement of C02**: the order in which `stringify` writes differs from the input order only in the places of
    position-restricted items (at every depth): sorting by key (uid, line) restores the input order,
    `apply_position_restrictions` refills the slots of the restricted items -/
theorem writer_order_is_position_reordering {e : Env} {lx : LexEnv} (hin : InOk e lx)
    (htab : tableOk e.table e.known = true) (hshape : shapeOk e.table = true) (htags : TagsOk e) (hns : NoSpecialOk e)
    {rarms : List Arm} (hroot : RootOk e rarms) {fuel : Nat} {v : Val} {s : PState} (h : parseFile fuel e {} = .ok v s) :
    ∃ items items', InOrder e v items ∧ OT.SibPL e.code items items' ∧ Canon e v items' ∧
      (valuesOf (mkToks lx (OT.toksL 0 (OT.fixL false items))).toArray).Perm
        (valuesOf (mkToks lx (OT.toksL 0 (OT.fixL false items'))).toArray) ∧
      Pres (valuesOf e.toks) (valuesOf (mkToks lx (OT.toksL 0 (OT.fixL false items))).toArray) := by
  obtain ⟨items, ver, fp⟩ := parse_file_post hin #[] htab hshape htags hns hroot h
  obtain ⟨items', hw⟩ := writerOrder_of_filePost fp hin
  exact ⟨items, items', fp.ord, hw⟩

/-- **C02 as stated, token level** (`content_preserved_statement`): the values of the tokens of the stream the writer
    emits (`Canon e v items`: `items` in the writer's order) are a permutation of a list `perm` that is the input value
    sequence with some comments deleted -/
theorem content_preserved_perm : content_preserved_statement := by
  intro e lx rarms fuel v s hin htab hshape htags hns hroot h
  obtain ⟨items, items', -, -, hc, hp, hpres⟩ := writer_order_is_sibling_permutation hin htab hshape htags hns hroot h
  exact ⟨items', _, hc, hp, hpres⟩

/-- non-vacuity: the two top-level items of the sample, swapped -/
example : OT.SibL Sample.items [Sample.projO, Sample.verO] := .swap Sample.projO Sample.verO []
example : (valuesOf (mkToks Sample.lx (OT.toksL 0 (OT.fixL false Sample.items))).toArray).Perm
    (valuesOf (mkToks Sample.lx (OT.toksL 0 (OT.fixL false [Sample.projO, Sample.verO]))).toArray) :=
  sibling_permutation_permutes_values Sample.lx (.swap Sample.projO Sample.verO [])

end A2l.Tree
