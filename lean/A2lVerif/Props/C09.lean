import A2lVerif.Lemmas.Merge
/-! C09 — merge: the references of the nodes taken from B follow the renames; no reference dangles
    (model `A2l.Mg.merge`; `rep`, `repRef`, `renAll`, `Resolved` are defined in `Lemmas/Merge.lean`). -/
namespace A2l.Mg

/-- the reference fields (kind of the element, field) that the Rust `rename_*` functions rewrite, with the namespace whose
    rename table is applied: the table `covered` of the model, spelled out and checked -/
theorem covered_sites : covered = [
    ("COMPU_METHOD", "RefUnit.unit", .unit), ("UNIT", "RefUnit.unit", .unit),
    ("COMPU_METHOD", "CompuTabRef.conversion_table", .compuTab),
    ("COMPU_METHOD", "StatusStringRef.conversion_table", .compuTab),
    ("AXIS_PTS", "AxisPts.conversion", .compuMethod), ("CHARACTERISTIC", "Characteristic.conversion", .compuMethod),
    ("CHARACTERISTIC", "AxisDescr.conversion", .compuMethod), ("MEASUREMENT", "Measurement.conversion", .compuMethod),
    ("TYPEDEF_AXIS", "TypedefAxis.conversion", .compuMethod),
    ("TYPEDEF_CHARACTERISTIC", "TypedefCharacteristic.conversion", .compuMethod),
    ("TYPEDEF_CHARACTERISTIC", "AxisDescr.conversion", .compuMethod),
    ("TYPEDEF_MEASUREMENT", "TypedefMeasurement.conversion", .compuMethod), ("INSTANCE", "Conversion.name", .compuMethod),
    ("AXIS_PTS", "AxisPts.deposit_record", .recordLayout), ("CHARACTERISTIC", "Characteristic.deposit", .recordLayout),
    ("TYPEDEF_AXIS", "TypedefAxis.record_layout", .recordLayout),
    ("TYPEDEF_CHARACTERISTIC", "TypedefCharacteristic.record_layout", .recordLayout),
    ("MOD_COMMON", "SRecLayout.name", .recordLayout),
    ("AXIS_PTS", "AxisPts.input_quantity", .object), ("CHARACTERISTIC", "AxisDescr.input_quantity", .object),
    ("CHARACTERISTIC", "AxisPtsRef.axis_points", .object), ("CHARACTERISTIC", "CurveAxisRef.curve_axis", .object),
    ("CHARACTERISTIC", "DependentCharacteristic.characteristic_list", .object),
    ("CHARACTERISTIC", "VirtualCharacteristic.characteristic_list", .object),
    ("CHARACTERISTIC", "ComparisonQuantity.name", .object), ("CHARACTERISTIC", "MapList.name_list", .object),
    ("MEASUREMENT", "Virtual.measuring_channel_list", .object), ("TYPEDEF_AXIS", "TypedefAxis.input_quantity", .object),
    ("INSTANCE", "InputQuantity.name", .object), ("TYPEDEF_CHARACTERISTIC", "AxisDescr.input_quantity", .object),
    ("TYPEDEF_CHARACTERISTIC", "AxisPtsRef.axis_points", .object),
    ("TYPEDEF_CHARACTERISTIC", "CurveAxisRef.curve_axis", .object),
    ("FRAME", "FrameMeasurement.identifier_list", .object),
    ("FUNCTION", "InMeasurement.identifier_list", .object), ("FUNCTION", "LocMeasurement.identifier_list", .object),
    ("FUNCTION", "OutMeasurement.identifier_list", .object), ("FUNCTION", "DefCharacteristic.identifier_list", .object),
    ("FUNCTION", "RefCharacteristic.identifier_list", .object),
    ("GROUP", "RefCharacteristic.identifier_list", .object), ("GROUP", "RefMeasurement.identifier_list", .object),
    ("TRANSFORMER", "TransformerInObjects.identifier_list", .object),
    ("TRANSFORMER", "TransformerOutObjects.identifier_list", .object),
    ("VARIANT_CODING", "VarMeasurement.name", .object), ("VARIANT_CODING", "VarSelectionCharacteristic.name", .object),
    ("VARIANT_CODING", "VarCharacteristic.name", .object),
    ("INSTANCE", "Instance.type_ref", .typedef), ("TYPEDEF_STRUCTURE", "StructureComponent.component_type", .typedef),
    ("TRANSFORMER", "Transformer.inverse_transformer", .transformer)] := rfl

/-- every (kind, field) occurs once, so `coveredNs` is the table read as a function; FUNCTION and GROUP have no rename table -/
theorem covered_functional : (covered.map fun c => (c.1, c.2.1)).Nodup ∧ ∀ c ∈ covered, c.2.2.std :=
  ⟨by decide +kernel, covered_std⟩

/-- reference fields that are NOT covered (found in the recorded data): the targets keep B's name -/
theorem uncovered_sites :
    coveredNs "MEASUREMENT" "FunctionList.name_list" = none ∧ coveredNs "CHARACTERISTIC" "FunctionList.name_list" = none ∧
    coveredNs "AXIS_PTS" "FunctionList.name_list" = none ∧ coveredNs "GROUP" "FunctionList.name_list" = none ∧
    coveredNs "FUNCTION" "SubFunction.identifier_list" = none ∧ coveredNs "GROUP" "SubGroup.identifier_list" = none ∧
    coveredNs "USER_RIGHTS" "RefGroup.identifier_list" = none ∧ coveredNs "VARIANT_CODING" "VarCharacteristic.criterion_name_list" = none ∧
    coveredNs "VARIANT_CODING" "CombinationStruct.criterion_name" = none ∧
    coveredNs "MEASUREMENT" "RefMemorySegment.name" = none := by decide +kernel

theorem repRef_covered (P : List (Ns × Plan)) (tag : String) (r : Ref) (ns : Ns) (h : coveredNs tag r.site = some ns) :
    repRef P tag r = ⟨r.site, rep P ns r.target⟩ := by
  unfold repRef; rw [h]

theorem repRef_uncovered (P : List (Ns × Plan)) (tag : String) (r : Ref) (h : coveredNs tag r.site = none) :
    repRef P tag r = r := by
  unfold repRef; rw [h]

/-- `rep` really is "the name of the representative": for a node `x2` of B in a namespace with a rename table, the result
    contains a node with `x2`'s tag and hash under the name `rep … x2.name` -/
theorem rep_is_representative (a b : Module) (ha : UniqueNames a) (hb : UniqueNames b) (ns : Ns) (hns : ns.std)
    (x2 : Node) (hx : x2 ∈ b) (hxt : x2.tag ∈ ns.tags) :
    ∃ y ∈ merge a b, y.tag = x2.tag ∧ y.hash = x2.hash ∧ y.name = rep (mergeSt a b).plans ns x2.name := by
  have h := minv_mergeSt ha hb
  obtain ⟨y, hy, h1, h2, h3, _⟩ := h.rep ns (std_mem_finalKeys hns) (tags_mem_finalMoved ns) x2 hx hxt
  exact ⟨y, hy, h1, h2, h3⟩

/-- C09.6 `refs_renamed`: every node `x` of B in a namespace with `calculate_item_actions` — ADDED or
    SHARED (identical → skipped) — has a representative `y` in the result with `x`'s tag and hash, named `rep … x.name`, and
    `y`'s references are exactly `x`'s references with every covered `site@target` replaced by `site@rep(target)`, with the
    FINAL rename tables. No side condition beyond unique names is needed: since fix c009b82 the merge actions are computed
    after all renames that touch the kind (fixpoint loops). -/
theorem refs_renamed (a b : Module) (ha : UniqueNames a) (hb : UniqueNames b) (ns : Ns) (hns : ns.std)
    (x : Node) (hx : x ∈ b) (hxt : x.tag ∈ ns.tags) :
    ∃ y ∈ merge a b, y.tag = x.tag ∧ y.hash = x.hash ∧ y.name = rep (mergeSt a b).plans ns x.name ∧
      y.refs = x.refs.map (repRef (mergeSt a b).plans x.tag) ∧
      ((y ∈ a ∧ y.name = x.name) ∨ y.name ∉ names ns a) := by
  have h := minv_mergeSt ha hb
  obtain ⟨y, hy, h1, h2, h3, _, h5, h6⟩ := h.rep ns (std_mem_finalKeys hns) (tags_mem_finalMoved ns) x hx hxt
  exact ⟨y, hy, h1, h2, h3, h5, h6⟩

/-- the same from the side of the result (all kinds, also the unnamed ones, FUNCTION and GROUP): every reference of every
    node of the result is a reference of a node of A of the same kind, or a renamed (`repRef`) reference of a node of B of
    the same kind -/
theorem refs_provenance (a b : Module) (ha : UniqueNames a) (hb : UniqueNames b) (y : Node) (hy : y ∈ merge a b)
    (r : Ref) (hr : r ∈ y.refs) :
    (∃ a0 ∈ a, a0.tag = y.tag ∧ r ∈ a0.refs) ∨
    (∃ x ∈ b, x.tag = y.tag ∧ ∃ r0 ∈ x.refs, r = repRef (mergeSt a b).plans x.tag r0) := by
  have hinv := minv_mergeSt ha hb
  rcases hinv.prov y hy r hr with h | ⟨_, x, hx, hxt, hxr⟩
  · exact .inl h
  · obtain ⟨r0, hr0, e⟩ := List.mem_map.mp hxr
    exact .inr ⟨x, hx, hxt, r0, hr0, e.symm⟩

/-- C09.7 `no_dangling`: if names are unique per namespace and every reference of A resolves in A and every reference of B
    resolves in B (in the namespace its field points into, `refNs`), then every reference of the result resolves in the
    result. This holds for covered and for uncovered fields: an uncovered reference to a renamed element of B still finds
    a node of that name — A's different one. -/
theorem no_dangling (a b : Module) (ha : UniqueNames a) (hb : UniqueNames b) (hra : Resolved a) (hrb : Resolved b) :
    Resolved (merge a b) := by
  have h := minv_mergeSt ha hb
  intro n hn r hr ns hns
  rcases h.prov n hn r hr with ⟨a0, ha0, ha0t, ha0r⟩ | ⟨_, x, hx, hxt, hxr⟩
  · exact names_subset_of_ext (ext_mergeSt a b) ns (hra a0 ha0 r ha0r ns (ha0t ▸ hns))
  · obtain ⟨r0, hr0, rfl⟩ := List.mem_map.mp hxr
    rw [repRef_site, ← hxt] at hns
    have hres := hrb x hx r0 hr0 ns hns
    obtain ⟨x2, hx2, hx2t, hx2n⟩ := mem_names.mp hres
    cases hc : coveredNs x.tag r0.site with
    | some ns' =>
      have e := refNs_covered hns hc
      subst e
      have hstd := coveredNs_std hc
      obtain ⟨y, hy, hyt, _, hyn, _⟩ := h.rep ns' (std_mem_finalKeys hstd) (tags_mem_finalMoved ns') x2 hx2 hx2t
      rw [repRef_covered _ _ _ _ hc]
      exact mem_names.mpr ⟨y, hy, hyt ▸ hx2t, by rw [hyn, hx2n]⟩
    | none =>
      rw [repRef_uncovered _ _ _ hc]
      exact hx2n ▸ h.own ns (tags_mem_finalMoved ns) x2 hx2 hx2t

/-! ### a shared node whose target is renamed (the defect fixed in c009b82) -/

/-- The input on which the code before fix c009b82 shared B's `i` with A's. B's INSTANCE `i` (of type B's `td`, hash `h2`)
    is textually identical to A's `i`, but B's `td` conflicts with A's `td`: the first round renames `td`, which changes
    B's `i` (type `td.MERGE`), the second round therefore renames `i`, the third finds nothing new. `i` is added as
    `i.MERGE` referring to `td.MERGE`, and "the representative of `x` refers to the representatives of `x`'s targets"
    holds for it. -/
theorem shared_refs_fixed :
    UniqueNames weakA ∧ UniqueNames weakB ∧ Resolved weakA ∧ Resolved weakB ∧
    merge weakA weakB = weakA ++ [⟨"INSTANCE", "i.MERGE", "h", [⟨"Instance.type_ref", "td.MERGE"⟩]⟩,
                                  ⟨"TYPEDEF_BLOB", "td.MERGE", "h2", []⟩] ∧
    loopRounds weakA [.object, .typedef] (loopFuel [.object, .typedef] weakB) weakB (fun _ => []) = some 3 ∧
    rep (mergeSt weakA weakB).plans .typedef "td" = "td.MERGE" ∧
    rep (mergeSt weakA weakB).plans .object "i" = "i.MERGE" ∧
    ∃ y ∈ merge weakA weakB, y.tag = "INSTANCE" ∧ y.name = rep (mergeSt weakA weakB).plans .object "i" ∧
        y.refs = [⟨"Instance.type_ref", rep (mergeSt weakA weakB).plans .typedef "td"⟩] :=
  by decide +kernel

/-- a shared node stays shared when its targets are shared too: nothing is added -/
theorem shared_refs_shared :
    let a : Module := [⟨"INSTANCE", "i", "h", [⟨"Instance.type_ref", "td"⟩]⟩, ⟨"TYPEDEF_BLOB", "td", "h1", []⟩]
    merge a a = a := by decide +kernel

/-! non-vacuity: a merge with conflicts in three namespaces where all hypotheses hold and references are renamed -/

example : UniqueNames nvA ∧ UniqueNames nvB ∧ Resolved nvA ∧ Resolved nvB ∧
    merge nvA nvB =
      [⟨"COMPU_METHOD", "cm", "c1", []⟩, ⟨"MEASUREMENT", "m", "h1", [⟨"Measurement.conversion", "cm"⟩]⟩,
       ⟨"FUNCTION", "f", "hf", [⟨"OutMeasurement.identifier_list", "m"⟩, ⟨"SubFunction.identifier_list", "f"⟩,
          ⟨"OutMeasurement.identifier_list", "m.MERGE"⟩]⟩,
       ⟨"COMPU_METHOD", "cm.MERGE", "c2", []⟩,
       ⟨"MEASUREMENT", "m.MERGE", "h1", [⟨"Measurement.conversion", "cm.MERGE"⟩]⟩] :=
  by decide +kernel

end A2l.Mg
