import A2lVerif.Lemmas.Scalars
/-!
# Scalar codecs: strings and integers (used by C01 — save/reload stability, and C02 — content preservation)

Property theorems only; model in Model/Scalars.lean. Quantification: every string over all of Unicode; every integer
type, every in-range value, both notations; every literal text.
-/
namespace A2l.Sc

/-- **C01.1** a string value survives write + read: `unescape_string(add_quoted_string(s)) = s`, all of Unicode -/
theorem unescape_escape (s : List Char) : unescape (escape s) = .ok s := by
  rw [unescape_ok, unescapeL_escape]

/-- **C03** `unescape_string` never indexes out of range, whatever the token text -/
theorem unescape_no_panic (s : List Char) : unescape s ≠ .panic := by
  rw [unescape_ok]; nofun

/-- the escaped text contains no bare quote: every `"` is preceded by a backslash that is not itself escaped — stated
    as: the escaped text is a concatenation of units, each either one character other than `"` and `\\`, or a
    backslash followed by one character -/
theorem escape_units (s : List Char) :
    ∃ units : List (List Char), escape s = units.flatten ∧
      ∀ u ∈ units, (∃ c, u = [c] ∧ c ≠ '"' ∧ c ≠ '\\') ∨ (∃ d, u = ['\\', d]) := by
  refine ⟨s.map escChar, ?_, ?_⟩
  · simp [escape, List.flatMap_def]
  · intro u hu
    obtain ⟨c, _, rfl⟩ := List.mem_map.1 hu
    rcases escChar_cases c with ⟨d, -, hd, -⟩ | ⟨hp, hd⟩
    · exact Or.inr ⟨d, hd⟩
    · exact Or.inl ⟨c, hd, hp.2.1, hp.2.2.1⟩

/-- **C01.2 / C02** an in-range value survives write + read in either notation, for all eight integer types;
    the notation flag survives too -/
theorem int_roundtrip (t : IntTy) (v : Int) (hex : Bool) (h : t.inRange v) :
    parseInt t (printInt t v hex) = some (v, hex) := by
  cases hex with
  | true =>
    obtain ⟨n, hp, hn, hw⟩ := printInt_hex_n t v h
    rw [hp, parseInt_hex_spec t 'x' _ (Or.inl rfl) (natToDigits_ne_nil _ _ (by omega) _),
      hexBody_eq_self_of_hexDigits (hexDigits_natToDigits n), hexDigits_natToDigits]
    dsimp only
    rw [if_pos hn, hw]
  | false =>
    unfold IntTy.inRange at h
    simp only [printInt, Bool.false_eq_true, if_false, showDec]
    split
    · rename_i hv
      have hs : t.signed = true := by
        cases hs : t.signed with
        | true => rfl
        | false => have := t.min_eq_zero_of_unsigned hs; omega
      rw [parseInt_neg t (decDigits_natToDigits _) hs (by omega)]
      congr 2; omega
    · rename_i hv
      rw [parseInt_of_decDigits t (decDigits_natToDigits _), if_pos (by omega)]
      congr 2; omega

/-- **C02** decimal literals: the stored value is the literal's value, and it is in range -/
theorem int_faithful_dec (t : IntTy) (cs : List Char) (v : Int) (h : parseInt t cs = some (v, false)) :
    literalValue cs = some v ∧ t.inRange v := by
  rcases parseInt_some h with ⟨_, hf, _⟩ | ⟨_, _, hv⟩
  · cases hf
  · exact hv

/-- **C02** hex literals: the literal's magnitude fits the field width and the stored value is that magnitude read as
    two's complement; for unsigned fields it is the magnitude itself -/
theorem int_faithful_hex (t : IntTy) (cs : List Char) (v : Int) (h : parseInt t cs = some (v, true)) :
    ∃ n : Nat, literalValue cs = some (n : Int) ∧ n < 2 ^ t.bits ∧ v = wrapTo t n ∧ t.inRange v ∧
      (t.signed = false → v = n) := by
  rcases parseInt_some h with ⟨_, _, n, hl, hn, rfl⟩ | ⟨_, hf, _⟩
  · exact ⟨n, hl, hn, rfl, wrapTo_spec t n hn⟩
  · cases hf

/-- **C02** "a numeric literal that does not fit its field must be diagnosed, never silently changed":
    a decimal literal outside the range of the type, or a hex literal wider than the field, is rejected -/
theorem int_overflow_diagnosed (t : IntTy) (cs : List Char) (n : Int) (hv : literalValue cs = some n)
    (hbad : n < t.min ∨ (2 ^ t.bits : Nat) ≤ n ∨
            ((match cs with | '0' :: x :: r => ¬ ((x = 'x' ∨ x = 'X') ∧ r ≠ []) | _ => True) ∧ t.max < n)) :
    parseInt t cs = none := by
  have hmin := t.min_nonpos
  have hmax := t.max_lt_pow
  -- what is accepted has the literal's value, which fits the width (hex) or is in range: not so here
  cases h : parseInt t cs with
  | none => rfl
  | some p =>
    rcases parseInt_some (v := p.1) (hex := p.2) h with ⟨hh, _, m, h1, h2, _⟩ | ⟨_, _, h1, h2⟩
    · cases hv.symm.trans h1
      rcases hbad with hb | hb | ⟨hb, _⟩
      · omega
      · omega
      · obtain ⟨x, rest, rfl, hx⟩ := (isHexLit_iff cs).1 hh
        exact absurd hx hb
    · cases hv.symm.trans h1
      unfold IntTy.inRange at h2
      rcases hbad with hb | hb | ⟨_, hb⟩ <;> omega

theorem parseInt_inRange (t : IntTy) (cs : List Char) (v : Int) (hx : Bool) (h : parseInt t cs = some (v, hx)) :
    t.inRange v := by
  rcases parseInt_some h with ⟨_, _, n, _, hn, rfl⟩ | ⟨_, _, _, hr⟩
  · exact (wrapTo_spec t n hn).1
  · exact hr

/-! ## non-vacuity and the defect repaired by the `fix:` commit (hex truncation) -/
example : parseInt .i16 "0xFFFF".toList = some (-1, true) := by
  rw [toList_of_eq_ofList (by with_reducible rfl)]; decide
example : parseInt .u32 "0x1FFFFFFFF".toList = none := by
  rw [toList_of_eq_ofList (by with_reducible rfl)]; decide
example : unescape "a\\\"b\"\"c\\n".toList = .ok "a\"b\"c\n".toList := by
  rw [toList_of_eq_ofList (s := "a\\\"b\"\"c\\n") (by with_reducible rfl),
    toList_of_eq_ofList (s := "a\"b\"c\n") (by with_reducible rfl), unescape_ok]
  decide

/-- the pinned code read `0x1FFFFFFFF` into a 32-bit field as `0xFFFFFFFF` without any diagnostic -/
theorem parseIntUnfixed_truncates :
    parseIntUnfixed .u32 "0x1FFFFFFFF".toList = some (4294967295, true) ∧
    literalValue "0x1FFFFFFFF".toList = some 8589934591 := by
  rw [toList_of_eq_ofList (by with_reducible rfl)]; decide

end A2l.Sc
