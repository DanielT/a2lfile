import A2lVerif.Lemmas.Include
import A2lVerif.Lemmas.IncludeWriter
import A2lVerif.Lemmas.TreeMonad
/-!
# C16 (tokenizer part) — `/include` resolution is plain inline expansion

Model: `Model/Include.lean`, an index-faithful transcription of `tokenize` of `src/tokenizer.rs` (the wrapper of
`tokenize_core` that resolves `/include` directives by recursively tokenizing the included files) and of
`make_include_filename` / `load` of `src/loader.rs`, in which every slice, index and `usize` subtraction has an
explicit `panic` outcome; `tokenize_core` is `A2l.Lex.tokenize` (C03).  The file system is an arbitrary map
`fs : Path → Option Bytes`.  `tokenize fs n` is `tokenize_nested(.., depth)` with
`n = MAX_INCLUDE_DEPTH - depth` (the *depth budget*: the number of levels that may still be nested below the
file); the entry point `tokenize(..)` is `tokenizeTop fs = tokenize fs 64`.  At budget `0` a directive with a usable
name is the `IncludeFileError` of a file that cannot be loaded.  The recursion is structural in the budget, so the
model is total (`tokenize_total`); the outcome `.hang` exists only because the lexer model has one (it does not
occur there either: `Lex.lex_no_hang`).  The model is tied to the implementation by `./check C16`, which loads
generated include trees with `a2lfile::load` from a scratch directory and compares the token stream with the model's
(`Driver/Include.lean`).

All theorems hold for every file map, every file name, every content and every depth budget; there is no size
bound.  The budget matters for one kind of result only: an `IncludeFileError` (`depth_budget_irrelevant`); such an
error is that of a reachable missing file — the same under every larger budget
(`missing_include_budget_irrelevant`) — or that of the depth limit (`include_file_error_cases`).  The
self-including file gives the `IncludeFileError` of its innermost level for every budget (`self_include_is_error`).

Specifications (Lemmas/Include.lean): `walk` (the splice as a recursion over the token list, same outcome type as
the model; its recursive call is an `Option`, `none` at budget `0`: `deeper`), `expandToks`/`expand` ((kind, text)
stream of the inline expansion, with the same depth budget), `expandIToks`/`expandI` (the same with file ids).
-/
namespace A2l.Inc
open A2l.Lex (Bytes TokType)

/-- the entry point: `tokenize(filename, fileid, filetext)` = `tokenize_nested(.., depth = 0)`, budget 64 -/
theorem tokenize_entry (fs : FS) (fn : Filename) (fid : Nat) (b : Bytes) :
    tokenizeTop fs fn fid b = tokenize fs 64 fn fid b := rfl

/-- **`tokenize` = `tokenize_core`, then the walk**: the vector `include_directives`, the sentinel, the loop
    `for idx in 1..len` with `token_subseq = input_tokens[dirs[idx-1]+1 .. dirs[idx]]`, the quote stripping,
    `&filetext[start..end]` and the depth test compute exactly the list recursion `walk` — for every outcome (ok,
    each error).  The recursive call of the walk is `deeper fs n`: none at budget `0`, `tokenize fs m` at `m + 1` -/
theorem tokenize_is_walk (fs : FS) (n : Nat) (fn : Filename) (fid : Nat) (b : Bytes) :
    tokenize fs n fn fid b =
      match Lex.tokenize b with
      | .err k l => .err (.Lex fn.display k l)
      | .panic => .panic
      | .hang => .hang
      | .ok lt => finish (walk (deeper fs n) fs fn b (lt.map (Tok.ofLex fid)) (St.init fn fid b)) :=
  tokenize_eq_with.trans tokenizeWith_walk

theorem deeper_zero (fs : FS) : deeper fs 0 = none := rfl
theorem deeper_succ (fs : FS) (m : Nat) : deeper fs (m + 1) = some (tokenize fs m) := rfl

/-- **no panic**: the indices into `include_directives` and `input_tokens`, the slices `input_tokens[a..e]`,
    `filebytes[filename_start]`, `filebytes[filename_end - 1]` and `&filetext[filename_start..filename_end]` are in
    range, at every level of the recursion.  (The last one needs more than non-empty spans: see `lex_quoteOk`.) -/
theorem splice_no_panic (fs : FS) (n : Nat) (fn : Filename) (fid : Nat) (b : Bytes) :
    tokenize fs n fn fid b ≠ .panic :=
  (tokenize_is_total fs n fn fid b).1

/-- **total**: for every depth budget the result is a token vector or a `TokenizerError` — no panic, and no
    non-termination: the recursion is structural in the budget, and the one `.hang` the model can hand on, that of
    the lexer model, does not occur (`Lex.lex_no_hang`) -/
theorem tokenize_total (fs : FS) (n : Nat) (fn : Filename) (fid : Nat) (b : Bytes) :
    (∃ r, tokenize fs n fn fid b = .ok r) ∨ (∃ e, tokenize fs n fn fid b = .err e) := by
  have ht := tokenize_is_total fs n fn fid b
  cases h : tokenize fs n fn fid b with
  | ok r => exact .inl ⟨r, rfl⟩
  | err e => exact .inr ⟨e, rfl⟩
  | panic => exact absurd h ht.1
  | hang => exact absurd h ht.2

theorem tokenize_no_hang_no_panic (fs : FS) (n : Nat) (fn : Filename) (fid : Nat) (b : Bytes) :
    tokenize fs n fn fid b ≠ .hang ∧ tokenize fs n fn fid b ≠ .panic :=
  (tokenize_is_total fs n fn fid b).symm

/-- the lexer fact behind the last slice: the token directly behind `/include`, if it is a String or Identifier
    token that starts with `"`, spans at least two bytes -/
theorem include_name_token (b : Bytes) (ts : List Lex.Token) (h : Lex.tokenize b = .ok ts)
    (i : Nat) (inc nm : Lex.Token) (hi : ts[i]? = some inc) (hn : ts[i + 1]? = some nm)
    (hinc : inc.ttype = .include) (hname : nm.ttype = .string ∨ nm.ttype = .identifier)
    (hq : b[nm.startpos]? = some 34) : nm.startpos + 2 ≤ nm.endpos :=
  Lex.lex_quoteOk b ts h i inc nm hi hn hinc hname hq

/-- **inline expansion**: when the model succeeds, its (kind, text) sequence — the text of a token being the slice
    of the content of the file with the token's file id — is `expand` of the main file (same depth budget): every
    `Include` token followed by a String/Identifier token is replaced by the expansion of the named file, everything
    else is copied -/
theorem splice_eq_expand (fs : FS) (n : Nat) (fn : Filename) (b : Bytes) (r : TokenResult)
    (h : tokenize fs n fn 0 b = .ok r) :
    expand fs n fn.full b = some (r.tokens.map fun t => (t.ttype, tokText r.filedata 0 t)) := by
  obtain ⟨_, h2, _⟩ := tokenize_sim fs n fn 0 b r h
  rw [expandI_kt fs n fn.full 0 b _ h2]
  simp [view3, Item.kt, Function.comp_def]

/-- the same for any initial file id, with the file ids: the model's (kind, file id, text) sequence is `expandI`,
    which gives the file itself the id `fid`, every included file *occurrence* the next free id and the files it
    includes the following ones; the second component is the next free id -/
theorem splice_eq_expand_ids (fs : FS) (n : Nat) (fn : Filename) (fid : Nat) (b : Bytes) (r : TokenResult)
    (h : tokenize fs n fn fid b = .ok r) :
    expandI fs n fn.full fid b =
      some (r.tokens.map (fun t => (t.ttype, t.fileid, tokText r.filedata fid t)), fid + r.filedata.length) :=
  (tokenize_sim fs n fn fid b r h).2.1

/-- the expansion does not depend on the budget once it exists: `expand fs n` is the expansion under every larger
    budget -/
theorem expand_budget_irrelevant (fs : FS) (n k : Nat) (base : Path) (b : Bytes) (out : List (TokType × Bytes))
    (h : expand fs n base b = some out) : expand fs (n + k) base b = some out := by
  induction k with
  | zero => exact h
  | succ k ih => exact expand_succ fs (n + k) base b out ih

/-- a successful result contains no `Include` token: every directive has been resolved -/
theorem ok_has_no_include (fs : FS) (n : Nat) (fn : Filename) (fid : Nat) (b : Bytes) (r : TokenResult)
    (h : tokenize fs n fn fid b = .ok r) : ∀ t ∈ r.tokens, t.ttype ≠ .include :=
  (tokenize_sim fs n fn fid b r h).1.noInc

/-- **missing include**: the content tokenizes to `pre ++ inc :: nm :: post` with an `Include` token `inc` and a
    name token `nm`, the directives in `pre` resolve (`Resolves fs n`: the walk over `pre` under the budget `n`
    succeeds), and the file named by `nm` is not in the map.  Then the result is `IncludeFileError` with the line of
    `nm` and the name as written (quotes stripped) — never a truncated token stream.  For every depth budget. -/
theorem missing_include_is_error (fs : FS) (n : Nat) (fn : Filename) (fid : Nat) (b : Bytes)
    (pre post : List Lex.Token) (inc nm : Lex.Token) (st1 : St)
    (hlex : Lex.tokenize b = .ok (pre ++ inc :: nm :: post))
    (hinc : inc.ttype = .include) (hnm : nm.ttype = .string ∨ nm.ttype = .identifier)
    (hpre : Resolves fs n fn fid b pre st1)
    (hmiss : fs (targetPath fs fn.full b nm) = none) :
    tokenize fs n fn fid b =
      .err (.IncludeFileError fn.display nm.line (nameAt b nm.startpos nm.endpos)) :=
  reachesMissing_err
    (.here n fn fid b pre post inc nm st1 hlex hinc hnm hpre (by simp [load, target_full, hmiss]))

/-- when is the resolved path missing: the normalised name, the name as written and the name joined to the
    directory of the including file are all absent from the map -/
theorem resolve_missing (fs : FS) (incname base : Path)
    (h1 : fs (normalize incname) = none) (h2 : fs incname = none)
    (h3 : ∀ d, parent base = some d → fs (join d (normalize incname)) = none) :
    fs (makeIncludeFilename fs incname base) = none := by
  unfold makeIncludeFilename
  simp only
  split
  · exact h1
  · split
    · rename_i d hd
      simp only [FS.exists, h3 d hd, Option.isSome_none, Bool.false_eq_true, if_false]
      exact h2
    · exact h2

/-- the first directive of a file (no walk in the statement) -/
theorem missing_first_include_is_error (fs : FS) (n : Nat) (fn : Filename) (fid : Nat) (b : Bytes)
    (pre post : List Lex.Token) (inc nm : Lex.Token)
    (hlex : Lex.tokenize b = .ok (pre ++ inc :: nm :: post))
    (hpre : ∀ t ∈ pre, t.ttype ≠ .include)
    (hinc : inc.ttype = .include) (hnm : nm.ttype = .string ∨ nm.ttype = .identifier)
    (hmiss : fs (targetPath fs fn.full b nm) = none) :
    tokenize fs n fn fid b =
      .err (.IncludeFileError fn.display nm.line (nameAt b nm.startpos nm.endpos)) :=
  missing_include_is_error fs n fn fid b pre post inc nm _ hlex hinc hnm (resolves_of_noInc hpre) hmiss

/-- an error inside an included file (tokenized with the budget `n`) is the result of the including file (budget
    `n + 1`), unchanged -/
theorem include_error_is_error (fs : FS) (n : Nat) (fn : Filename) (fid : Nat) (b : Bytes)
    (pre post : List Lex.Token) (inc nm : Lex.Token) (st1 : St) (data : Bytes) (e : Err)
    (hlex : Lex.tokenize b = .ok (pre ++ inc :: nm :: post))
    (hinc : inc.ttype = .include) (hnm : nm.ttype = .string ∨ nm.ttype = .identifier)
    (hpre : Resolves fs (n + 1) fn fid b pre st1)
    (hload : load fs (target fs fn b nm).full = some data)
    (herr : tokenize fs n (target fs fn b nm) st1.nextFileid data = .err e) :
    tokenize fs (n + 1) fn fid b = .err e :=
  include_error_propagates hlex hinc hnm hpre hload herr

/-- **a reachable directive names a missing file** (`ReachesMissing`: a chain of directives, each the first
    unresolved one of its file, the last one naming a file that is not in the map): the result is the
    `IncludeFileError` of that directive -/
theorem reachable_missing_include_is_error (fs : FS) (n : Nat) (fn : Filename) (fid : Nat) (b : Bytes) (e : Err)
    (h : ReachesMissing fs n fn fid b e) :
    tokenize fs n fn fid b = .err e ∧ ∃ f line incname, e = .IncludeFileError f line incname := by
  refine ⟨reachesMissing_err h, ?_⟩
  induction h with
  | here => exact ⟨_, _, _, rfl⟩
  | deeper => assumption

/-- **depth limit**: at budget `0` (`depth = MAX_INCLUDE_DEPTH`) a directive with a usable name — everything in
    front of it resolving, which at budget `0` means: no directive in front of it — is the `IncludeFileError` of that
    directive (file name of the current file, line of the name token, name as written), whether or not the named
    file exists -/
theorem depth_limit_is_error (fs : FS) (fn : Filename) (fid : Nat) (b : Bytes)
    (pre post : List Lex.Token) (inc nm : Lex.Token)
    (hlex : Lex.tokenize b = .ok (pre ++ inc :: nm :: post))
    (hpre : ∀ t ∈ pre, t.ttype ≠ .include)
    (hinc : inc.ttype = .include) (hnm : nm.ttype = .string ∨ nm.ttype = .identifier) :
    tokenize fs 0 fn fid b =
      .err (.IncludeFileError fn.display nm.line (nameAt b nm.startpos nm.endpos)) :=
  reachesLimit_err (.here fn fid b pre post inc nm _ hlex hinc hnm (resolves_of_noInc hpre))

/-- at budget `0` nothing else resolves: a resolving prefix contains no directive -/
theorem resolves_at_limit (fs : FS) (fn : Filename) (fid : Nat) (b : Bytes) (pre : List Lex.Token) (st1 : St)
    (h : Resolves fs 0 fn fid b pre st1) : ∀ t ∈ pre, t.ttype ≠ .include := by
  unfold Resolves at h
  simp only [deeper] at h
  generalize St.init fn fid b = st at h
  induction pre using directive_induction (fun t => (Tok.ofLex fid t).ttype = .include)
      (fun t => isName (Tok.ofLex fid t)) generalizing st with
  | nil => simp
  | copy a pre ha ih =>
    rw [List.map_cons, walk_cons_copy ha] at h
    intro t ht
    rcases List.mem_cons.1 ht with ht | ht
    · subst ht; exact ha
    · exact ih _ h t ht
  | last a ha => rw [List.map_cons, List.map_nil, walk_inc_nil ha] at h; cases h
  | noName a x ts ha hx =>
    rw [List.map_cons, List.map_cons, walk_inc_notName ha hx] at h; cases h
  | name a x ts ha hx _ =>
    -- at budget `0` the step at a directive is the error of the depth limit
    rw [List.map_cons, List.map_cons, walk_directive ha hx] at h; cases h

/-- **a chain of nested includes reaches the depth limit** (`ReachesLimit fs n`: a chain of `n` directives, each
    the first unresolved one of its file and naming a loadable file, then a directive with a usable name in the file
    with budget `0`): the result is the `IncludeFileError` of that last directive, handed up unchanged -/
theorem reachable_depth_limit_is_error (fs : FS) (n : Nat) (fn : Filename) (fid : Nat) (b : Bytes) (e : Err)
    (h : ReachesLimit fs n fn fid b e) :
    tokenize fs n fn fid b = .err e ∧ ∃ f line incname, e = .IncludeFileError f line incname := by
  refine ⟨reachesLimit_err h, ?_⟩
  induction h with
  | here => exact ⟨_, _, _, rfl⟩
  | deeper => assumption

/-- **the two sources of `IncludeFileError`**: every `IncludeFileError` result is that of a reachable missing file or
    that of the depth limit (the converse: `reachable_missing_include_is_error`, `reachable_depth_limit_is_error`) -/
theorem include_file_error_cases (fs : FS) (n : Nat) (fn : Filename) (fid : Nat) (b : Bytes) (f : Path) (line : Nat)
    (incname : Path) (h : tokenize fs n fn fid b = .err (.IncludeFileError f line incname)) :
    ReachesMissing fs n fn fid b (.IncludeFileError f line incname) ∨
    ReachesLimit fs n fn fid b (.IncludeFileError f line incname) := by
  induction n generalizing fn fid b f line incname with
  | zero =>
    obtain ⟨_, _, he⟩ | ⟨pre, inc, post, st1, hlex, hi, hpre, he | ⟨nm, rest, rfl, hn, hs⟩⟩ :=
      tokenize_err_at h
    · cases he
    · cases he
    · cases hs
      exact .inr (.here fn fid b pre rest inc nm st1 hlex hi hn hpre)
  | succ n ih =>
    obtain ⟨_, _, he⟩ | ⟨pre, inc, post, st1, hlex, hi, hpre, he | ⟨nm, rest, rfl, hn, hs⟩⟩ :=
      tokenize_err_at h
    · cases he
    · cases he
    · obtain ⟨he, hnone | hload⟩ | ⟨g, data, hg, hload, he⟩ := incStep_cases _ fs fn b (Tok.ofLex fid nm) st1 <;>
        rw [he] at hs
      · cases hnone
      · cases hs
        exact .inl (.here (n + 1) fn fid b pre rest inc nm st1 hlex hi hn hpre hload)
      · cases hg
        obtain herr | ⟨_, _, h⟩ := R.andThen_eq_err hs
        · rcases ih _ _ _ _ _ _ herr with h1 | h1
          · exact .inl (.deeper n fn fid b pre rest inc nm st1 data _ hlex hi hn hpre hload h1)
          · exact .inr (.deeper n fn fid b pre rest inc nm st1 data _ hlex hi hn hpre hload h1)
        · cases h

/-- **incomplete include**: an `Include` token that is the last token, or is followed by a token that is neither
    String nor Identifier (the directives in front of it resolving): `IncompleteIncludeError` with the line of the
    `Include` token — for every depth budget, also `0`: the check comes before the depth test -/
theorem incomplete_include_is_error (fs : FS) (n : Nat) (fn : Filename) (fid : Nat) (b : Bytes)
    (pre post : List Lex.Token) (inc : Lex.Token) (st1 : St)
    (hlex : Lex.tokenize b = .ok (pre ++ inc :: post))
    (hinc : inc.ttype = .include)
    (hpost : post = [] ∨ ∃ x rest, post = x :: rest ∧ ¬ (x.ttype = .string ∨ x.ttype = .identifier))
    (hpre : Resolves fs n fn fid b pre st1) :
    tokenize fs n fn fid b = .err (.IncompleteIncludeError fn.display inc.line) := by
  rw [tokenize_at_directive hlex hpre]
  rcases hpost with rfl | ⟨x, rest, rfl, hx⟩
  · rw [List.map_cons, List.map_nil, walk_inc_nil (by exact hinc)]; rfl
  · rw [List.map_cons, List.map_cons, walk_inc_notName (by exact hinc) (by exact hx)]; rfl

/-- **self include**: `main.a2l` with the content `/include "main.a2l"`.  For every depth budget `n` the result is
    an `IncludeFileError`, not a stack overflow: the file is entered `n + 1` times; the innermost level (budget `0`)
    refuses its directive with `IncludeFileError { filename: "main.a2l", line: 1, incname: "main.a2l" }` — file name
    = display name of that level's file, which is the name written in the directive; line = line of the name token —
    and every level above hands this error on unchanged (`?`).  With the entry point's budget 64: 65 levels. -/
theorem self_include_is_error (fs : FS) (hfs : fs mainName = some selfInc) (n fid : Nat) :
    tokenize fs n { full := mainName, display := mainName } fid selfInc =
      .err (.IncludeFileError mainName 1 mainName) := by
  have := reachesLimit_err (self_include_limit_aux fs hfs n ⟨mainName, mainName⟩ fid rfl)
  rwa [ite_self] at this

/-- the same when the outermost file is displayed under another name `disp`: the error carries the name of the
    innermost level — `disp` only if there is no nested level at all (`n = 0`) -/
theorem self_include_is_error_display (fs : FS) (hfs : fs mainName = some selfInc) (n fid : Nat) (disp : Path) :
    tokenize fs n { full := mainName, display := disp } fid selfInc =
      .err (.IncludeFileError (if n = 0 then disp else mainName) 1 mainName) :=
  reachesLimit_err (self_include_limit_aux fs hfs n _ fid rfl)

/-- it is the error of the depth limit -/
theorem self_include_reaches_limit (fs : FS) (hfs : fs mainName = some selfInc) (n fid : Nat) :
    ReachesLimit fs n { full := mainName, display := mainName } fid selfInc
      (.IncludeFileError mainName 1 mainName) := by
  have := self_include_limit_aux fs hfs n { full := mainName, display := mainName } fid rfl
  simpa using this

/-- **the budget only matters for `IncludeFileError`**: a result with budget `n` that is not an `IncludeFileError` —
    a token vector, a lexer error, an `IncompleteIncludeError` — is the result with every larger budget -/
theorem depth_budget_irrelevant (fs : FS) (n k : Nat) (fn : Filename) (fid : Nat) (b : Bytes)
    (h : ∀ f line incname, tokenize fs n fn fid b ≠ .err (.IncludeFileError f line incname)) :
    tokenize fs (n + k) fn fid b = tokenize fs n fn fid b := by
  induction k with
  | zero => rfl
  | succ k ih => rw [← Nat.add_assoc, tokenize_budget_succ fs (n + k) fn fid b (by rw [ih]; exact h), ih]

/-- in particular a successful result -/
theorem ok_budget_irrelevant (fs : FS) (n k : Nat) (fn : Filename) (fid : Nat) (b : Bytes) (r : TokenResult)
    (h : tokenize fs n fn fid b = .ok r) : tokenize fs (n + k) fn fid b = .ok r := by
  rw [depth_budget_irrelevant fs n k fn fid b (by rw [h]; intro f l i hh; cases hh), h]

/-- **the `IncludeFileError` of a reachable missing file is the result with every larger budget** (the remaining
    case, by `include_file_error_cases`, is the error of the depth limit, which does depend on the budget: see the
    examples below) -/
theorem missing_include_budget_irrelevant (fs : FS) (n k : Nat) (fn : Filename) (fid : Nat) (b : Bytes) (e : Err)
    (h : ReachesMissing fs n fn fid b e) : tokenize fs (n + k) fn fid b = .err e := by
  refine reachesMissing_err ?_
  induction k with
  | zero => exact h
  | succ k ih => exact reachesMissing_succ ih

/-- **file ids**: in a successful result of `tokenize(filename, fid, text)`
    * there are as many file names as file contents, the first ones are `filename` and `text`;
    * every token's file id lies in `[fid, fid + number of files)` (so its text is defined);
    * the tokens with file id `fid` are exactly the tokens of the file itself (`ownToks`: all tokens except the
      directives), in order — tokens of included files have ids `> fid` (for the main file: `≥ 1`). -/
theorem fileids (fs : FS) (n : Nat) (fn : Filename) (fid : Nat) (b : Bytes) (r : TokenResult)
    (h : tokenize fs n fn fid b = .ok r) :
    r.filenames.length = r.filedata.length ∧ r.filedata[0]? = some b ∧ r.filenames[0]? = some fn ∧
    (∀ t ∈ r.tokens, fid ≤ t.fileid ∧ t.fileid < fid + r.filedata.length) ∧
    (∀ lt, Lex.tokenize b = .ok lt →
      r.tokens.filter (fun t => t.fileid == fid) = (ownToks lt).map (Tok.ofLex fid)) := by
  obtain ⟨h1, _, h3⟩ := tokenize_sim fs n fn fid b r h
  exact ⟨h1.names, h1.first, h1.firstName, h1.range, h3⟩

/-- **own ids**: in the expansion with ids, the file being expanded has id `fid`; an included file occurrence is
    expanded with the next free id `next` and returns the next free id `next1 > next`, all its items have ids in
    `[next, next1)`; the rest of the list continues with `next1`.  Hence different directives of a file get
    disjoint, increasing id blocks, and within a block the same holds recursively. -/
theorem expand_ids (fs : FS) (n : Nat) (base : Path) (fid : Nat) (b : Bytes) (out : List Item) (next' : Nat)
    (h : expandI fs n base fid b = some (out, next')) :
    fid < next' ∧ ∀ i ∈ out, fid ≤ i.2.1 ∧ i.2.1 < next' :=
  expandI_ids fs n base fid b out next' h

/-- the blocks of the directives of one file with the depth budget `n` (`deeperI fs n`: the recursive call of
    `expandI`, none at budget `0`, `expandI fs m` at `m + 1`) -/
theorem expand_ids_blocks (fs : FS) (n : Nat) (base : Path) (b : Bytes) (fid : Nat) (lt : List Lex.Token)
    (next : Nat) (out : List Item) (next' : Nat)
    (h : expandIToks (deeperI fs n) fs base b fid lt next = some (out, next')) :
    next ≤ next' ∧ ∀ i ∈ out, i.2.1 = fid ∨ (next ≤ i.2.1 ∧ i.2.1 < next') :=
  expandIToks_ids deeperI_ids h

/-- `main.a2l`, `s/x.a2l`, `s/y.a2l` -/
def pMain : Path := [109, 97, 105, 110, 46, 97, 50, 108]
def pX : Path := [115, 47, 120, 46, 97, 50, 108]
def pY : Path := [115, 47, 121, 46, 97, 50, 108]
/-- `a /include "s\x.a2l" b` -/
def exMain : Bytes := #[97, 32, 47, 105, 110, 99, 108, 117, 100, 101, 32, 34, 115, 92, 120, 46, 97, 50, 108, 34, 32, 98]
/-- `/include y.a2l c` (relative to the directory `s` of the including file) -/
def exX : Bytes := #[47, 105, 110, 99, 108, 117, 100, 101, 32, 121, 46, 97, 50, 108, 32, 99]
/-- `d` -/
def exY : Bytes := #[100]
def exFs : FS := fun p =>
  if p = pMain then some exMain else if p = pX then some exX else if p = pY then some exY else none

/-- a nested include (quoted name with `\`, unquoted name relative to the including file): `a d c b` with the file
    ids `0 2 1 0`; the display names are the names as written.  Two levels below the main file: budget 2 suffices -/
def exResult : TokenResult :=
    { tokens := [{ ttype := .identifier, startpos := 0, endpos := 1, fileid := 0, line := 1 },
                 { ttype := .identifier, startpos := 0, endpos := 1, fileid := 2, line := 1 },
                 { ttype := .identifier, startpos := 15, endpos := 16, fileid := 1, line := 1 },
                 { ttype := .identifier, startpos := 21, endpos := 22, fileid := 0, line := 1 }],
      filedata := [exMain, exX, exY],
      filenames := [{ full := pMain, display := pMain },
                    { full := pX, display := [115, 92, 120, 46, 97, 50, 108] },
                    { full := pY, display := [121, 46, 97, 50, 108] }] }

/-- the four evaluations of `exMain` below start behind its lexing, which is most of their work -/
theorem exMain_lex : Lex.tokenize exMain = .ok
    [{ ttype := .identifier, startpos := 0, endpos := 1, line := 1 },
     { ttype := .include, startpos := 2, endpos := 10, line := 1 },
     { ttype := .string, startpos := 11, endpos := 20, line := 1 },
     { ttype := .identifier, startpos := 21, endpos := 22, line := 1 }] := by decide +kernel

theorem exMain_budget2 : tokenize exFs 2 { full := pMain, display := pMain } 0 exMain = .ok exResult := by
  rw [tokenize_is_walk, exMain_lex]; decide +kernel

/-- the same with the entry point's budget 64 (`ok_budget_irrelevant`) -/
example : tokenizeTop exFs { full := pMain, display := pMain } 0 exMain = .ok exResult :=
  ok_budget_irrelevant exFs 2 62 _ 0 exMain _ exMain_budget2

example : expand exFs 2 pMain exMain =
    some [(.identifier, #[97]), (.identifier, #[100]), (.identifier, #[99]), (.identifier, #[98])] :=
  (splice_eq_expand exFs 2 _ exMain _ exMain_budget2).trans (by decide +kernel)

example : expandI exFs 2 pMain 0 exMain =
    some ([(.identifier, 0, #[97]), (.identifier, 2, #[100]), (.identifier, 1, #[99]), (.identifier, 0, #[98])], 3) :=
  (splice_eq_expand_ids exFs 2 _ 0 exMain _ exMain_budget2).trans (by decide +kernel)

/-- **the depth error depends on the budget**: with budget 1 the directive of `s\x.a2l` (budget 0) is refused — the
    error names that file and its line although `s/y.a2l` exists; with budget 0 the directive of the main file is
    refused.  With budget 2 the result is a token vector (above). -/
theorem exMain_budget1 : tokenize exFs 1 { full := pMain, display := pMain } 0 exMain =
    .err (.IncludeFileError [115, 92, 120, 46, 97, 50, 108] 1 [121, 46, 97, 50, 108]) := by
  rw [tokenize_is_walk, exMain_lex]; decide +kernel
example : tokenize exFs 1 { full := pMain, display := pMain } 0 exMain =
    .err (.IncludeFileError [115, 92, 120, 46, 97, 50, 108] 1 [121, 46, 97, 50, 108]) := exMain_budget1
example : tokenize exFs 0 { full := pMain, display := pMain } 0 exMain =
    .err (.IncludeFileError pMain 1 [115, 92, 120, 46, 97, 50, 108]) := by
  rw [tokenize_is_walk, exMain_lex]; decide +kernel
example : expand exFs 1 pMain exMain = none := (expandWith_of_lex exMain_lex).trans (by decide +kernel)

/-- the hypothesis of `depth_budget_irrelevant` cannot be weakened to `≠ .hang`: the error of the depth limit depends
    on the budget -/
theorem old_fuel_irrelevant_is_false :
    ¬ ∀ (fs : FS) (n k : Nat) (fn : Filename) (fid : Nat) (b : Bytes),
      tokenize fs n fn fid b ≠ .hang → tokenize fs (n + k) fn fid b = tokenize fs n fn fid b := by
  intro h
  have h1 : tokenize exFs 2 _ 0 exMain = tokenize exFs 1 _ 0 exMain :=
    h exFs 1 1 { full := pMain, display := pMain } 0 exMain (by rw [exMain_budget1]; nofun)
  rw [exMain_budget2, exMain_budget1] at h1
  cases h1

/-- before fix 32d2080 the self-including file recursed until the stack overflowed; with the depth limit it does not
    fail to terminate under any budget (`self_include_is_error`) -/
theorem old_self_include_hangs_is_false :
    ¬ ∀ (fs : FS), fs mainName = some selfInc → ∀ n fid : Nat,
      tokenize fs n { full := mainName, display := mainName } fid selfInc = .hang := by
  intro h
  have h1 := h (fun _ => some selfInc) rfl 0 0
  rw [self_include_is_error (fun _ => some selfInc) rfl 0 0] at h1
  cases h1

/-- the self-including file at the entry point (budget 64), and for a small budget -/
example : tokenizeTop (fun _ => some selfInc) { full := mainName, display := mainName } 0 selfInc =
    .err (.IncludeFileError mainName 1 mainName) := self_include_is_error _ rfl 64 0
example : tokenize (fun _ => some selfInc) 3 { full := mainName, display := mainName } 0 selfInc =
    .err (.IncludeFileError mainName 1 mainName) := self_include_is_error _ rfl 3 0

/-- a cycle of two files: `a.a2l` = `/include b.a2l`, `b.a2l` = `x /include a.a2l` (second line).  The error names the
    file of the innermost level: with an odd budget that is `b.a2l` (line 2), with an even one `a.a2l` (line 1) -/
def pA : Path := [97, 46, 97, 50, 108]
def pB : Path := [98, 46, 97, 50, 108]
def cycA : Bytes := #[47, 105, 110, 99, 108, 117, 100, 101, 32, 98, 46, 97, 50, 108]
def cycB : Bytes := #[120, 10, 47, 105, 110, 99, 108, 117, 100, 101, 32, 97, 46, 97, 50, 108]
def cycFs : FS := fun p => if p = pA then some cycA else if p = pB then some cycB else none

theorem cycA_lex : Lex.tokenize cycA = .ok
    [{ ttype := .include, startpos := 0, endpos := 8, line := 1 },
     { ttype := .identifier, startpos := 9, endpos := 14, line := 1 }] := by decide +kernel

theorem cycB_lex : Lex.tokenize cycB = .ok
    [{ ttype := .identifier, startpos := 0, endpos := 1, line := 1 },
     { ttype := .include, startpos := 2, endpos := 10, line := 2 },
     { ttype := .identifier, startpos := 11, endpos := 16, line := 2 }] := by decide +kernel

/-- the cycle under every budget: the levels alternate between the two files and the innermost one (budget `0`)
    refuses its directive -/
theorem cyc_tokenize (k : Nat) :
    (∀ fid, tokenize cycFs (2 * k) ⟨pA, pA⟩ fid cycA = .err (.IncludeFileError pA 1 pB)) ∧
    (∀ fid, tokenize cycFs (2 * k) ⟨pB, pB⟩ fid cycB = .err (.IncludeFileError pB 2 pA)) ∧
    (∀ fid, tokenize cycFs (2 * k + 1) ⟨pA, pA⟩ fid cycA = .err (.IncludeFileError pB 2 pA)) ∧
    (∀ fid, tokenize cycFs (2 * k + 1) ⟨pB, pB⟩ fid cycB = .err (.IncludeFileError pA 1 pB)) := by
  have hA := first_include (fs := cycFs) (fn := ⟨pA, pA⟩) (fn' := ⟨pB, pB⟩) (pre := []) cycA_lex (by simp) rfl
    (.inr rfl) (by decide +kernel) (by decide +kernel : _ = some cycB)
  have hB := first_include (fs := cycFs) (fn := ⟨pB, pB⟩) (fn' := ⟨pA, pA⟩) (pre := [_]) cycB_lex (by decide) rfl
    (.inr rfl) (by decide +kernel) (by decide +kernel : _ = some cycA)
  induction k with
  | zero => exact ⟨hA.1, hB.1, hA.2 0 _ hB.1, hB.2 0 _ hA.1⟩
  | succ k ih =>
    have h1 := hA.2 (2 * k + 1) _ ih.2.2.2
    have h2 := hB.2 (2 * k + 1) _ ih.2.2.1
    exact ⟨h1, h2, hA.2 (2 * k + 2) _ h2, hB.2 (2 * k + 2) _ h1⟩

example : tokenize cycFs 3 { full := pA, display := pA } 0 cycA = .err (.IncludeFileError pB 2 pA) :=
  (cyc_tokenize 1).2.2.1 0
example : tokenize cycFs 4 { full := pA, display := pA } 0 cycA = .err (.IncludeFileError pA 1 pB) :=
  (cyc_tokenize 2).1 0
example : tokenizeTop cycFs { full := pA, display := pA } 0 cycA = .err (.IncludeFileError pA 1 pB) :=
  (cyc_tokenize 32).1 0

/-- `a /include nope.a2l` -/
example : tokenize exFs 3 { full := pMain, display := pMain } 0
    #[97, 32, 47, 105, 110, 99, 108, 117, 100, 101, 32, 110, 111, 112, 101, 46, 97, 50, 108] =
    .err (.IncludeFileError pMain 1 [110, 111, 112, 101, 46, 97, 50, 108]) := by decide +kernel

/-- `a /include` and `/include /begin` -/
example : tokenize exFs 3 { full := pMain, display := pMain } 0 #[97, 32, 47, 105, 110, 99, 108, 117, 100, 101] =
    .err (.IncompleteIncludeError pMain 1) := by decide +kernel
example : tokenize exFs 3 { full := pMain, display := pMain } 0
    #[47, 105, 110, 99, 108, 117, 100, 101, 32, 47, 98, 101, 103, 105, 110] =
    .err (.IncompleteIncludeError pMain 1) := by decide +kernel

/-- the hypothesis of `self_include_is_error` is satisfiable -/
example : ∃ fs : FS, fs mainName = some selfInc := ⟨fun _ => some selfInc, rfl⟩

/-- `lex_quoteOk` is about the token *behind `/include`* only: in `/begin A2ML"/end A2ML` the A2ML block token is
    the single byte `"` (it follows an Identifier) — a String token for which the quote stripping of `tokenize`
    would slice `filetext[12..11]` -/
example : Lex.tokenize #[47, 98, 101, 103, 105, 110, 32, 65, 50, 77, 76, 34, 47, 101, 110, 100, 32, 65, 50, 77, 76] = .ok
    [{ ttype := .begin, startpos := 0, endpos := 6, line := 1 },
     { ttype := .identifier, startpos := 7, endpos := 11, line := 1 },
     { ttype := .string, startpos := 11, endpos := 12, line := 1 },
     { ttype := .end_, startpos := 12, endpos := 16, line := 1 },
     { ttype := .identifier, startpos := 17, endpos := 21, line := 1 }] := by decide +kernel

example : incName #[47, 98, 101, 103, 105, 110, 32, 65, 50, 77, 76, 34, 47, 101, 110, 100, 32, 65, 50, 77, 76]
    { ttype := .string, startpos := 11, endpos := 12, fileid := 0, line := 1 } = .panic := by decide +kernel

end A2l.Inc

/-! # C16 (writer part) — elements from include files are written as one `/include` directive per file

Model: `Model/IncludeWriter.lean` (the `incfile` branch of `Writer::add_group`; the text of the elements that are written
is opaque). The items arrive in the writer's order (uid order, i.e. file order after a load, name order after `sort()`). -/
namespace A2l.IncW

example (seen : List (List Char)) (it : Item) (rest : List Item) : go seen (it :: rest) =
    match it.incfile with
    | some f => if seen.contains f then go seen rest else .directive f :: go (f :: seen) rest
    | none => .element it.name :: go seen rest := rfl

/-- **one directive per include file**: no file is named twice, however the elements of different files interleave ... -/
theorem each_include_once (items : List Item) : (directives (addGroup items)).Nodup :=
  nodup_directives_go [] items

/-- ... **and every file that contributed an element is named** (and no other) -/
theorem include_iff_contributes (items : List Item) (f : List Char) :
    f ∈ directives (addGroup items) ↔ ∃ it ∈ items, it.incfile = some f := by
  rw [addGroup, mem_directives_go]
  simp

/-- **the directive stands where the first element of its file stands in the writer's order** (the order in which
    `add_group` receives the items: by uid, position restrictions applied): everything in front of it is the output of the
    items in front of that element, and the file is not named again behind it. With `sort_new_items()` placing a new element
    directly behind an included one this is what keeps the new element behind the directive. -/
theorem directive_at_first_element (pre post : List Item) (it : Item) (f : List Char) (h : it.incfile = some f)
    (hpre : ∀ x ∈ pre, x.incfile ≠ some f) :
    ∃ tail, addGroup (pre ++ it :: post) = addGroup pre ++ Entry.directive f :: tail ∧ f ∉ directives tail :=
  directive_at_first_go [] pre post it f h (by simp) hpre

/-- non-vacuity: own element, two elements of one file around an element of another -/
example : addGroup [⟨['a'], none⟩, ⟨['b'], some ['f']⟩, ⟨['c'], some ['g']⟩, ⟨['d'], some ['f']⟩, ⟨['e'], none⟩] =
    [.element ['a'], .directive ['f'], .directive ['g'], .element ['e']] := by decide

/-- **included elements are not written, the others are, in order** -/
theorem only_own_elements_written (items : List Item) :
    elements (addGroup items) = (items.filter fun it => it.incfile.isNone).map (·.name) :=
  elements_go [] items

/-- non-vacuity: two include files whose elements interleave after `sort()` -/
example : addGroup [⟨['a'], some ['1']⟩, ⟨['b'], some ['2']⟩, ⟨['c'], some ['1']⟩, ⟨['d'], none⟩, ⟨['e'], some ['2']⟩] =
    [.directive ['1'], .directive ['2'], .element ['d']] := by decide

end A2l.IncW

/-! # C16 (parser / writer) — a comment that comes from an include file is not written into the main file

After fix b3e6c00 the generated parser marks a comment by the file of its own token (`Model/Tree.lean`, `parseTagged`:
`included := tok.fileid ≠ 0`); the writer skips such comments. Before the fix the mark came from the enclosing block, and
a comment of an include file at MODULE level was written into the main file on every save (and read back twice). -/
namespace A2l.Tree

/-- the comment arm of the tagged loop stores the file mark of the comment TOKEN -/
theorem comment_mark_is_token_file (fuel : Nat) (ctx : Ctx) (arms : List G.Arm) (ch : List (List Val)) (cm : List Cmt)
    (e : Env) (s : PState) (tok : PTok) (off : Nat)
    (h : getNextTagOrComment ctx e s = .ok (.comment tok off) { s with pos := s.pos + 1 }) :
    parseTagged (fuel + 1) ctx arms true ch cm e s =
      parseTagged fuel ctx arms true ch (⟨tok.text, ctx.line, s.seqId + 1, off, tok.fileid ≠ 0⟩ :: cm) e
        { s with pos := s.pos + 1, seqId := s.seqId + 1 } := by
  rw [parseTagged, bind_def, h]
  rfl

/-- the writer skips a comment that is marked as included: nothing is written for it, and the line-comment flag is
    passed on unchanged -/
theorem included_comment_not_written (indent : Nat) (alc : Bool) (item : TagInfo) (rest : List TagInfo)
    (hc : item.isComment = true) (hi : item.included = true) :
    addGroupGo indent alc (item :: rest) = addGroupGo indent alc rest := by
  simp [addGroupGo, hc, hi]

end A2l.Tree
