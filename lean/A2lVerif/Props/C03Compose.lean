import A2lVerif.Props.C03Lex
import A2lVerif.Props.C03Parse
/-!
# C03 (composition) — the tokenizer's output satisfies what the parser theorems assume

`Props/C03Parse.lean` proves that the generic parser never panics on a token array with `Tree.TokOk`.
Here `TokOk` is derived from the theorems about the tokenizer model (`Props/C03Lex.lean`: `lex_inv`, `lex_line_pos`,
`lex_comment_lines`) for any conversion `conv : Lex.Token → Tree.PTok` of byte spans to parser tokens that is
`Faithful`: it keeps line and type, gives a non-empty text to a non-empty identifier span, and decoding preserves the
number of newline characters of the span.  Corollary: tokenizer + parser never panic (`load_no_panic`).
-/
namespace A2l

/-- the conversion of a tokenizer token (a byte span of `b`) to a parser token (decoded text) is faithful.
    The clauses about the text only concern tokens with a non-empty span inside `b`. -/
structure Faithful (b : Lex.Bytes) (conv : Lex.Token → Tree.PTok) : Prop where
  line : ∀ t, (conv t).line = t.line
  ty : ∀ t, (conv t).ty = Lex.tokCode t.ttype
  ident_ne : ∀ t, t.startpos < t.endpos → t.endpos ≤ b.size → (conv t).ty = 0 → (conv t).text ≠ []
  newlines : ∀ t, t.startpos < t.endpos → t.endpos ≤ b.size →
    Tree.countNewlines (conv t).text = Lex.nlCount b t.startpos t.endpos

/-- the token type codes are those of `Tree.PTok.ty` -/
example : Lex.tokCode .identifier = 0 ∧ Lex.tokCode .begin = 1 ∧ Lex.tokCode .end_ = 2 ∧ Lex.tokCode .include = 3 ∧
    Lex.tokCode .string = 4 ∧ Lex.tokCode .number = 5 ∧ Lex.tokCode .comment = 6 := ⟨rfl, rfl, rfl, rfl, rfl, rfl, rfl⟩

/-- **the tokenizer establishes the parser's hypothesis about the tokens** -/
theorem tokOk_of_lex (b : Lex.Bytes) (ts : List Lex.Token) (h : Lex.tokenize b = .ok ts)
    (conv : Lex.Token → Tree.PTok) (hc : Faithful b conv) : Tree.TokOk (ts.map conv).toArray := by
  have hinv := Lex.lex_inv b ts h
  have hlp := Lex.lex_line_pos b ts h
  have hcl := Lex.lex_comment_lines b ts h
  have hmono := List.pairwise_iff_getElem.1 hinv.2.1
  refine ⟨?_, ?_, ?_, ?_⟩
  · intro i hi
    simp only [List.size_toArray, List.length_map] at hi
    simp only [List.getElem_toArray, List.getElem_map, hc.line]
    exact hlp _ (List.getElem_mem hi)
  · intro i j hi hj hij
    simp only [List.size_toArray, List.length_map] at hi hj
    simp only [List.getElem_toArray, List.getElem_map, hc.line]
    by_cases heq : i = j
    · subst heq; exact Nat.le_refl _
    · exact hmono i j hi hj (by omega)
  · intro i hi
    simp only [List.size_toArray, List.length_map] at hi
    simp only [List.getElem_toArray, List.getElem_map]
    exact hc.ident_ne _ (hinv.1 _ (List.getElem_mem hi)).1 (hinv.1 _ (List.getElem_mem hi)).2
  · intro i j hi hj hij hty
    simp only [List.size_toArray, List.length_map] at hi hj
    simp only [List.getElem_toArray, List.getElem_map, hc.line, hc.ty] at hty ⊢
    have hspan := hinv.1 _ (List.getElem_mem hi)
    rw [hc.newlines _ hspan.1 hspan.2]
    exact hcl i j hi hj hij (Lex.tokCode_eq_six.1 hty)

/-- **tokenizer + parser never panic**: for every byte string on which the tokenizer succeeds with at least one
    token (`load_impl` returns `EmptyFileError` otherwise), every faithful conversion of the tokens, every grammar
    table that passes `tableOk`, well-behaved `special` parsers, strict or not: `parse_file` does not panic.
    (The tokenizer itself never panics: `Lex.lex_no_panic`.) -/
theorem load_no_panic (b : Lex.Bytes) (ts : List Lex.Token) (h : Lex.tokenize b = .ok ts) (hne : ts ≠ [])
    (conv : Lex.Token → Tree.PTok) (hc : Faithful b conv)
    (e : Tree.Env) (he : e.toks = (ts.map conv).toArray)
    (ht : Tree.tableOk e.table e.known = true) (hsp : Tree.SpecialOk e) :
    Tree.runParseFile e ≠ .panic := by
  apply Tree.parseFile_no_panic e (by rw [he]; exact tokOk_of_lex b ts h conv hc) ht hsp
  rw [he]
  simp only [List.size_toArray, List.length_map]
  intro h0
  exact hne (List.eq_nil_of_length_eq_zero h0)

/-- decode a span byte by byte (Latin-1; enough to show that `Faithful` is satisfiable) -/
def convLatin1 (b : Lex.Bytes) (t : Lex.Token) : Tree.PTok :=
  { ty := Lex.tokCode t.ttype, line := t.line, sym := 0,
    text := (b.extract t.startpos t.endpos).toList.map fun c => Char.ofNat c.toNat }

theorem ofNat_eq_newline (c : UInt8) : (Char.ofNat c.toNat = '\n') ↔ c = 10 := by
  constructor
  · intro h
    have hv : c.toNat.isValidChar := Or.inl (by have := c.toNat_lt; omega)
    have h2 := congrArg Char.toNat h
    simp [Char.ofNat, hv, Char.ofNatAux, Char.toNat] at h2
    apply UInt8.toNat_inj.1
    simpa using h2
  · intro h; subst h; rfl

theorem convLatin1_faithful (b : Lex.Bytes) : Faithful b (convLatin1 b) where
  line := fun _ => rfl
  ty := fun _ => rfl
  ident_ne := by
    intro t h1 h2 _ h
    have := congrArg List.length h
    simp [convLatin1] at this
    omega
  newlines := by
    intro t h1 h2
    simp only [convLatin1, Tree.countNewlines, Lex.nlCount, List.foldl_map, ← Array.foldl_toList]
    congr 1
    funext n c
    by_cases hc : c = 10
    · subst hc; rfl
    · have : ¬ Char.ofNat c.toNat = '\n' := fun h => hc ((ofNat_eq_newline c).1 h)
      simp [hc, this]

/-- the hypotheses of `tokOk_of_lex` are satisfiable: a concrete input, a concrete conversion -/
example : Tree.TokOk ((match Lex.tokenize Lex.sampleComment with | .ok ts => ts | _ => []).map
    (convLatin1 Lex.sampleComment)).toArray := by
  have h : Lex.tokenize Lex.sampleComment = .ok
      (match Lex.tokenize Lex.sampleComment with | .ok ts => ts | _ => []) := by decide +kernel
  exact tokOk_of_lex _ _ h _ (convLatin1_faithful _)

end A2l
