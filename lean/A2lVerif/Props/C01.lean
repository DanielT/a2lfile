import A2lVerif.Lemmas.TreeRoundTrip
import A2lVerif.Lemmas.RT.Sample
import A2lVerif.Lemmas.RT.Counter
import A2lVerif.Props.C03Table
import A2lVerif.Lemmas.RT.LexVals
/-!
# C01 — save / reload stability

"Writing a loaded file and loading the result again yields an equal model, and writing that model again yields
byte-identical text: `write(load(write(load t))) = write(load t)`, and `load(write(load t)) = load t` up to layout
bookkeeping."

The property statements; the proofs, but for a few short ones, are in `Lemmas/TreeRoundTrip.lean` and `Lemmas/RT/*`.
Models: `Model/Tree.lean` (`parseFile`, `writeFile`; `addGroup` mirrors the writer AFTER the two `fix:` commits that start
a new line behind a `//` comment: for the next item of the group, and for the `/end` of a block whose text ends in a `//`
comment), `Model/Lex.lean` (`tokenize`), `Model/Scalars.lean`.

## What is proved

`save_reload_stable_partial` — for every grammar table, code table, symbol table, strictness flag and every root value
`v` that satisfies the explicit well-formedness hypotheses below: the text the writer produces is tokenized by the
tokenizer model into exactly the token stream the writer emitted (kinds, texts, line numbers), `parse_file` on these
tokens succeeds, writing the reloaded value gives byte-identical text, and the reloaded value equals `v` up to
`Info.line`, `Info.uid`, `Cmt.line`, `Cmt.uid` (and the `Info` of struct values inside parameter lists, which is never
written) — `LayoutEq`. Quantification: all of Unicode in strings and comments, every integer type / notation, any
nesting depth, any number of items, comments anywhere inside blocks, position restrictions, sequences with and
without stop tags, both strictness modes. The fragments are theorems of their own:

* `writer_text` (the writer's text is the text of the ordered token stream, offsets behind line comments bumped),
* `lexer_reads_written_text` (tokenizer + driver conversion invert the rendering of a lexable stream),
* `parser_inverts_writer` (`parse_file` on the written stream rebuilds a value with the same ordered form, in written
  order): parameters, children, several arms + position restrictions, comments,
* `second_write_is_fixpoint` (bumping offsets is idempotent), `layout_equal` (same ordered form + written order ⇒
  `LayoutEq`).

## What is NOT proved (the gap to `save_reload_stable_statement`)

The full statement quantifies over everything the loader ACCEPTS. What is missing is the lemma "every value `v` that
`parse_file` returns satisfies the hypotheses of `save_reload_stable_partial`" (`Canon`, `InOrder`, `Writable`,
`StreamLex`), i.e. what a load does beside reading back what the writer wrote (unknown-tag skipping, non-strict
recoveries, comments dropped in front of parameters). That lemma is FALSE in general — the full statement is false for
the model, and for the real code — as the counterexamples show (each is a theorem here or a confirmed finding); for
strict loads Props/C02 proves it, with the obstacles of the first two bullets as hypotheses (`save_reload_stable_strict`):

* `last_param_offset_unstable`: a WRITTEN file whose last token is a parameter (possible with grammar tables other than
  the shipped one, with which every written file ends with `/end PROJECT`; an input may end with `A2ML_VERSION 1 31`, and
  has that parameter moved by the first write): `get_line_offset` behind the last token returns the offset of
  the FIRST token; hypothesis: every keyword is followed by a token (`OT.ok`: `blk = false → rest ≠ []`).
* `reserved_order_model_differs` (known finding `reserved-order`): text stable, per-arm order of the model not;
  hypothesis `InOrder` for the `LayoutEq` conclusion.
* line comment + position restriction, and line comment + element dropped by a non-strict recovery (findings, fixed in
  the writer by the `fix:` commits mirrored here): without the fixes the next element, or the `/end` of the block, written
  with line offset 0 behind a `//` comment was swallowed by the comment. With them no hypothesis about the offsets
  behind a `//` comment is needed (`OT.lexW` has no clause about offsets): `ends_in_line_comment` scans the whole text
  of the block's content, and on the text of lexable parameters and items it is true iff the last item is a
  `//` comment (`ends_in_line_comment_exact`, proved against the token shapes the tokenizer model reads back), so the
  `/end` is written behind a line break (`end_behind_line_comment`), at every position of the comment. What is left:
  `written_stream_lexable` asks that the last ROOT item is no line comment (the root has no `/end`, and with the
  shipped grammar no comments), a hypothesis its proof does not use (nothing follows the last root item); and `OT.fixL` —
  the offsets the writer uses — also bumps end offsets (`OT.fixEo`), which the hypothesis `OT.fixL false items = items`
  of the `LayoutEq` conclusion covers.
* sequences: an identifier sequence ends at the first token that is not an identifier or is a stop tag; if a recovery
  drops what followed it on first load, a following keyword tag is swallowed by the sequence on reload (`SeqStops`).
* `1e999` → `inf` (float text that is not a number token): hypothesis `flOf s = some s` and `NumText`.
* A2ML / IF_DATA (`Env.special`) and `/include` are outside this model: hypothesis "no `special` value" is implicit in
  `Canon` (`Canon` only relates block values of `.block` types) and `fileid = 0`.
Writer and parser fuel are universally quantified "from some bound on" (`∃ F0, ∀ F ≥ F0`, `OT.needL`): fuel is a model
artefact; the driver's `4·tokens + 64` is not shown to reach the bound for arbitrary tables (for tables in which
sequences come last and arrays are not empty it does: `needL_le_tokens`, Props/C02).
-/
namespace A2l.Tree
open A2l.G

/-! ## the vocabulary (definitions live in `Lemmas/RT/Defs.lean`, `Canon.lean`, `LexToks.lean`; restated by `rfl`) -/

/-- a written token: kind (`PTok.ty`), text, line breaks in front of it, indent level -/
example (w : WTok) : WTok := ⟨w.ty, w.text, w.off, w.ind⟩

/-- the text of a token stream: every token behind `add_whitespace(off)` (a comment behind `off` line breaks) -/
example (w : WTok) : renderTok w =
    (if w.ty = 6 then List.replicate w.off '\n' else addWhitespace w.ind w.off) ++ w.text := rfl
example (ws : List WTok) : renderToks ws = ws.flatMap renderTok := rfl

/-- the parser tokens of a written stream: line = previous line + line breaks inside the previous token (comments) +
    `off`; `sym` / `fl` = what the driver attaches (`LexEnv`) -/
example (lx : LexEnv) (line : Nat) (w : WTok) (ws : List WTok) :
    mkToksFrom lx line (w :: ws) = w.toPTok lx (line + w.off) :: mkToksFrom lx (line + w.off + w.nl) ws := rfl

/-- ordered tree: the items of every block in the order in which the writer emits them -/
example (arm : Nat) (tag : List Char) (blk : Bool) (ty so eo : Nat) (fields : List Val) (items : List OT) (ind : Nat) :
    (OT.node arm tag blk ty so eo fields items).toks ind =
      headToks ind tag blk so ++ (fieldsToks (ind + 1) fields ++ (OT.toksL (ind + 1) items ++ closeToks ind tag blk eo)) := by
  simp [OT.toks]

/-- the offsets the writer uses: inside every tagged part an item with offset 0 directly behind a `//` comment gets 1 -/
example (alc : Bool) (text : List Char) (off : Nat) (rest : List OT) :
    OT.fixL alc (.cmt text off :: rest) = .cmt text (bumpOff alc off) :: OT.fixL (isLineCommentText text) rest := by
  simp [OT.fixL]

/-- … and the `/end` of a block whose content (as written) ends in a `//` comment for the writer's
    `ends_in_line_comment` gets offset 1 if its recorded offset is 0; `OT.endsLC` is `endsInLineComment` of the text of
    the content at any indent level (`endsLC_is_ends_in_line_comment`); for lexable content it says whether the last
    item is a `//` comment (`ends_in_line_comment_exact`) -/
example (alc : Bool) (arm : Nat) (tag : List Char) (blk : Bool) (ty so eo : Nat) (fields : List Val) (items rest : List OT) :
    OT.fixL alc (.node arm tag blk ty so eo fields items :: rest) =
      .node arm tag blk ty (bumpOff alc so) (OT.fixEo blk eo fields (OT.fixL false items)) fields (OT.fixL false items) ::
        OT.fixL false rest := by
  simp [OT.fixL]
example (blk : Bool) (eo : Nat) (fields : List Val) (items : List OT) :
    OT.fixEo blk eo fields items = if blk = true ∧ eo = 0 ∧ OT.endsLC fields items = true then 1 else eo := rfl

/-- equality up to layout bookkeeping: everything except `Info.line`, `Info.uid`, `Cmt.line`, `Cmt.uid` and the `Info`
    of struct values inside parameter lists (`normField`) -/
example {ty : Nat} {i i' : Info} {f f' : List Val} {ch ch' : List (List Val)} {cm cm' : List Cmt}
    (hso : i.startOff = i'.startOff) (heo : i.endOff = i'.endOff) (hfid : i.fileid = i'.fileid)
    (hf : f.map normField = f'.map normField) (hlen : ch.length = ch'.length)
    (hlen2 : ∀ (k : Nat) (cs cs' : List Val), ch[k]? = some cs → ch'[k]? = some cs' → cs.length = cs'.length)
    (hch : ∀ (k j : Nat) (cs cs' : List Val) (c c' : Val), ch[k]? = some cs → ch'[k]? = some cs' →
      cs[j]? = some c → cs'[j]? = some c' → LayoutEq c c')
    (hcm : cm.map (fun x => (x.text, x.startOff, x.included)) = cm'.map (fun x => (x.text, x.startOff, x.included))) :
    LayoutEq (.block ty i f ch cm) (.block ty i' f' ch' cm') :=
  LayoutEq.block hso heo hfid hf hlen hlen2 hch hcm

/-- a lexable stream: every token is read back as one token of the same kind and text (`TokLex`: identifiers are
    ASCII identifier characters starting with a letter or `_`; numbers start with a digit, sign or dot; strings are
    `"` + escaped text + `"`; comments are blanks + `// …` without line break, or + `/* … */` with the first `*/` at the
    end), an identifier behind `/begin` is not `A2ML`, and a line comment is followed by a line break -/
example (prev : Option WTok) (w : WTok) (rest : List WTok) : StreamLex prev (w :: rest) =
    (TokLex w ∧ (w.ty = 0 → (∃ p, prev = some p ∧ p.ty = 1) → w.text ≠ "A2ML".toList) ∧
     (w.ty = 6 → isLineCmt w.text = true → ∀ w' rest', rest = w' :: rest' → 1 ≤ w'.off) ∧ StreamLex (some w) rest) := rfl

/-! ## the full-strength statement -/

/-- **C01 as stated** (text level): for every environment with a well-formed table, every byte string on which the
    tokenizer succeeds and whose tokens `parse_file` accepts with value `v`: for every sufficient writer fuel the
    written text is tokenized, loaded with value `v'`, written again to the same text, and `v'` equals `v` up to layout.
    FALSE as it stands (see the module comment and the counterexample theorems below); `save_reload_stable_partial`
    proves it with the hypothesis "`v` is a parser output" replaced by explicit well-formedness conditions on `v`. -/
def save_reload_stable_statement : Prop :=
  ∀ (e0 : Env) (lx : LexEnv) (bytes : Lex.Bytes) (ts : List Lex.Token) (v : Val) (s : PState),
    tableOk e0.table e0.known = true → Lex.tokenize bytes = .ok ts →
    e0.toks = (ts.map (convTok lx bytes)).toArray → runParseFile e0 = .ok v s →
    ∃ F0, ∀ F, F0 ≤ F →
      ∃ ts' v' s', Lex.tokenize (encL (writeFile e0 v F)).toArray = .ok ts' ∧
        runParseFile { e0 with toks := (ts'.map (convTok lx (encL (writeFile e0 v F)).toArray)).toArray } = .ok v' s' ∧
        (∃ F1, ∀ F', F1 ≤ F' → writeFile e0 v' F' = writeFile e0 v F) ∧ LayoutEq v v'

/-! ## the theorems -/

/-- **save / reload stability** for well-formed values. `e0` = environment of the first load (table, code table,
    symbols, strictness; its tokens are irrelevant), `v = .block tyA2lFile info [] ch cm` the loaded root value,
    `items` its ordered form (`Canon`), `OT.fixL false items` what the writer emits.
    Hypotheses: `hcan` (`items` are the sub-elements of `v`, recursively, in the order `sort` + position restrictions
    put them), `hlex` (the emitted token stream is lexable), `hw` (`Writable`: types match the table, parameters are
    typed and printable, sequences end where they should, multiplicities, the root starts with the version keyword in
    strict mode, every keyword is followed by a token, position-restricted items stand in position order).
    Conclusions: (1) text of the first write; (2) the tokenizer model reads it back into the emitted stream;
    (3) for every sufficient parser fuel the second load succeeds with `v'`, the second write (any sufficient fuel)
    is byte-identical, and `LayoutEq v v'` if `v` stood in written order (`InOrder`: true of parser outputs unless
    position-restricted items of one arm were out of order) and no offset was bumped. -/
theorem save_reload_stable_partial (e0 : Env) (lx : LexEnv) (ver : Nat) (rarms : List Arm) (items : List OT)
    (info : Info) (ch : List (List Val)) (cm : List Cmt)
    (hcan : Canon e0 (.block e0.known.tyA2lFile info [] ch cm) items)
    (hlex : StreamLex none (OT.toksL 0 (OT.fixL false items)))
    (hw : Writable ⟨{ e0 with toks := (mkToks lx (OT.toksL 0 (OT.fixL false items))).toArray }, lx, ver⟩ rarms
      (OT.fixL false items)) :
    (∃ F0, ∀ F, F0 ≤ F →
      writeFile e0 (.block e0.known.tyA2lFile info [] ch cm) F = renderToks (OT.toksL 0 (OT.fixL false items))) ∧
    (∃ ts, Lex.tokenize (encL (renderToks (OT.toksL 0 (OT.fixL false items)))).toArray = .ok ts ∧
      (ts.map (convTok lx (encL (renderToks (OT.toksL 0 (OT.fixL false items)))).toArray)).toArray =
        (mkToks lx (OT.toksL 0 (OT.fixL false items))).toArray) ∧
    (∀ fuel, OT.needL 0 (OT.fixL false items) + 20 ≤ fuel →
      ∃ v' s', parseFile fuel { e0 with toks := (mkToks lx (OT.toksL 0 (OT.fixL false items))).toArray } {} = .ok v' s' ∧
        (∃ F0, ∀ F, F0 ≤ F →
          writeFile { e0 with toks := (mkToks lx (OT.toksL 0 (OT.fixL false items))).toArray } v' F =
            writeFile e0 (.block e0.known.tyA2lFile info [] ch cm) F) ∧
        (InOrder e0 (.block e0.known.tyA2lFile info [] ch cm) items → OT.fixL false items = items →
          info.startOff = 0 → info.endOff = 0 → LayoutEq (.block e0.known.tyA2lFile info [] ch cm) v')) :=
  have ⟨ts, h1, h2⟩ := lex_written lx _ hlex
  ⟨write_root e0 _ info ch cm items hcan, ⟨ts, h1, congrArg List.toArray h2⟩,
    reload_text e0 lx ver rarms items info ch cm hcan hw⟩

/-- the hypotheses are satisfiable: a root keyword with a version keyword and a block that has an identifier, a string
    and an enum parameter, a comment and a repeating child keyword with a hexadecimal parameter, strict mode -/
example : Canon Sample.e0 Sample.fileV Sample.items ∧
    StreamLex none (OT.toksL 0 (OT.fixL false Sample.items)) ∧
    Writable ⟨{ Sample.e0 with toks := (mkToks Sample.lx (OT.toksL 0 (OT.fixL false Sample.items))).toArray }, Sample.lx, 6⟩
      Sample.rarms (OT.fixL false Sample.items) ∧
    InOrder Sample.e0 Sample.fileV Sample.items ∧ OT.fixL false Sample.items = Sample.items ∧
    renderToks (OT.toksL 0 (OT.fixL false Sample.items)) =
      " V 1 71\n/begin P p \"hi\" ON\n /* c */\n  C 0x5\n/end P".toList :=
  ⟨Sample.canon_file, Sample.lexable, Sample.writable, Sample.inorder_file, Sample.fix_items,
    by rw [Sample.fix_items, Sample.toksL_items]; exact Sample.text_items⟩

/-- **fragment: the writer's text** — the text of a value in canonical relation to `items` is the rendering of the token
    stream of `items` with bumped offsets, for every sufficient fuel -/
theorem writer_text (e : Env) (ty : Nat) (info : Info) (ch : List (List Val)) (cm : List Cmt) (items : List OT)
    (h : Canon e (.block ty info [] ch cm) items) :
    ∃ F0, ∀ F, F0 ≤ F → writeFile e (.block ty info [] ch cm) F = renderToks (OT.toksL 0 (OT.fixL false items)) :=
  write_root e ty info ch cm items h

example : ∃ F0, ∀ F, F0 ≤ F → writeFile Sample.e0 Sample.fileV F =
    " V 1 71\n/begin P p \"hi\" ON\n /* c */\n  C 0x5\n/end P".toList := by
  obtain ⟨F0, h⟩ := writer_text Sample.e0 0 _ _ _ _ Sample.canon_file
  refine ⟨F0, fun F hF => ?_⟩
  have h1 := h F hF
  rw [Sample.fix_items, Sample.toksL_items, Sample.text_items] at h1
  exact h1

/-- **fragment: the tokenizer reads the written text back** — for every lexable stream the tokenizer model succeeds on
    the UTF-8 bytes of its rendering, and the driver's conversion of its tokens is `mkToks` (same kinds, texts, lines) -/
theorem lexer_reads_written_text (lx : LexEnv) (ws : List WTok) (h : StreamLex none ws) :
    ∃ ts, Lex.tokenize (encL (renderToks ws)).toArray = .ok ts ∧
      ts.map (convTok lx (encL (renderToks ws)).toArray) = mkToks lx ws :=
  lex_written lx ws h

example : StreamLex none Sample.stream := Sample.stream_lex

/-- **fragment: lexability from conditions on the values** (after the `fix:` commits): if tags, identifier and enum values
    are `IdentText`, no block tag is `A2ML`, float texts are `NumText`, comments are `CommentText`, keywords have no
    sub-elements (`OT.lexWL`, restated below), then the stream the writer emits is lexable (`hlast`, the last root item
    is not a line comment, is not used). NOTHING is required of the offsets behind a line comment: the writer bumps them,
    for the next item and for the `/end` of the enclosing block (`OT.fixL`). Printed integers and escaped strings are
    always lexable (`printed_integer_is_number_token`, `strBody_escape`). -/
theorem written_stream_lexable (items : List OT) (h : OT.lexWL items)
    (hlast : ∀ text off, items.getLast? = some (.cmt text off) → isLineCmt text = false) :
    StreamLex none (OT.toksL 0 (OT.fixL false items)) :=
  streamLex_of_lexW items h

example : OT.lexWL Sample.items ∧ ∀ text off, Sample.items.getLast? = some (.cmt text off) → isLineCmt text = false :=
  ⟨Sample.lexW_items, by intro t o h; simp [Sample.items, Sample.projO] at h⟩

/-- the condition of `OT.lexWL` on an element (no clause about offsets) -/
example (arm : Nat) (tag : List Char) (blk : Bool) (ty so eo : Nat) (fields : List Val) (items : List OT) :
    OT.lexW (.node arm tag blk ty so eo fields items) =
      (IdentText tag ∧ (blk = true → tag ≠ "A2ML".toList) ∧ (∀ f ∈ fields, FieldLex f) ∧ OT.lexWL items ∧
        (blk = false → items = [])) := by
  simp [OT.lexW]

/-- `OT.endsLC` is what the writer computes: `ends_in_line_comment` of the text of the block's content, written at any
    indent level (the indentation does not matter) -/
theorem endsLC_is_ends_in_line_comment (indent : Nat) (fields : List Val) (items : List OT) :
    endsInLineComment (renderToks (fieldsToks indent fields ++ OT.toksL indent items)) = OT.endsLC fields items :=
  endsInLineComment_body indent fields items

/-- is the last item a `//` comment? -/
example (items : List OT) : OT.lastLC items =
    (match items.getLast? with
      | some (.cmt text _) => isLineCmt text
      | _ => false) := rfl

/-- **`ends_in_line_comment` is exact** on the content of a block as the writer writes it (lexable parameters and
    items): it is true iff the last item is a `//` comment. Proof: its scanner is outside of strings and comments behind
    every token the tokenizer model reads back, and inside the comment behind a `//` comment (`scan_stream`) -/
theorem ends_in_line_comment_exact (fields : List Val) (items : List OT) (hf : ∀ f ∈ fields, FieldLex f)
    (hw : OT.lexWL items) : OT.endsLC fields (OT.fixL false items) = OT.lastLC items :=
  endsLC_fixL fields items hf hw

/-- the scanner of `ends_in_line_comment` on the text of any lexable stream -/
theorem ends_in_line_comment_on_stream (ws : List WTok) (prev : Option WTok) (h : StreamLex prev ws) :
    endsInLineComment (renderToks ws) = (match ws.getLast? with | some w => w.isLC | none => false) := by
  rw [endsInLineComment_lcAfter ws prev h, lcAfter_eq]
  cases ws.getLast? <;> rfl
example (w : WTok) : w.isLC = (w.ty == 6 && isLineCmt w.text) := rfl

/-- **after the second and third `fix:` commit**: a `//` comment that is the last item of a block — on a line of its
    own or behind other tokens — is seen by `ends_in_line_comment`, so the `/end` is written with an offset ≥ 1 whatever
    its recorded offset is; if the last item is not a `//` comment, the recorded offset is used -/
theorem end_behind_line_comment (eo : Nat) (fields : List Val) (items : List OT) (hf : ∀ f ∈ fields, FieldLex f)
    (hw : OT.lexWL items) :
    (OT.lastLC items = true → 1 ≤ OT.fixEo true eo fields (OT.fixL false items)) ∧
    (OT.lastLC items = false → ∀ blk, OT.fixEo blk eo fields (OT.fixL false items) = eo) :=
  ⟨fixEo_pos_of_last_cmt eo fields items hf hw, fun h blk => fixEo_of_not_last_cmt blk eo fields items hf hw h⟩

def seenCmt1 : List Char := "/* a\n \" */".toList
def seenCmt2 : List Char := " // c".toList

/-- the input that the last-line version of `ends_in_line_comment` missed (two comment items, the `//` comment on the
    line on which a multi-line block comment with a `"` ends; `/end` recorded with offset 0): the exact scan sees the
    comment, the `/end` is written on a new line -/
theorem ends_in_line_comment_sees :
    OT.endsLC [] [.cmt seenCmt1 1, .cmt seenCmt2 0] = true ∧
    OT.fixL false [.node 0 ['B'] true 0 0 0 [] [.cmt seenCmt1 1, .cmt seenCmt2 0]] =
      [.node 0 ['B'] true 0 0 1 [] [.cmt seenCmt1 1, .cmt seenCmt2 0]] ∧
    renderToks (OT.toksL 0 [.node 0 ['B'] true 0 0 1 [] [.cmt seenCmt1 1, .cmt seenCmt2 0]]) =
      " /begin B\n/* a\n \" */ // c\n/end B".toList := by
  have h : OT.endsLC [] [.cmt seenCmt1 1, .cmt seenCmt2 0] = true := by decide +kernel
  have h1 : isLineCommentText seenCmt1 = false := by decide +kernel
  refine ⟨h, ?_, Eq.trans ?_ String.toList_ofList.symm⟩
  · simp [OT.fixL, OT.fixEo, bumpOff, h, h1]
  · decide +kernel

/-- every integer the writer prints (any type, value, notation) is a text the tokenizer reads as one number token -/
theorem printed_integer_is_number_token (t : Sc.IntTy) (v : Int) (hex : Bool) : NumText (Sc.printInt t v hex) :=
  numText_printInt t v hex

example : NumText (Sc.printInt .i16 (-1) true) ∧ Sc.printInt .i16 (-1) true = "0xFFFF".toList :=
  ⟨numText_printInt _ _ _, by decide⟩

/-- after the `fix:` commit: in the list the writer emits, the item behind a line comment starts on a new line -/
theorem line_comment_then_newline (alc : Bool) (text : List Char) (off : Nat) (y : OT) (ys : List OT)
    (h : isLineCommentText text = true) :
    ∃ y' ys', OT.fixL alc (.cmt text off :: y :: ys) = .cmt text (bumpOff alc off) :: y' :: ys' ∧ 1 ≤ y'.offOf := by
  obtain ⟨y', ys', hfix, hoff⟩ := fixL_head_off (isLineCommentText text) y ys
  refine ⟨y', ys', by simp [OT.fixL, hfix], ?_⟩
  rw [hoff, h]; exact bumpOff_true_pos _

example : isLineCommentText " // c".toList = true := by decide

/-- **fragment: `parse_file` inverts the writer** (parameters, children of several arms, position restrictions,
    comments; strict and non-strict): on the token stream of a writable ordered tree it returns a root value with the
    same ordered form, in written order -/
theorem parser_inverts_writer (c : RCfg) (rarms : List Arm) (items : List OT) (hw : Writable c rarms items)
    (hT : Toks c.e c.lx (OT.toksL 0 items)) (fuel : Nat) (hf : OT.needL 0 items + 20 ≤ fuel) :
    ∃ info ch' cm' s', parseFile fuel c.e {} = .ok (.block c.e.known.tyA2lFile info [] ch' cm') s' ∧
      info.startOff = 0 ∧ info.endOff = 0 ∧
      Canon c.e (.block c.e.known.tyA2lFile info [] ch' cm') items ∧
      InOrder c.e (.block c.e.known.tyA2lFile info [] ch' cm') items :=
  reload_written c rarms items hw hT fuel hf {} rfl

example : Writable (Sample.cfg 6) Sample.rarms Sample.items ∧ Toks (Sample.cfg 6).e (Sample.cfg 6).lx (OT.toksL 0 Sample.items) := by
  refine ⟨by have := Sample.writable; rwa [Sample.fix_items] at this, ?_⟩
  show Sample.e1.toks = _
  unfold Sample.e1
  rw [Sample.fix_items]; rfl

/-- **fragment: the second write is a fixpoint** — bumping the offsets behind line comments is idempotent -/
theorem second_write_is_fixpoint (l : List OT) (alc : Bool) : OT.fixL alc (OT.fixL alc l) = OT.fixL alc l :=
  fixL_idem l alc

/-- **fragment: equality up to layout** — two values in written order with the same ordered form are `LayoutEq` -/
theorem layout_equal (e : Env) {v v' : Val} {items : List OT} (h : InOrder e v items) (h' : InOrder e v' items)
    (hc : Compat v v') : LayoutEq v v' :=
  layoutEq_of_inOrder e h h' hc

example : InOrder Sample.e0 Sample.fileV Sample.items := Sample.inorder_file

/-- the regenerated table of the shipped code has the root shape `Writable.root` asks for: `A2lFile` is a keyword
    without parameters with a tagged part; every sequence element type and struct is of the supported shape
    (scalars, or structs of scalars without tagged part) -/
theorem shipped_root_shape :
    (match Shipped.table.lookup shippedKnown.tyA2lFile with
      | some (.block false [] _ true) => true
      | _ => false) = true ∧
    Shipped.table.all (fun en => match en.def_ with
      | .block _ items _ _ => items.all (fun it => match it with
        | .seq (.structRef ty) _ | .arr (.structRef ty) _ | .structRef ty =>
          (match Shipped.table.lookup ty with
            | some (.block false sits [] false) => !sits.isEmpty && sits.all (fun s => match s with
              | .structRef _ | .arr _ _ | .seq _ _ => false | _ => true)
            | _ => false)
        | .seq (.arr _ _) _ | .seq (.seq _ _) _ | .arr (.arr _ _) _ | .arr (.seq _ _) _ => false
        | _ => true)
      | _ => true) = true := by
  constructor <;> decide +kernel

/-! ## counterexamples to `save_reload_stable_statement` -/

/-- the text is not a fixpoint when the file ends with a parameter and the first token moves: tokens of
    `/* c */⏎⏎K 1` → `⏎⏎K 1` → tokens of that → `⏎⏎K⏎⏎  1` (a grammar with a parameterised keyword at top level) -/
theorem last_param_offset_unstable :
    (∃ s, runParseFile (Counter.qEnv Counter.qToks1) = .ok Counter.qV1 s) ∧
    writeFile (Counter.qEnv Counter.qToks1) Counter.qV1 50 = "\n\nK 1".toList ∧
    (∃ s, runParseFile (Counter.qEnv Counter.qToks2) = .ok Counter.qV2 s) ∧
    writeFile (Counter.qEnv Counter.qToks2) Counter.qV2 50 = "\n\nK\n\n  1".toList :=
  Counter.last_param_offset_unstable

/-- `qToks2` really is what tokenizer + conversion make of the text `⏎⏎K 1` -/
theorem last_param_offset_tokens : renderToks Counter.qStream = "\n\nK 1".toList ∧
    ∃ ts, Lex.tokenize (encL (renderToks Counter.qStream)).toArray = .ok ts ∧
      (ts.map (convTok Counter.qLx (encL (renderToks Counter.qStream)).toArray)).toArray = Counter.qToks2 := by
  refine ⟨by decide, ?_⟩
  have hlex : StreamLex none Counter.qStream := by
    refine ⟨⟨'K', [], rfl, by decide, by decide⟩, (by intro _ h; obtain ⟨p, hp, _⟩ := h; exact absurd hp (by simp)),
      (fun h => nomatch h), ?_⟩
    exact ⟨⟨'1', [], rfl, by decide, by decide, by decide, by decide, by decide, by decide, by decide⟩,
      (fun h => nomatch h), (fun h => nomatch h), trivial⟩
  obtain ⟨ts, h1, h2⟩ := lex_written Counter.qLx Counter.qStream hlex
  exact ⟨ts, h1, by rw [h2]; rfl⟩

/-- `reserved-order`: `R 2 R 1` (position = parameter) is written as ` R 1 R 2`; the reloaded per-arm list has the
    other order: not `LayoutEq` (the text is stable) -/
theorem reserved_order_model_differs :
    (∃ s, runParseFile (Counter.rEnv Counter.rToks1) = .ok Counter.rV1 s) ∧
    writeFile (Counter.rEnv Counter.rToks1) Counter.rV1 50 = " R 1 R 2".toList ∧
    (∃ s, runParseFile (Counter.rEnv Counter.rToks2) = .ok Counter.rV2 s) ∧ ¬ LayoutEq Counter.rV1 Counter.rV2 :=
  Counter.reserved_order_model_differs

end A2l.Tree
