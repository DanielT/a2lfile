import A2lVerif.Lemmas.TreeDev
/-!
# C04 — grammar conformance: every single deviation produces its diagnostic class

Property theorems about the generic parser (Model/Tree.lean), for every grammar table, every arm, every state.
The table side of C04 (the shipped code implements exactly the reference grammar) is in Props/C04Table.lean.
-/
namespace A2l.Tree
open A2l.G

/-- **wrong block form**: a sub-element that the grammar defines as a block but that is written without `/begin`
    (or a keyword written inside `/begin ... /end`) is a hard error of the corresponding class, in both modes, at the
    line of the tag -/
theorem dev_block_form (e : Env) (s s1 : PState) (ctx : Ctx) (arms : List Arm) (pib : Bool)
    (children : List (List Val)) (comments : List Cmt) (fuel : Nat) (tok : PTok) (isBlock : Bool) (off i : Nat) (arm : Arm)
    (hget : getNextTagOrComment ctx e s = .ok (.block tok isBlock off) s1)
    (hidx : arms.findIdx? (·.tag == tok.sym) = some i) (harm : arms[i]? = some arm) (hform : arm.block ≠ isBlock) :
    parseTagged (fuel + 1) ctx arms pib children comments e s =
      .err ⟨if arm.block then .incorrectBlockError else .incorrectKeywordError, s1.lastLine⟩ s1 :=
  (parseTagged_arm e s s1 ctx arms pib children comments fuel tok isBlock off i arm hget hidx harm).trans (if_neg hform)

/-- **element newer than the declared file version**: strict → error `BlockRefTooNew`; this is the first thing that
    happens after the block-form check -/
theorem dev_too_new_strict (e : Env) (hstrict : e.strict = true) (s s1 : PState) (ctx : Ctx) (arms : List Arm) (pib : Bool)
    (children : List (List Val)) (comments : List Cmt) (fuel : Nat) (tok : PTok) (isBlock : Bool) (off i : Nat) (arm : Arm)
    (hget : getNextTagOrComment ctx e s = .ok (.block tok isBlock off) s1)
    (hidx : arms.findIdx? (·.tag == tok.sym) = some i) (harm : arms[i]? = some arm) (hform : arm.block = isBlock)
    (hver : arm.vlo ≠ 0 ∧ s1.ver < arm.vlo) :
    parseTagged (fuel + 1) ctx arms pib children comments e s = .err ⟨.blockRefTooNew, s1.lastLine⟩ s1 := by
  rw [parseTagged_arm e s s1 ctx arms pib children comments fuel tok isBlock off i arm hget hidx harm, if_pos hform,
    taggedArmBody, bind_def]
  simp only [getState]
  rw [if_pos hver, bind_def]
  simp only [errorOrLog, bind_def, getEnv, hstrict, ↓reduceIte, fail]

/-- **unknown enum value**: hard error `InvalidEnumValue` in both modes (for a syntactically valid identifier) -/
theorem dev_unknown_enum (e : Env) (s : PState) (ctx : Ctx) (items : List EnumItem) (tok : PTok)
    (hpeek : e.toks[s.pos]? = some tok) (hty : tok.ty = 0)
    (hvalid : ∃ c cs, tok.text = c :: cs ∧ isAsciiDigit c = false ∧ utf8Len tok.text ≤ 1024)
    (hnot : lookupEnumItem items tok.sym = none) :
    parseEnum items ctx e s = .err ⟨.invalidEnumValue, tok.line⟩ { s with pos := s.pos + 1, lastLine := tok.line } := by
  rw [parseEnum_valid items ctx e s tok hpeek hty hvalid, hnot]
  rfl

/-- **enum value newer than the declared version**: strict → `EnumRefTooNew` (the non-strict case is not stated);
    **deprecated enum value**: accepted in both modes with `EnumRefDeprecated` logged -/
theorem dev_enum_versions (e : Env) (s : PState) (ctx : Ctx) (items : List EnumItem) (tok : PTok) (it : EnumItem)
    (hpeek : e.toks[s.pos]? = some tok) (hty : tok.ty = 0)
    (hvalid : ∃ c cs, tok.text = c :: cs ∧ isAsciiDigit c = false ∧ utf8Len tok.text ≤ 1024)
    (hit : lookupEnumItem items tok.sym = some it) :
    let s1 : PState := { s with pos := s.pos + 1, lastLine := tok.line }
    (it.vlo ≠ 0 ∧ s.ver < it.vlo → e.strict = true → parseEnum items ctx e s = .err ⟨.enumRefTooNew, tok.line⟩ s1) ∧
    (¬ (it.vlo ≠ 0 ∧ s.ver < it.vlo) → ¬ (it.vhi ≠ 0 ∧ s.ver > it.vhi) → parseEnum items ctx e s = .ok tok.text s1) ∧
    (¬ (it.vlo ≠ 0 ∧ s.ver < it.vlo) → (it.vhi ≠ 0 ∧ s.ver > it.vhi) →
        parseEnum items ctx e s = .ok tok.text { s1 with log := ⟨.enumRefDeprecated, tok.line⟩ :: s.log }) := by
  intro s1
  rw [parseEnum_valid items ctx e s tok hpeek hty hvalid, hit]
  refine ⟨fun hlo hs => ?_, fun hlo hhi => ?_, fun hlo hhi => ?_⟩
  · simp only [if_pos hlo, bind_def, errorOrLog, getEnv, hs, ↓reduceIte, fail]
    rfl
  · simp only [if_neg hlo, if_neg hhi, pure_def]
    rfl
  · simp only [if_neg hlo, if_pos hhi, bind_def, logWarning, modifyState, pure_def]
    rfl

/-- **missing `/end`**: a block that is not closed at all (end of input where `/end` is expected) is a hard error
    `UnexpectedEOF` in both modes; stated for the `expect_token` that opens the closing sequence of `parseType`.
    (The wrong end tag, `/end OTHER`, goes through `error_or_log` with `IncorrectEndTag`; no theorem states it.) -/
theorem dev_missing_end (e : Env) (s : PState) (ctx : Ctx) (hend : e.toks[s.pos]? = none) :
    expectToken ctx 2 e s = .err ⟨.unexpectedEOF, s.lastLine⟩ s := by
  rw [expectToken_def, expectTokenAux_succ, bind_def, getToken_none ctx e s hend]

/-- **a required parameter is missing** (the next token has another type): `expect_token` fails with
    `UnexpectedTokenType` in both modes. This is the path of the number parameters and of a quoted string; an identifier
    where a string is expected goes through `error_or_log` in `get_string` instead. -/
theorem dev_missing_param (e : Env) (s : PState) (ctx : Ctx) (tok : PTok) (want : Nat)
    (hpeek : e.toks[s.pos]? = some tok) (hne : tok.ty ≠ want) (hnc : tok.ty ≠ 6) :
    expectToken ctx want e s = .err ⟨.unexpectedTokenType, tok.line⟩ { s with pos := s.pos + 1, lastLine := tok.line } := by
  rw [expectToken_eval ctx want s tok hpeek hnc, if_pos hne]

end A2l.Tree
