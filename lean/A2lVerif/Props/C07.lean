import A2lVerif.Lemmas.TreeSkip
/-!
# C07 — non-strict recovery is local: unknown elements are skipped, nothing else changes

Property theorems only; model in Model/Tree.lean (`handleUnknownTaggedstructTag`, `skipUnknownLoop`, which mirror
`parser.rs` `handle_unknown_taggedstruct_tag`). Quantification: every token array, every position of the unknown
element in it, every payload of the stated shape, every stop list (= tag list of the enclosing block).
-/
namespace A2l.Tree

/-! `depth` and `NoDipFrom` are defined in `Lemmas/TreeSkip.lean` (the helper lemmas are stated with them);
    restated here, checked by `rfl`:
    * `depth` — nesting depth change of a token list (`/begin` = +1, `/end` = -1)
    * `NoDipFrom d` — no prefix closes more blocks than it opened, starting at depth `d` -/
example : depth [] = 0 := rfl
example (t : PTok) (ts : List PTok) :
    depth (t :: ts) = (if t.ty = 1 then 1 else if t.ty = 2 then -1 else 0) + depth ts := rfl
example (d : Int) : NoDipFrom d [] = True := rfl
example (d : Int) (t : PTok) (ts : List PTok) :
    NoDipFrom d (t :: ts) =
      (if t.ty = 1 then NoDipFrom (d + 1) ts
       else if t.ty = 2 then 0 ≤ d - 1 ∧ NoDipFrom (d - 1) ts
       else NoDipFrom d ts) := rfl

/-- **unknown block** `/begin TAG body /end TAG`: when the cursor stands behind `/begin TAG`, the skipper consumes
    exactly `body /end TAG` — whatever the body contains (nested unknown blocks, keywords, strings, numbers, comments,
    even tags of the enclosing block) as long as it is balanced — logs exactly one `UnknownSubBlock` (non-strict) and
    leaves everything else of the state unchanged except `lastLine`. -/
theorem skip_block (e : Env) (hns : e.strict = false) (ctx : Ctx) (s : PState)
    (pre body post : List PTok) (endTok tagTok : PTok) (tag : List Char) (stop : List Nat)
    (htoks : e.toks.toList = pre ++ body ++ endTok :: tagTok :: post)
    (hpos : s.pos = pre.length)
    (hbal : depth body = 0) (hnodip : NoDipFrom 0 body)
    (hend : endTok.ty = 2) (htag : tagTok.ty = 0 ∧ tagTok.text = tag) :
    ∃ s', handleUnknownTaggedstructTag ctx tag true stop e s = .ok () s' ∧
      s'.pos = pre.length + body.length + 2 ∧
      s'.log = ⟨.unknownSubBlock, s.lastLine⟩ :: s.log ∧
      s'.seqId = s.seqId ∧ s'.ver = s.ver := by
  obtain ⟨h1, ll, h⟩ := handleUnknown_body ctx tag true stop e s pre body _ hns htoks hpos (by simp) hnodip (by simp)
  rw [h, hbal, skipUnknownLoop_cons _ _ _ _ _ _ _ _ (by simp) h1, skipStep_end hend, if_neg (by decide),
    skipUnknownLoop_cons _ _ _ _ _ _ _ _ (by simp) (drop_toList_eq_cons h1).2.1,
    skipStep_ident_block htag.1, if_pos (by decide), if_pos htag.2]
  exact ⟨_, rfl, by rw [← hpos], rfl, rfl, rfl⟩

/-- **unknown keyword** `TAG args` (no `/begin`): when the cursor stands behind `TAG`, the skipper consumes exactly the
    arguments and stops in front of whatever follows — the `/end` of the enclosing block, the next known keyword of
    the enclosing block, or the `/begin` of the next known block — provided the arguments are balanced and do not
    reuse a tag of the enclosing block (the property's own exclusion). One `UnknownSubBlock` is logged. -/
theorem skip_keyword (e : Env) (hns : e.strict = false) (ctx : Ctx) (s : PState)
    (pre args post : List PTok) (tag : List Char) (stop : List Nat)
    (htoks : e.toks.toList = pre ++ args ++ post)
    (hpos : s.pos = pre.length)
    (hbal : depth args = 0) (hnodip : NoDipFrom 0 args)
    (hnostop : ∀ t ∈ args, t.ty = 0 → ¬ stop.contains t.sym = true)
    (hfollow : match post with
      | t :: _ => t.ty = 2 ∨ (t.ty = 0 ∧ stop.contains t.sym = true)
      | [] => False) :
    ∃ s', handleUnknownTaggedstructTag ctx tag false stop e s = .ok () s' ∧
      s'.pos = pre.length + args.length ∧
      s'.log = ⟨.unknownSubBlock, s.lastLine⟩ :: s.log ∧
      s'.seqId = s.seqId ∧ s'.ver = s.ver := by
  cases post with
  | nil => exact absurd hfollow id
  | cons t post' =>
    simp only at hfollow
    obtain ⟨h1, ll, h⟩ :=
      handleUnknown_body ctx tag false stop e s pre args _ hns htoks hpos (by simp) hnodip (fun _ => hnostop)
    rw [h, hbal, skipUnknownLoop_cons _ _ _ _ _ _ _ _ (by simp) h1]
    rcases hfollow with h2 | ⟨h0, hstop⟩
    · rw [skipStep_end h2, if_pos (by decide), undoGetToken_succ _ _ (s.pos + args.length) rfl]
      exact ⟨_, rfl, by rw [← hpos], rfl, rfl, rfl⟩
    · rw [skipStep_ident_keyword h0, if_pos ⟨Or.inl (by decide), hstop⟩, bind_def,
        undoGetToken_succ _ _ (s.pos + args.length) rfl]
      dsimp only
      rw [if_neg (by decide)]
      exact ⟨_, rfl, by rw [← hpos], rfl, rfl, rfl⟩

/-- the same when the next known element is a block: the skipper backs up over its `/begin` as well -/
theorem skip_keyword_before_block (e : Env) (hns : e.strict = false) (ctx : Ctx) (s : PState)
    (pre args post : List PTok) (b t : PTok) (tag : List Char) (stop : List Nat)
    (htoks : e.toks.toList = pre ++ args ++ b :: t :: post)
    (hpos : s.pos = pre.length)
    (hbal : depth args = 0) (hnodip : NoDipFrom 0 args)
    (hnostop : ∀ t ∈ args, t.ty = 0 → ¬ stop.contains t.sym = true)
    (hb : b.ty = 1) (ht : t.ty = 0 ∧ stop.contains t.sym = true) :
    ∃ s', handleUnknownTaggedstructTag ctx tag false stop e s = .ok () s' ∧
      s'.pos = pre.length + args.length ∧
      s'.log = ⟨.unknownSubBlock, s.lastLine⟩ :: s.log ∧
      s'.seqId = s.seqId ∧ s'.ver = s.ver := by
  obtain ⟨h1, ll, h⟩ :=
    handleUnknown_body ctx tag false stop e s pre args _ hns htoks hpos (by simp) hnodip (fun _ => hnostop)
  rw [h, hbal, skipUnknownLoop_cons _ _ _ _ _ _ _ _ (by simp) h1, skipStep_begin hb,
    skipUnknownLoop_cons _ _ _ _ _ _ _ _ (by simp) (drop_toList_eq_cons h1).2.1,
    skipStep_ident_keyword ht.1, if_pos ⟨Or.inr (by decide), ht.2⟩, bind_def,
    undoGetToken_succ _ _ (s.pos + args.length + 1) rfl]
  dsimp only
  rw [if_pos (by decide), undoGetToken_succ _ _ (s.pos + args.length) rfl]
  exact ⟨_, rfl, by rw [← hpos], rfl, rfl, rfl⟩

/-- **strict mode**: the same input is rejected with an error naming the unknown element's class, at the line of the
    unknown tag, before anything is skipped -/
theorem strict_rejects (e : Env) (hs : e.strict = true) (ctx : Ctx) (s : PState) (tag : List Char) (isBlock : Bool)
    (stop : List Nat) :
    handleUnknownTaggedstructTag ctx tag isBlock stop e s = .err ⟨.unknownSubBlock, s.lastLine⟩ s := by
  rw [handleUnknownTaggedstructTag, bind_def, errorOrLog_eval, if_pos hs]

/-- an unknown block that is never closed is an error in non-strict mode too (no silent partial result; strict mode:
    `strict_rejects`) -/
theorem skip_block_eof (e : Env) (hns : e.strict = false) (ctx : Ctx) (s : PState)
    (pre body : List PTok) (tag : List Char) (stop : List Nat)
    (htoks : e.toks.toList = pre ++ body) (hpos : s.pos = pre.length) (hbody : body ≠ [])
    (hnodip : NoDipFrom 0 body) :
    ∃ s', handleUnknownTaggedstructTag ctx tag true stop e s = .err ⟨.unexpectedEOF, s'.lastLine⟩ s' := by
  obtain ⟨h1, ll, h⟩ := handleUnknown_body ctx tag true stop e s pre body [] hns (by rw [htoks, List.append_nil]) hpos
    (by simpa using hbody) hnodip (by simp)
  rw [h, skipUnknownLoop_nil _ _ _ _ _ _ _ _ (by simp) h1]
  exact ⟨_, rfl⟩

/-! ## non-vacuity: a concrete unknown block with a nested block, a keyword of the parent inside, a comment -/
example :
    let mk (ty : Nat) (s : String) (sym : Nat) : PTok := { ty := ty, text := s.toList, line := 1, sym := sym }
    let body := [mk 0 "X" 7, mk 5 "1" noSym, mk 1 "/begin" noSym, mk 0 "INNER" noSym, mk 6 "/* c */" noSym,
                 mk 2 "/end" noSym, mk 0 "INNER" noSym]
    depth body = 0 ∧ NoDipFrom 0 body := by
  simp [depth, NoDipFrom]

end A2l.Tree
