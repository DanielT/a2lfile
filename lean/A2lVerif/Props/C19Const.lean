import A2lVerif.Props.C19
import A2lVerif.Lemmas.A2mlDepth
/-!
# C19, the text constant: `renderSpec` (model of `generate_a2ml_constant` for specifications without named types)

NOT PROVED in general: `parseA2ml (renderSpec S) = .ok S'` with `S'` = `S` up to the parser's normalisations (members
of a tagged type and enum items in reverse order of the text, `insert` semantics for repeated names). What is
checked:
* here, in the kernel: the rendering of a small tree is the expected text; the constant of the `RootStruct`
  specification of the harness (`ROOTSTRUCT_TEXT`, as recorded in the `aml` request) parses, its tree renders to a
  text that parses again, and the two trees have the same `dump_spec` text;
* by the driver (`amlrt`, model-only): the same round trip for all six recorded constants and for all 813 other
  definitions that occur in the recorded `typ` requests: 819 x `ok`.
Since the A2ML parser limits the nesting depth (`MAX_NESTING_DEPTH = 100`, Props/C18.lean 5a'), the round trip can
only hold for specifications of at most 100 levels: `renderSpec_roundtrip_needs_depth` (for a deeper `S` no text at
all parses to `S`, whatever `renderSpec` prints). The specifications that the macro generates from Rust types are a
few levels deep (`rootStruct_depth`).
That the constant is accepted by the library's parser and describes the structure of the typed code is tied by the
recorded requests themselves: the `aml` lines (the library's parser and the model's parser print the same structure
for the constant, and the harness compares it with the specification) and the `typ` lines, whose typed decoding in
the model uses `S = parseA2ml constant`: a typed type that differed from the constant's structure would show up as
a difference there.
-/
namespace A2l.Typed
open A2l.Aml

def renderRoundTrip (text : String) : Bool :=
  match parseA2ml text.toList with
  | .ok S => dumpOf (parseA2ml (renderSpec S)) == some (dumpSpec S)
  | _ => false

def depthOf (text : String) : Option Nat :=
  match parseA2ml text.toList with
  | .ok S => some (specDepth S)
  | _ => none

/-- `ROOTSTRUCT_TEXT` -/
def rootStructText : String := "      block \"IF_DATA\" struct {\n        uint;\n        char[10];\n        taggedstruct {\n          \"T1\" uint;\n          (\"T2\" char[5])*;\n          block \"SEQUENCE\" (char[12])*;\n        };\n      };"

/-- `SAMENAME_TEXT`: one identifier for a struct, a tagged struct and an enum (A2ML keeps one name space per kind of type;
    seeded change C19-8 merged them) -/
def sameNameText : String := "      struct Timing {\n        uint;\n        uchar;\n      };\n\n      taggedstruct Timing {\n        \"T\" uint;\n        (\"R\" int)*;\n      };\n\n      enum Timing {\n        \"FAST\" = 1,\n        \"SLOW\" = 2\n      };\n\n      block \"IF_DATA\" taggedunion {\n        \"S\" struct Timing;\n        \"TS\" taggedstruct Timing;\n        \"E\" enum Timing;\n      };"

/-- the facts about the text constants in one evaluation: the kernel unfolds tokenizer and parser at a budget once, and
    tokenizes and parses `ROOTSTRUCT_TEXT` once. The texts come into the goal by `rw`: `unfold` and `delta` leave a cast
    that the kernel checks by evaluating the goal on both forms of the text, literal included. -/
theorem consts_eval :
    (renderRoundTrip rootStructText = true ∧ depthOf rootStructText = some 5) ∧
    dumpOf (parseA2ml sameNameText.toList) =
      some "tu{(\"E\" 0 0 enum{\"FAST\"=Some(1) \"SLOW\"=Some(2) })(\"S\" 0 0 struct{uint uchar })(\"TS\" 0 0 ts{(\"R\" 0 1 int)(\"T\" 0 0 uint)})}".toList ∧
    renderSpec exSpec =
      "block \"IF_DATA\" taggedunion { \"X\" struct { uint; char[10]; float; }; block \"B\" taggedstruct { (\"T\" uchar)*; \"N\" ; }; };".toList := by
  rw [renderRoundTrip, depthOf, rootStructText, sameNameText, toList_of_eq_ofList (by with_reducible rfl),
    toList_of_eq_ofList (by with_reducible rfl), toList_of_eq_ofList (by with_reducible rfl),
    toList_of_eq_ofList (by with_reducible rfl)]
  decide +kernel

theorem renderSpec_roundtrip_rootStruct : renderRoundTrip rootStructText = true := consts_eval.1.1

/-- the `RootStruct` specification is 5 levels deep (struct, tagged struct, `( )*`, `[12]`, `char`) -/
theorem rootStruct_depth : depthOf rootStructText = some 5 := consts_eval.1.2

/-- the model's parser accepts it and resolves each reference in the name space of its own kind (the same dump as the
    library prints for the constant: `aml` tie) -/
theorem sameName_constant_accepted : dumpOf (parseA2ml sameNameText.toList) =
    some "tu{(\"E\" 0 0 enum{\"FAST\"=Some(1) \"SLOW\"=Some(2) })(\"S\" 0 0 struct{uint uchar })(\"TS\" 0 0 ts{(\"R\" 0 1 int)(\"T\" 0 0 uint)})}".toList :=
  consts_eval.2.1

example : renderSpec exSpec =
    "block \"IF_DATA\" taggedunion { \"X\" struct { uint; char[10]; float; }; block \"B\" taggedstruct { (\"T\" uchar)*; \"N\" ; }; };".toList :=
  consts_eval.2.2

/-- **the round trip needs `specDepth S ≤ 100`**: a specification of more than 100 levels is not the result of
    parsing any text, in particular not of its own rendering -/
theorem renderSpec_roundtrip_needs_depth (S : Spec) (h : 100 < specDepth S) (cs : List Char) : parseA2ml cs ≠ .ok S := by
  intro hp
  have := parseA2ml_depth cs S hp
  omega

/-- such specifications exist (100 structs around `int`), and the bound is sharp (99 structs are parsed) -/
example : 100 < specDepth (nestSpec 100) := by rw [specDepth_nestSpec]; decide
example : specDepth (nestSpec 99) ≤ 100 ∧ parseA2ml (nestDeclText 99) = .ok (nestSpec 99) := by
  rw [specDepth_nestSpec, parseA2ml_nest]
  exact ⟨by decide, rfl⟩

end A2l.Typed
