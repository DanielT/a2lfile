import A2lVerif.Lemmas.TreeWriter
/-!
# C05 — layout preservation and edit locality (the writer's side)

Property theorems only; model in Model/Tree.lean (`addWhitespace`, `addGroup`, `tagLe`, mirroring `writer.rs`
`add_whitespace`, `add_group`, `sort_function`, `apply_position_restrictions`). Quantification: every group of tagged
items of any size, every indent, every item.
-/
namespace A2l.Tree

/-- the text one tagged item contributes (definition in Lemmas/TreeWriter.lean): leading line breaks, optional
    `/begin`, tag, body, optional `/end` tag behind the white space for the end offset the writer uses (`endOffOf`) -/
theorem chunk_def (indent : Nat) (item : TagInfo) : chunk indent item =
  addWhitespace indent item.startOff ++ (if item.isBlock then "/begin ".toList else []) ++ item.tag ++ item.text ++
    (if item.isBlock then addWhitespace indent (endOffOf item.endOff item.text) ++ "/end ".toList ++ item.tag
     else []) := rfl

/-- the end offset the writer uses (`writer.rs`, `add_group`): the recorded one, except that 0 becomes 1 if the
    item's text ends inside a `//` comment (the comment would swallow the `/end`) -/
theorem endOffOf_def (endOff : Nat) (text : List Char) :
    endOffOf endOff text = if endOff = 0 ∧ endsInLineComment text then 1 else endOff := rfl

/-- `ends_in_line_comment` scans the whole text, starting outside of strings and comments: is the state behind it
    "inside a `//` comment"? (`lcScan` in Model/Tree.lean is the loop of the Rust function, state for state) -/
theorem endsInLineComment_def (text : List Char) :
    endsInLineComment text = (lcScan .outside text == .lineComment) := rfl

theorem endOffOf_of_pos (endOff : Nat) (text : List Char) (h : endOff ≠ 0) : endOffOf endOff text = endOff := by
  simp [endOffOf, h]

theorem endOffOf_of_no_line_comment (endOff : Nat) (text : List Char) (h : endsInLineComment text = false) :
    endOffOf endOff text = endOff := by
  simp [endOffOf, h]

/-- **`/end` behind a line comment starts on a new line**: for a block item whose text ends in a `//` comment, the
    white space written between the text and `/end` starts with a line break, whatever the recorded end offset is -/
theorem end_behind_line_comment_newline (indent : Nat) (item : TagInfo) (hb : item.isBlock = true)
    (hc : endsInLineComment item.text = true) :
    ∃ ws rest, chunk indent item =
        addWhitespace indent item.startOff ++ "/begin ".toList ++ item.tag ++ item.text ++ ws ++ "/end ".toList ++ item.tag ∧
      ws = addWhitespace indent (endOffOf item.endOff item.text) ∧ ws = '\n' :: rest ∧ 1 ≤ endOffOf item.endOff item.text := by
  have h1 : 1 ≤ endOffOf item.endOff item.text := by
    unfold endOffOf
    by_cases h0 : item.endOff = 0
    · simp [h0, hc]
    · simp [h0]; omega
  refine ⟨_, _, ?_, rfl, addWhitespace_of_ne_zero indent (by omega), h1⟩
  simp [chunk, hb]

/-- items that the plain-concatenation reading applies to (definition in Lemmas/TreeWriter.lean): no comments and no
    position restrictions in the group (comments only change the line breaks of their successor, restricted items are
    permuted among their own slots) -/
theorem Plain_def (g : List TagInfo) : Plain g ↔ ∀ x ∈ g, x.isComment = false ∧ x.pos = none := Iff.rfl

/-- **same line numbers**: an item whose recorded offset is n starts exactly n line breaks after the end of the
    previous item's text — `add_whitespace(n)` is n line breaks followed by blanks only (or a single blank for n = 0) -/
theorem addWhitespace_newlines (indent n : Nat) :
    countNewlines (addWhitespace indent n) = n ∧ ∀ c ∈ addWhitespace indent n, c = '\n' ∨ c = ' ' :=
  ⟨countNewlines_addWhitespace indent n, fun _ => mem_addWhitespace⟩

/-- **the output of a group is the concatenation of per-item chunks in sorted order**, and a chunk depends on its
    item only -/
theorem addGroup_chunks (indent : Nat) (g : List TagInfo) (hp : Plain g) :
    addGroup indent g = (g.mergeSort tagLe).flatMap (chunk indent) := addGroup_plain indent g hp

/-- the writer's order is a permutation of the group, sorted by `tagLe` -/
theorem sorted_perm (g : List TagInfo) :
    (g.mergeSort tagLe).Perm g ∧ (g.mergeSort tagLe).Pairwise (fun a b => tagLe a b = true) :=
  ⟨List.mergeSort_perm g tagLe, List.pairwise_mergeSort tagLe_trans tagLe_total g⟩

/-- **edit locality, change**: replacing one item by an item with the same sort key (uid, line, tag) — i.e. editing
    fields of one element — changes exactly that element's chunk: the text before and after it is unchanged -/
theorem edit_local_change (indent : Nat) (g1 g2 : List TagInfo) (x x' : TagInfo)
    (hp : Plain (g1 ++ x :: g2)) (hp' : Plain (g1 ++ x' :: g2))
    (hkey : x'.uid = x.uid ∧ x'.line = x.line ∧ x'.tag = x.tag) :
    ∃ pre post, addGroup indent (g1 ++ x :: g2) = pre ++ chunk indent x ++ post ∧
                addGroup indent (g1 ++ x' :: g2) = pre ++ chunk indent x' ++ post := by
  obtain ⟨l₁, l₂, e₁, e₂⟩ := mergeSort_oneChanged tagLe_trans tagLe_total x x'
    (fun y => by unfold tagLe; rw [hkey.1, hkey.2.1, hkey.2.2])
    (fun y => by unfold tagLe; rw [hkey.1, hkey.2.1, hkey.2.2]) g2 g1
  refine ⟨l₁.flatMap (chunk indent), l₂.flatMap (chunk indent), ?_, ?_⟩
  · rw [addGroup_plain indent _ hp, e₁]; simp
  · rw [addGroup_plain indent _ hp', e₂]; simp

/-- **edit locality, add / remove**: adding (or removing) one item adds (removes) exactly its chunk -/
theorem edit_local_insert (indent : Nat) (g1 g2 : List TagInfo) (x : TagInfo) (hp : Plain (g1 ++ x :: g2)) :
    ∃ pre post, addGroup indent (g1 ++ g2) = pre ++ post ∧
                addGroup indent (g1 ++ x :: g2) = pre ++ chunk indent x ++ post := by
  obtain ⟨l₁, l₂, e₁, e₂⟩ := mergeSort_oneMore tagLe_trans tagLe_total x g2 g1
  refine ⟨l₁.flatMap (chunk indent), l₂.flatMap (chunk indent), ?_, ?_⟩
  · rw [addGroup_plain indent _ hp.remove, e₁]; simp
  · rw [addGroup_plain indent _ hp, e₂]; simp

/-- **a new element (uid 0) is written behind all placed elements**: nothing that was already in the file moves -/
theorem new_item_last (indent : Nat) (g : List TagInfo) (x : TagInfo) (hp : Plain (g ++ [x]))
    (hx : x.uid = 0) (hg : ∀ y ∈ g, y.uid ≠ 0) :
    addGroup indent (g ++ [x]) = addGroup indent g ++ chunk indent x := by
  have hpg : Plain g := by simpa using hp.remove
  rw [addGroup_plain indent _ hp, addGroup_plain indent _ hpg,
    mergeSort_append_last tagLe_trans tagLe_total x g (fun y hy => by simp [tagLe, hx, hg y hy])]
  simp

/-- the offsets the writer uses after the `fix:` commit (definition in Lemmas/TreeWriter.lean): going through the
    sorted group with the flag `after_line_comment` (initially false), an element or kept comment whose recorded
    start offset is 0 while the flag is set is written with offset 1; the flag is cleared by every element and
    recomputed by every kept comment (`comment.trim_start().starts_with("//")`); nothing else changes -/
theorem bumpItems_def (alc : Bool) (item : TagInfo) (rest : List TagInfo) :
    bumpItems alc (item :: rest) =
      if item.isComment then
        if item.included then item :: bumpItems alc rest
        else { item with startOff := bumpOff alc item.startOff } :: bumpItems (isLineCommentText item.text) rest
      else { item with startOff := bumpOff alc item.startOff } :: bumpItems false rest := rfl

theorem bumpOff_def (alc : Bool) (n : Nat) : bumpOff alc n = if alc ∧ n = 0 then 1 else n := rfl

/-- **with comments**: the output of any group without position-restricted items is the concatenation of the
    per-item contributions in sorted order, where the item directly behind a written `//` comment is written with
    start offset 1 if its recorded offset is 0 (a line comment extends to the end of its line); comments are written
    verbatim behind their line breaks (`chunkC`, defined in Lemmas/TreeWriter.lean) -/
theorem addGroup_chunks_comments (indent : Nat) (g : List TagInfo) (hp : ∀ x ∈ g, x.pos = none) :
    addGroup indent g = (bumpItems false (g.mergeSort tagLe)).flatMap (chunkC indent) :=
  addGroup_noPos indent g hp

theorem bumpItems_no_comments (l : List TagInfo) (h : ∀ x ∈ l, x.isComment = false) : bumpItems false l = l :=
  bumpItems_plain l h

/-! ## non-vacuity -/
def sampleItem : TagInfo :=
  { isComment := false, tag := "A".toList, uid := 3, line := 7, startOff := 1, endOff := 1,
    isBlock := true, text := " x".toList, pos := none, included := false }
example : Plain [sampleItem] := by
  intro x hx
  simp only [List.mem_singleton] at hx
  subst hx
  exact ⟨rfl, rfl⟩

/-- a block whose content ends in a line comment, recorded end offset 0: `/end` is written on a new line -/
def sampleCmtItem : TagInfo :=
  { isComment := false, tag := "A".toList, uid := 3, line := 7, startOff := 1, endOff := 0,
    isBlock := true, text := " x // note".toList, pos := none, included := false }
example : chunk 0 sampleCmtItem = "\n/begin A x // note\n/end A".toList := by
  rw [toList_of_eq_ofList (by with_reducible rfl), sampleCmtItem, toList_of_eq_ofList (by with_reducible rfl),
    toList_of_eq_ofList (by with_reducible rfl)]
  decide +kernel
example : chunk 0 { sampleCmtItem with text := " x".toList } = "\n/begin A x /end A".toList := by
  rw [toList_of_eq_ofList (by with_reducible rfl), sampleCmtItem, toList_of_eq_ofList (by with_reducible rfl),
    toList_of_eq_ofList (by with_reducible rfl), toList_of_eq_ofList (by with_reducible rfl)]
  decide +kernel

example : endsInLineComment "  // note".toList = true := by
  rw [toList_of_eq_ofList (by with_reducible rfl)]
  decide +kernel
example : endsInLineComment "FORMAT \"http://x\"".toList = false := by
  rw [toList_of_eq_ofList (by with_reducible rfl)]
  decide +kernel
example : endsInLineComment "/* a // b */ X".toList = false := by
  rw [toList_of_eq_ofList (by with_reducible rfl)]
  decide +kernel
example : endsInLineComment "X /* c */ // y".toList = true := by
  rw [toList_of_eq_ofList (by with_reducible rfl)]
  decide +kernel
example : endsInLineComment "a\n// c\nb".toList = false := by
  rw [toList_of_eq_ofList (by with_reducible rfl)]
  decide +kernel
example : endsInLineComment "/* a\n \" */ // c".toList = true := by
  rw [toList_of_eq_ofList (by with_reducible rfl)]
  decide +kernel
example : endsInLineComment "/* a\n // b */".toList = false := by
  rw [toList_of_eq_ofList (by with_reducible rfl)]
  decide +kernel
example : endsInLineComment "a // c\nb".toList = false := by
  rw [toList_of_eq_ofList (by with_reducible rfl)]
  decide +kernel
example : endsInLineComment "x \"a // b\"".toList = false := by
  rw [toList_of_eq_ofList (by with_reducible rfl)]
  decide +kernel
example : endsInLineComment "a\n// c".toList = true := by
  rw [toList_of_eq_ofList (by with_reducible rfl)]
  decide +kernel
example : endsInLineComment "/*/ // x".toList = false := by
  rw [toList_of_eq_ofList (by with_reducible rfl)]
  decide +kernel
example : endsInLineComment "\"a\\\" // x".toList = false := by
  rw [toList_of_eq_ofList (by with_reducible rfl)]
  decide +kernel
example : endsInLineComment "/* open".toList = false := by
  rw [toList_of_eq_ofList (by with_reducible rfl)]
  decide +kernel
example : endsInLineComment "x /".toList = false := by
  rw [toList_of_eq_ofList (by with_reducible rfl)]
  decide +kernel

end A2l.Tree
