import A2lVerif.Lemmas.Lex
/-!
# C03 (tokenizer part) — `tokenize_core` is total and its tokens are well-formed

Model: `Model/Lex.lean`, an index-faithful transcription of `tokenize_core`, `find_block_comment_end`,
`find_string_end`, `handle_a2ml`, `separator_check`, `count_newlines`, `is_pathchar`, `is_identchar`, `is_numchar` of
`src/tokenizer.rs` (fixed tree) in which every slice index, sub-slice, `usize` subtraction and `unwrap` has an explicit
`panic` outcome.  The model is tied to the real implementation by the correspondence check on the token dump
(`Driver/Lex.lean`, DESIGN.md section 2.4).  The outer loop runs on fuel `len + 1`; `lex_no_hang` shows that the fuel is
never exhausted (every iteration consumes at least one byte).

All theorems are read off `tokenize_post` (Lemmas/Lex.lean), which is proved from a loop invariant `Inv`
preserved by every arm of the main loop (`step_good`).
-/
namespace A2l.Lex

/-- **no panic**: no index out of range, no slice out of range, no `usize` underflow, no failed `unwrap`,
    for every byte string (valid UTF-8 or not) -/
theorem lex_no_panic (b : Bytes) : tokenize b ≠ .panic :=
  tokenize_post_of

/-- **termination**: the main loop needs at most `len` iterations (each one consumes at least one byte) -/
theorem lex_no_hang (b : Bytes) : tokenize b ≠ .hang :=
  tokenize_post_of

/-- **token invariants**: non-empty in-range spans, monotone line numbers, tokens in order and non-overlapping
    (this includes comment tokens, whose start is moved back over the preceding blanks) -/
theorem lex_inv (b : Bytes) (ts : List Token) (h : tokenize b = .ok ts) :
    (∀ t ∈ ts, t.startpos < t.endpos ∧ t.endpos ≤ b.size) ∧
    ts.Pairwise (fun a c => a.line ≤ c.line) ∧
    ts.Pairwise (fun a c => a.endpos ≤ c.startpos) :=
  have := tokenize_post_of h; ⟨this.1, this.2.1, this.2.2.1⟩

/-- **error lines are 1-based** -/
theorem err_line_pos (b : Bytes) (k : ErrKind) (l : Nat) (h : tokenize b = .err k l) : 1 ≤ l :=
  tokenize_post_of h

/-- **token boundaries are char boundaries** when no continuation byte follows an ASCII byte or starts the text
    (`Utf8Ok`, a consequence of UTF-8 validity): this is what makes the `&str` slicing in `handle_a2ml`
    (`&filedata[startpos..endpos]`) and in `get_token_text` panic-free -/
theorem lex_boundaries (b : Bytes) (hu : Utf8Ok b) (ts : List Token) (h : tokenize b = .ok ts) :
    ∀ t ∈ ts, IsCharBoundary b t.startpos ∧ IsCharBoundary b t.endpos := by
  intro t ht
  have := (tokenize_post_of h).2.2.2.1 hu t ht
  exact ⟨this.1.isCharBoundary, this.2.isCharBoundary⟩

/-- **token lines are 1-based** -/
theorem lex_line_pos (b : Bytes) (ts : List Token) (h : tokenize b = .ok ts) : ∀ t ∈ ts, 1 ≤ t.line :=
  (tokenize_post_of h).2.2.2.2.1

/-- **a token behind a comment is not above the comment's last line**: a comment token carries the line on which
    it starts; every later token's line is at least that line plus the number of newline bytes in the comment's span
    (`nlCount b a e` = number of bytes 10 in `b[a..e)`, the total version of the model's `countNewlines`, see
    `countNewlines_eq`; the blanks before `/*` that belong to the span contain no newline) -/
theorem lex_comment_lines (b : Bytes) (ts : List Token) (h : tokenize b = .ok ts) :
    ∀ i j (hi : i < ts.length) (hj : j < ts.length), i < j → ts[i].ttype = .comment →
      ts[i].line + nlCount b ts[i].startpos ts[i].endpos ≤ ts[j].line :=
  List.pairwise_iff_getElem.1 (tokenize_post_of h).2.2.2.2.2

/-- `nlCount` is what the model's `count_newlines(&filebytes[a..e])` computes -/
example (b : Bytes) (a e : Nat) (h1 : a ≤ e) (h2 : e ≤ b.size) : countNewlines b a e = .ok (nlCount b a e) :=
  countNewlines_eq h1 h2

/-! ### non-vacuity -/

/-- `/begin A2ML x /end A2ML` -/
def sampleA2ml : Bytes :=
  #[47, 98, 101, 103, 105, 110, 32, 65, 50, 77, 76, 32, 120, 32, 47, 101, 110, 100, 32, 65, 50, 77, 76]

example : tokenize sampleA2ml = .ok
    [{ ttype := .begin, startpos := 0, endpos := 6, line := 1 },
     { ttype := .identifier, startpos := 7, endpos := 11, line := 1 },
     { ttype := .string, startpos := 11, endpos := 13, line := 1 },
     { ttype := .end_, startpos := 14, endpos := 18, line := 1 },
     { ttype := .identifier, startpos := 19, endpos := 23, line := 1 }] := by decide +kernel

/-- `"é" // é`: the comment token starts at the blank before `//`, directly after the string token -/
def sampleUtf8 : Bytes := #[34, 0xC3, 0xA9, 34, 32, 47, 47, 32, 0xC3, 0xA9]

example : tokenize sampleUtf8 = .ok
    [{ ttype := .string, startpos := 0, endpos := 4, line := 1 },
     { ttype := .comment, startpos := 4, endpos := 10, line := 1 }] := by decide +kernel

example : Utf8Ok sampleUtf8 := by
  unfold Utf8Ok
  decide +kernel

/-- `x /*\n\n*/ y`: the comment starts on line 1 (span `[1, 8)`, two newlines), `y` is on line 3 -/
def sampleComment : Bytes := #[120, 32, 47, 42, 10, 10, 42, 47, 32, 121]

example : tokenize sampleComment = .ok
    [{ ttype := .identifier, startpos := 0, endpos := 1, line := 1 },
     { ttype := .comment, startpos := 1, endpos := 8, line := 1 },
     { ttype := .identifier, startpos := 9, endpos := 10, line := 3 }] ∧ nlCount sampleComment 1 8 = 2 := by
  decide +kernel

/-- the errors are reachable -/
example : tokenize #[47, 42] = .err .UnclosedComment 1 := by decide +kernel
example : tokenize #[10, 34, 97] = .err .UnclosedString 2 := by decide +kernel
example : tokenize #[34, 34, 97] = .err .MissingWhitespace 1 := by decide +kernel
example : tokenize #[48, 120] = .err .InvalidNumericalConstant 1 := by decide +kernel
example : tokenize #[10, 10, 36] = .err .InvalidA2lToken 3 := by decide +kernel

/-- `lex_boundaries` needs its hypothesis: in `/begin A2ML\x80` (not UTF-8) the A2ML string token starts at
    the continuation byte -/
example : tokenize #[47, 98, 101, 103, 105, 110, 32, 65, 50, 77, 76, 0x80] = .ok
    [{ ttype := .begin, startpos := 0, endpos := 6, line := 1 },
     { ttype := .identifier, startpos := 7, endpos := 11, line := 1 },
     { ttype := .string, startpos := 11, endpos := 12, line := 1 }] := by decide +kernel

/-! ### the defect of the pinned tree

In the pinned tree `handle_a2ml` advanced over a "solitary `/`" with an unguarded `bytepos += 1` (also when the
inner scan had already reached the end of input, leaving `bytepos = len + 1`), and the trailing trim indexed
`filebytes[bytepos - 1]` without the `bytepos > startpos` guard.  `/begin A2ML x` panicked. -/
namespace Pinned

/-- the pinned `while !done && bytepos < datalen` loop (fuel-bounded; only the last arm differs) -/
def a2mlLoop (b : Bytes) : Nat → Nat → Out Nat
  | 0, pos => .ok pos
  | fuel + 1, pos =>
    if pos < b.size then
      let p1 := skipWhile b notSlash pos
      match startsWith b p1 kwSlashSlash with
      | .panic => .panic
      | .ok true => a2mlLoop b fuel (skipWhile b notNewline (p1 + 2))
      | .ok false =>
        match startsWith b p1 kwSlashStar with
        | .panic => .panic
        | .ok true =>
          if b.size = 0 then .panic
          else
            match a2mlBlockLoop b (p1 + 2) with
            | .panic => .panic
            | .ok p2 => a2mlLoop b fuel (if p2 + 2 > b.size then b.size else p2 + 2)
        | .ok false =>
          match startsWith b p1 kwSlashEnd with
          | .panic => .panic
          | .ok true => .ok p1
          | .ok false => a2mlLoop b fuel (p1 + 1)          -- unguarded `bytepos += 1`
    else .ok pos

/-- the pinned trim loop: `while ws(filebytes[bytepos - 1]) && … { bytepos -= 1 }` -/
def trimLoop (b : Bytes) : Nat → Out Nat
  | 0 => .panic                                            -- `bytepos - 1` underflows
  | p + 1 =>
    match b[p]? with
    | none => .panic                                       -- index out of range
    | some c => if isWs c && c != 13 && c != 10 then trimLoop b p else .ok (p + 1)

def a2mlBody (b : Bytes) (startpos : Nat) : Out Nat :=
  match a2mlLoop b (b.size + 1) startpos with
  | .panic => .panic
  | .ok p => trimLoop b p

end Pinned

/-- `/begin A2ML x` -/
def sampleUnclosedA2ml : Bytes := #[47, 98, 101, 103, 105, 110, 32, 65, 50, 77, 76, 32, 120]

/-- the pinned code leaves `bytepos = len + 1` and panics on `filebytes[bytepos - 1]` … -/
theorem pinned_a2ml_panics :
    Pinned.a2mlLoop sampleUnclosedA2ml 14 11 = .ok 14 ∧ Pinned.a2mlBody sampleUnclosedA2ml 11 = .panic := by
  decide +kernel

/-- … the fixed code does not -/
example : a2mlBody sampleUnclosedA2ml 11 = .ok 13 := by decide +kernel
example : tokenize sampleUnclosedA2ml = .ok
    [{ ttype := .begin, startpos := 0, endpos := 6, line := 1 },
     { ttype := .identifier, startpos := 7, endpos := 11, line := 1 },
     { ttype := .string, startpos := 11, endpos := 13, line := 1 }] := by decide +kernel

end A2l.Lex
