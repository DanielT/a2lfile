import A2lVerif.Lemmas.CheckerSpec
import A2lVerif.Lemmas.CheckerGroups
/-!
# C11 — check(): total, sound and complete — on the structural model of `checker.rs`

`Props/C11.lean` states soundness and completeness for the abstract reference graph. This file states the property for
`Model/Checker.lean`, the function-by-function model of `checker.rs` (which list is searched for which field, the order of
the reports, every place where the Rust code indexes or unwraps as an explicit `Out.panic`), which the correspondence
check compares with the real `check()` report by report (`chkfull`). The specification is `sitesOf`: every covered
reference with its target name space, the three reserved words, and the `THIS.` convention.
-/
namespace A2l.Chk

/-! ## the specification (definitions in `Lemmas/CheckerSpec.lean`, restated by `rfl`) -/

example (reserved target : Name) (space : List Name) :
    convSite reserved target space = ⟨target, target == reserved || space.contains target⟩ := rfl
example (target : Name) (space : List Name) : nameSite target space = ⟨target, space.contains target⟩ := rfl
example (ss : List Site) : dangling ss = (ss.filter fun x => !x.resolves).map (·.target) := rfl

/-- the objects name space: AXIS_PTS ∪ BLOB ∪ CHARACTERISTIC ∪ INSTANCE ∪ MEASUREMENT -/
example (m : Module) : m.objects =
    m.axisPts.map (·.name) ++ m.blob ++ m.characteristic.map (·.name) ++ m.instance_.map (·.name) ++
      m.measurement.map (·.name) := rfl
example (m : Module) : m.compuTabs = m.compuTab ++ m.compuVtab ++ m.compuVtabRange := rfl
example (m : Module) : m.typedefs =
    m.typedefAxis.map (·.name) ++ m.typedefBlob ++ m.typedefMeasurement.map (·.name) ++
      m.typedefCharacteristic.map (·.name) ++ m.typedefStructure.map (·.name) := rfl

/-- AXIS_DESCR: input quantity → objects (`NO_INPUT_QUANTITY`), conversion → COMPU_METHOD (`NO_COMPU_METHOD`),
    AXIS_PTS_REF / CURVE_AXIS_REF → objects or, under the `THIS.` rule, components of every containing structure -/
example (m : Module) (direct : Bool) (containing : List TypedefStructure) (ad : AxisDescr) :
    axisDescrSites m direct containing ad =
      [convSite (s "NO_INPUT_QUANTITY") ad.inputQuantity m.objects,
       convSite (s "NO_COMPU_METHOD") ad.conversion m.compuMethodNames] ++
      optThisSite ad.axisPtsRef m.objects direct containing ++ optThisSite ad.curveAxisRef m.objects direct containing := rfl

example (target : Name) (objects : List Name) (direct : Bool) (containing : List TypedefStructure) :
    thisSite target objects direct containing =
      match (if !direct && !containing.isEmpty then stripPrefix? (s "THIS.") target else none) with
      | some comp => ⟨comp, isValidStructureComponent comp containing⟩
      | none => nameSite target objects := rfl

example (m : Module) (c : Characteristic) : characteristicSites m c =
    charCommonSites m true [] c ++ optSite c.comparisonQuantity m.objects ++ listSites c.dependent m.objects ++
    listSites c.mapList m.objects ++ listSites c.virtualChar m.objects ++ listSites c.functionList m.functionNames ++
    memSegSite m c.refMemorySegment := rfl

example (m : Module) (cm : CompuMethod) : compuMethodSites m cm =
    optSite cm.compuTabRef m.compuTabs ++ optSite cm.refUnit m.unit ++ optSite cm.statusStringRef m.compuTabs := rfl

example (m : Module) (g : Group) : groupSites m g =
    listSites g.refChar m.objects ++ listSites g.refMeas m.objects ++ listSites g.functionList m.functionNames ++
    listSites g.subGroup m.groupNames := rfl

example (m : Module) (t : Transformer) : transformerSites m t =
    [convSite (s "NO_INVERSE_TRANSFORMER") t.inverse m.transformerNames] ++ listSites t.inObjects m.objects ++
    listSites t.outObjects m.objects := rfl

/-- **totality**: for every list of modules (any duplicates, any number of AXIS_DESCR, empty lists, no MOD_PAR, groups
    listing themselves, ...) `check` returns a report list; the three panic sites of `checker.rs` —
    `strip_prefix("THIS.").unwrap()`, `.expect("all groups should be in the groupinfo map")`, `gi.parents[0]` — are
    unreachable. (`axis_refs.get(idx)` and `axis_pts_names.get(idx)` are modelled with `[idx]?`; the seeded change
    `C11-2`, which turns the latter into `axis_pts_names[idx]`, breaks the correspondence and, carried into the model,
    this theorem.) -/
theorem check_never_panics (ms : List Module) : ∃ r, check ms = .ok r := ⟨_, check_eq ms⟩

/-- **sound and complete, with order and multiplicity**: the reported target names are exactly the targets of the covered
    reference sites that do not resolve in their target name space -/
theorem reports_exactly_the_dangling_references (m : Module) (r : List Report) (h : checkModule m = .ok r) :
    xrefTargets r = dangling (sitesOf m) := by
  obtain rfl := Out.ok.inj ((checkModule_eq m).symm.trans h)
  exact xt_module m

/-- several modules: each module is judged against its own name spaces -/
theorem reports_per_module (ms : List Module) (r : List Report) (h : check ms = .ok r) :
    xrefTargets r = ms.flatMap fun m => dangling (sitesOf m) := by
  obtain rfl := Out.ok.inj ((check_eq ms).symm.trans h)
  simp only [xrefTargets_flatMap, xt_module]

/-- **a fully consistent file yields no cross-reference report** -/
theorem consistent_module_no_report (m : Module) (r : List Report) (h : checkModule m = .ok r)
    (hc : ∀ st ∈ sitesOf m, st.resolves = true) : xrefTargets r = [] := by
  rw [reports_exactly_the_dangling_references m r h]
  exact map_filter_eq_nil _ fun st hst => by rw [hc st hst]; rfl

/-- **soundness**: every reported name is the target of a covered reference that does not resolve -/
theorem report_is_dangling (m : Module) (r : List Report) (h : checkModule m = .ok r) (t : Name)
    (ht : t ∈ xrefTargets r) : ∃ st ∈ sitesOf m, st.resolves = false ∧ st.target = t :=
  mem_dangling.1 (reports_exactly_the_dangling_references m r h ▸ ht)

/-- **completeness**: every covered reference that does not resolve is reported with its target name -/
theorem dangling_is_reported (m : Module) (r : List Report) (h : checkModule m = .ok r) (st : Site)
    (hst : st ∈ sitesOf m) (hr : st.resolves = false) : st.target ∈ xrefTargets r := by
  rw [reports_exactly_the_dangling_references m r h]
  exact mem_dangling.2 ⟨st, hst, hr, rfl⟩

/-- **one corrupted reference, one report**: if exactly one site does not resolve, the report names exactly its target -/
theorem one_corruption_one_report (m : Module) (r : List Report) (h : checkModule m = .ok r)
    (pre post : List Site) (st : Site) (hs : sitesOf m = pre ++ st :: post)
    (hpre : ∀ x ∈ pre, x.resolves = true) (hpost : ∀ x ∈ post, x.resolves = true) (hst : st.resolves = false) :
    xrefTargets r = [st.target] := by
  rw [reports_exactly_the_dangling_references m r h, hs]
  exact map_filter_single _ (fun x hx => by rw [hpre x hx]; rfl) (fun x hx => by rw [hpost x hx]; rfl)
    (by rw [hst]; rfl)

/-- the cross-reference reports of `check_group_structure` are the SUB_GROUP entries that name no GROUP — the same
    sites `check_group` has already diagnosed (a missing sub-group yields two reports) -/
theorem missing_sub_group_reported_twice (m : Module) (r : List Report) (h : checkGroupStructure m.group = .ok r) :
    xrefTargets r = dangling (m.group.flatMap fun g => listSites g.subGroup m.groupNames) :=
  xt_groupStructure m r h

/-- the groups that list `k` under SUB_GROUP — once per listing, in list order -/
example (gs : List Group) (k : Name) :
    parentsOf gs k = gs.flatMap fun g => ((g.subGroup.getD []).filter (· == k)).map fun _ => g.name := rfl

/-- the verdict on one group is a function of its ROOT flag and of the groups that list it: ROOT and listed (by several /
    by one group), not ROOT and listed more than once, not ROOT and listed by nobody -/
example (name : Name) (root : Bool) (parents : List Name) : groupVerdict name root parents =
    if root && decide (parents.length > 1) then [.groupStructure name (s "root-multi") parents]
    else if root && parents.length == 1 then [.groupStructure name (s "root-one") (parents.take 1)]
    else if !root && decide (parents.length > 1) then [.groupStructure name (s "multi") parents]
    else if !root && parents.isEmpty then [.groupStructure name (s "orphan") []]
    else [] := rfl

/-- **`check_group_structure` computes exactly this** — the `HashMap` bookkeeping (insert per group, `get_mut` + push per
    SUB_GROUP entry, `get` per group) is functionally correct: the result is the missing sub-groups followed by one
    verdict per group, from the ROOT flag the map holds for the group's name (`rootOf`: with duplicate names that of the
    LAST group of the name) and the parents of that name -/
theorem group_structure_closed_form (gs : List Group) :
    checkGroupStructure gs = .ok ((groupLink gs (groupInit gs)).2 ++ gs.flatMap (verdictFor gs)) :=
  checkGroupStructure_eq gs

example (gs : List Group) (g : Group) : verdictFor gs g =
    match rootOf gs g.name with
    | some r => groupVerdict g.name r (parentsOf gs g.name)
    | none => [] := rfl

/-- with pairwise different group names every group is judged by its own ROOT flag -/
theorem group_judged_by_own_flag (gs : List Group) (hnd : (gs.map (·.name)).Nodup) (g : Group) (hg : g ∈ gs) :
    verdictFor gs g = groupVerdict g.name g.root (parentsOf gs g.name) := by
  unfold verdictFor
  rw [rootOf_of_nodup gs hnd g hg]

/-- a well-formed group forest — different names, every ROOT group listed by nobody, every other group listed exactly
    once — yields no `GroupStructureError` -/
theorem well_formed_forest_no_verdict (gs : List Group) (hnd : (gs.map (·.name)).Nodup)
    (h : ∀ g ∈ gs, (parentsOf gs g.name).length = if g.root then 0 else 1) :
    checkGroupStructure gs = .ok (groupLink gs (groupInit gs)).2 := by
  rw [group_structure_closed_form, List.flatMap_eq_nil_iff.2 fun g hg => ?_, List.append_nil]
  rw [group_judged_by_own_flag gs hnd g hg]
  exact groupVerdict_eq_nil _ _ _ (h g hg)

/-- a group that is not ROOT and that no group lists is reported as an orphan (different names) -/
theorem orphan_is_reported (gs : List Group) (hnd : (gs.map (·.name)).Nodup) (g : Group) (hg : g ∈ gs)
    (hroot : g.root = false) (hnone : parentsOf gs g.name = []) :
    ∃ r, checkGroupStructure gs = .ok r ∧ Report.groupStructure g.name (s "orphan") [] ∈ r := by
  refine ⟨_, group_structure_closed_form gs, ?_⟩
  apply List.mem_append_right
  apply List.mem_flatMap.2
  refine ⟨g, hg, ?_⟩
  rw [group_judged_by_own_flag gs hnd g hg, hroot, hnone]
  exact List.mem_cons_self

/-! ## non-vacuity: a module with one characteristic whose sixth AXIS_DESCR is a standard axis (the input on which
    `check()` panicked before the fix), a dangling conversion, a `THIS.` reference outside a typedef, a group listing itself and a
    missing sub-group -/

def demoAxis (conv : String) : AxisDescr :=
  { attr := s "STD_AXIS", inputQuantity := s "NO_INPUT_QUANTITY", conversion := s conv, lower := 0, upper := 1,
    axisPtsRef := none, curveAxisRef := none }

def demoChar : Characteristic :=
  { name := s "c", ctype := s "CUBE_5", recordLayout := s "rl", conversion := s "NO_COMPU_METHOD", lower := 0,
    upper := 255,
    axisDescr := [demoAxis "NO_COMPU_METHOD", demoAxis "cm", demoAxis "NO_COMPU_METHOD", demoAxis "NO_COMPU_METHOD",
      demoAxis "NO_COMPU_METHOD", { (demoAxis "NO_COMPU_METHOD") with axisPtsRef := some (s "THIS.x") }] }

def demoLayout : RecordLayout :=
  { name := s "rl", fncValues := some .ubyte, axisPtsX := some .ubyte, axisPtsY := none, axisPtsZ := none,
    axisPts4 := none, axisPts5 := none }

def demoGroup : Group :=
  { name := s "g", root := true, refChar := some [s "c"], refMeas := none, functionList := none,
    subGroup := some [s "g", s "nogroup"] }

def demo : Module := { characteristic := [demoChar], recordLayout := [demoLayout], group := [demoGroup] }

theorem demo_dangling : dangling (sitesOf demo) = [s "cm", s "THIS.x", s "nogroup", s "nogroup"] := by decide +kernel

example : (match checkModule demo with | .ok r => xrefTargets r | .panic => [s "PANIC"]) =
    [s "cm", s "THIS.x", s "nogroup", s "nogroup"] := by
  rw [checkModule_eq]
  exact (xt_module demo).trans demo_dangling

example : dangling (sitesOf demo) = [s "cm", s "THIS.x", s "nogroup", s "nogroup"] := demo_dangling

/-- the demo group lists itself and is ROOT: one parent (itself) -/
example : parentsOf demo.group (s "g") = [s "g"] ∧ rootOf demo.group (s "g") = some true := by decide +kernel

end A2l.Chk
