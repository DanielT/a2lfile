import A2lVerif.Lemmas.TypedOnce
import A2lVerif.Lemmas.TypedEqv
import A2lVerif.Lemmas.TypedContent
import A2lVerif.Lemmas.A2mlDepth
/-!
# C19 — `a2ml_specification!`: typed IF_DATA access round-trips

Property theorems only. Model: Model/Typed.lean (the `fixup_*` phase of the macro as `fixItem` / `blockItems`, the
generated `parse` as `typedLoad`, the generated `store` as `typedStore`, `load_from_ifdata` / `store_to_ifdata`);
tie: the `typ` request of the driver (Driver/Typed.lean), 0 differences on the recorded requests. Proofs:
Lemmas/Typed*.lean. Quantification: every type tree `S : Spec`, every generic value `g : Gen`, every typed value
`v : TVal`; no bounds.

Summary of what is proved and what is FALSE for the code as it is

1. `load_store`: for every well-typed value (`TypedOk S v`, decidable) of a specification whose tagged members have
   pairwise different tags (`TagsDistinct S`, decidable), `typedLoad (typedStore v) = v` EXACTLY, including all
   locations; `load_store_ifdata` is the same through `store_to_ifdata` / `load_from_ifdata` (the uid and the offsets
   of the root value are those of the `IfData` it is loaded from). `typedLoad_typedOk`: everything the typed load
   returns is well-typed. `load_store_eq`: for EVERY value of the generated type, whatever its `__block_info` (e.g. built
   with `new(..)` and `push`, where the locations are defaults or missing: `Shaped S v`, decidable), the stored value
   loads and the result is equal in the sense of the generated `PartialEq` (`Eqv`: all fields, no `__block_info`).
2. `mismatch_no_panic`: the typed load never panics, whatever the shape of the generic value (see Model/Typed.lean for
   the one site that was an unchecked index, `itemlist[0]` before fix 9bca58b, and why the model's `panic` result is
   unreachable); `loadFromIfdata_invalid`: an `IfData` that is not flagged valid yields `None`.
3. `conforming_decodes`: content that the interpreter of C18 accepted under `S` decodes to a value, for every `S`
   with `Flat S` and `TagsDistinct S` (both decidable; both hold for every specification that the macro compiles).
   `store_load_content`: what the decoded value stores is `Sim`ilar to the original and is WRITTEN AS THE SAME TEXT
   (no member that is not declared `( ... )*` occurs twice in accepted content: `interpreted_no_repeat`, from the
   multiplicity check that `parse_ifdata_taggedstruct` has since fix 9daacf5). The examples before `SimT_def` below say
   precisely what may differ: the order of the items inside one tagged struct (a hash map in Rust; the writer
   sorts by uid) and `Block []` for `Block [None]` as the data of a tagged item without data. Lines, uids, offsets,
   tags, block-ness, values, hex flags are equal. (`incfile` is not modelled.)

FALSE as drafted, each with a concrete input:
* `old_store_dropped_repeated_member` (CONFIRMED ON THE RUST LIBRARY, FIXED in 9daacf5): `block "IF_DATA" taggedstruct
  { "X" uint; };` with `/begin IF_DATA X 1 X 2 /end IF_DATA`: the interpreter used to accept the block (flagged valid)
  with two items `X`; the typed value keeps only the first (`get_single_optitem` takes `itemlist.first()`),
  `store_to_ifdata` + write gave `X 1`. Now the second `X` is `InvalidMultiplicityTooMany`, the block is not valid, `load_from_ifdata`
  gives `None` and nothing is dropped (`repeated_member_not_valid`); the theorem is kept as a statement about the
  generic value that the old interpreter built.
* `old_fixup_struct_inlined_struct_members` (CONFIRMED ON THE RUST LIBRARY, FIXED in `fixup_struct`): before the fix a
  struct that is a member of a struct used as a member had its members inlined into the parent type, so a
  conforming block for `struct P { struct Q { int; int; }; uint; }` (one level below a tagged item) decoded to `None`.
* `stored_values_order` : `values (typedStore S v) = values g` is false as an equation of lists: the stored tagged
  struct lists its items member by member. It is an artefact of modelling the hash map as a list; the written text is
  equal (`store_load_content`).
* `conforming_decodes_needs_flat`: without `Flat S` the statement is false in the model (`(( uint )*)*` is flattened by
  `fixup_data_type`, the interpreter nests). No A2ML text denotes such a tree (`parse_aml_tagged_def` wraps a
  member, and a member is never a sequence), so this is not a finding about the library.
-/
namespace A2l.Typed
open A2l.Tree A2l.Aml A2l.IfData

/-! ## the definitions (checked by `rfl` / `Iff.rfl`: these lines are the definitions) -/

theorem typedLoad_def (S : Spec) (g : Gen) : typedLoad S g = loadBlockWith (loadFields (blockItems S)) g 0 1 1 := rfl
theorem typedStore_def (S : Spec) (info : BInfo) (fs : List TVal) :
    typedStore S (.struct info fs) = .block info.line (storeFields (blockItems S) fs info.locs) := rfl
theorem TypedOk_def (S : Spec) (v : TVal) : TypedOk S v ↔ okBlockWith (okFields (blockItems S)) v = true := Iff.rfl
theorem TagsDistinct_def (S : Spec) : TagsDistinct S ↔ distinctL (blockItems S) = true := Iff.rfl
theorem Flat_def (S : Spec) : Flat S ↔ flat S = true := Iff.rfl
theorem NoRepeatViolation_def (S : Spec) (d : Gen) : NoRepeatViolation S d ↔ OnceL (blockItems S) (dataItems d) := Iff.rfl

/-- the three readings of `fixup_add_data_to_struct` -/
theorem blockItems_def (s : Spec) : blockItems s =
    match s with
    | .struct items => fixItems items
    | .none => []
    | s => [fixItem s] := blockItems_eq s

/-- what may differ between `Sim`ilar values: nothing in a scalar ... -/
example (w off : Nat) (v : Int) (hex : Bool) (g : Gen) : Sim (.int w off v hex) g ↔ g = .int w off v hex := Iff.rfl
/-- ... the data of a tagged item without data may be `Block []` for `Block [None]` ... -/
example (l : Nat) (a : List Gen) (g : Gen) :
    Sim (.block l a) g ↔ ∃ b, g = .block l b ∧ (SimL a b ∨ (a = [] ∧ b = [.none])) := Iff.rfl
/-- ... the items of a tagged struct may come in another order ... -/
example (a : List (TItem Gen)) (g : Gen) :
    Sim (.taggedStruct a) g ↔ ∃ b b', g = .taggedStruct b ∧ b.Perm b' ∧ SimT a b' := Iff.rfl
/-- ... and corresponding items agree in line, uid, offsets, tag and block-ness -/
theorem SimT_def (x : TItem Gen) (a b : List (TItem Gen)) : SimT (x :: a) b ↔
    ∃ y b', b = y :: b' ∧ x.line = y.line ∧ x.uid = y.uid ∧ x.startOff = y.startOff ∧ x.endOff = y.endOff ∧
      x.tag = y.tag ∧ x.isBlock = y.isBlock ∧ Sim x.data y.data ∧ SimT a b' := Iff.rfl

def tk (ty : Nat) (text : List Char) (line : Nat := 1) (fl : Option (List Char) := none) : PTok :=
  { ty := ty, text := text, line := line, sym := noSym, fl := fl }
def exF32 : List Char → Option (List Char) := fun t => if t = "1.5".toList then some "1.5".toList else none
def exCtx : Ctx := ⟨"IF_DATA".toList, 0, 1⟩
def genOf (r : PRes (Option Gen × Bool)) : Option (Gen × Bool) :=
  match r with | .ok (some g, v) _ => some (g, v) | _ => none

/-- `block "IF_DATA" taggedunion { "X" struct { uint; char[10]; float; }; block "B" taggedstruct { ("T" uchar)*; "N"; }; };` -/
def exSpec : Spec :=
  .taggedUnion [⟨['X'], .struct [.int 5, .array (.int 0) 10, .float], false, false⟩,
                ⟨['B'], .taggedStruct [⟨['T'], .int 4, false, true⟩, ⟨['N'], .none, false, false⟩], true, false⟩]

/-- `X 0x10 "a" 1.5` as the interpreter stores it (uid 7 for the item) -/
def exG : Gen :=
  .block 1 [.taggedUnion [⟨1, 7, 0, 0, ['X'], .block 1 [.int 5 0 16 true, .str 1 ['a'], .float 0 "1.5".toList], false⟩]]

/-- the typed value: `Ex { x: Some(X { item: 16, item_2: "a", item_3: 1.5, __block_info }), b: None }` -/
def exV : TVal :=
  .struct ⟨1, 0, 1, 1, []⟩
    [.opt (some (.struct ⟨1, 7, 0, 0, [.int 0 true, .off 1, .off 0]⟩ [.int 16, .str ['a'], .float "1.5".toList])), .opt none]

/-- `/begin B T 1 N T 2 /end B` -/
def exG2 : Gen :=
  .block 1 [.taggedUnion [⟨1, 3, 0, 1, ['B'], .block 1 [.taggedStruct
    [⟨1, 4, 0, 0, ['T'], .block 1 [.int 4 0 1 false], false⟩, ⟨1, 5, 0, 0, ['N'], .block 1 [.none], false⟩,
     ⟨1, 6, 0, 0, ['T'], .block 1 [.int 4 0 2 false], false⟩]], true⟩]]

def exV2 : TVal :=
  .struct ⟨1, 0, 1, 1, []⟩
    [.opt none,
     .opt (some (.struct ⟨1, 3, 0, 1, []⟩
       [.multi [.struct ⟨1, 4, 0, 0, [.int 0 false]⟩ [.int 1], .struct ⟨1, 6, 0, 0, [.int 0 false]⟩ [.int 2]],
        .opt (some (.struct ⟨1, 5, 0, 0, []⟩ []))]))]

example : typedLoad exSpec exG = .ok exV := rfl
example : typedStore exSpec exV = exG := rfl
example : typedLoad exSpec exG2 = .ok exV2 := rfl
/-- the stored value lists the two `T` before `N` and has no placeholder in the data of `N` -/
example : typedStore exSpec exV2 =
    .block 1 [.taggedUnion [⟨1, 3, 0, 1, ['B'], .block 1 [.taggedStruct
      [⟨1, 4, 0, 0, ['T'], .block 1 [.int 4 0 1 false], false⟩, ⟨1, 6, 0, 0, ['T'], .block 1 [.int 4 0 2 false], false⟩,
       ⟨1, 5, 0, 0, ['N'], .block 1 [], false⟩]], true⟩]] := rfl
example : Flat exSpec ∧ TagsDistinct exSpec := by decide

/-! ## 1. store, then load -/

theorem load_store_layout (S : Spec) (v : TVal) (hS : TagsDistinct S) (hv : TypedOk S v) (uid startOff endOff : Nat) :
    typedLoadAt S (typedStore S v) uid startOff endOff = .ok (v.withLayout uid startOff endOff) := by
  cases v with
  | struct info fs =>
    have hv' : okFields (rootItems S) fs info.locs = true := hv
    simp only [typedLoadAt, typedStore, loadBlockWith, load_store_rec.2.1 _ hS fs info.locs hv', LRes.ok_bind, LRes.pure_def,
      TVal.withLayout]
  | _ => cases hv

/-- **`load_store`**: storing a well-typed value and loading the result back yields the value itself: every field,
    every location, every nested layout. The root value's uid and offsets are arguments of the generated `parse`
    (they belong to the `IfData` block, `store` does not write them anywhere): loading with the value's own gives the
    value back, loading with others gives the value with those (`load_store_layout`).
    Hypotheses: `TypedOk S v` = `v` is a value of the generated root type, i.e. it could exist in Rust (it also pins
    down what Rust's type system guarantees: array lengths, the shape of the location tuples, `uid = 0` and offsets 0
    in the `__block_info` of struct members, the remembered line of a struct member = the line of that struct);
    `TagsDistinct S`: two members with the same tag would be two fields with the same name (does not compile). -/
theorem load_store (S : Spec) (v : TVal) (hS : TagsDistinct S) (hv : TypedOk S v) :
    typedLoadAt S (typedStore S v) v.uid v.startOff v.endOff = .ok v := by
  rw [load_store_layout S v hS hv]
  cases v <;> rfl

/-- ... through the interface: `x.store_to_ifdata(&mut b)` then `X::load_from_ifdata(&b)` is `Some(x)` with the layout
    of `b`, for every `IfData` `b` (valid or not before: `store_to_ifdata` sets the flag) -/
theorem load_store_ifdata (S : Spec) (v : TVal) (hS : TagsDistinct S) (hv : TypedOk S v) (b : IfDataBlk) :
    loadFromIfdata S (storeToIfdata S v b) = .ok (some (v.withLayout b.uid b.startOff b.endOff)) := by
  simp only [loadFromIfdata, storeToIfdata, if_true, load_store_layout S v hS hv]

/-- Rust's `==` on the generated types ignores `__block_info`; the layout of the root is all that `withLayout`
    changes, so "an equal value" in the sense of the property holds a fortiori: same fields -/
theorem withLayout_fields (info : BInfo) (fs : List TVal) (u so eo : Nat) :
    (TVal.struct info fs).withLayout u so eo = .struct { info with uid := u, startOff := so, endOff := eo } fs := rfl

example : typedLoadAt exSpec (typedStore exSpec exV2) exV2.uid exV2.startOff exV2.endOff = .ok exV2 :=
  load_store exSpec exV2 (by decide) (by decide)
example : loadFromIfdata exSpec (storeToIfdata exSpec exV2 IfDataBlk.new) = .ok (some exV2) := rfl

/-- **`load_store_eq`**: the same for every value of the generated type, with ANY `__block_info` (`Shaped` says nothing
    about locations, lines, uids): `store` is total (`location.get(idx).copied().unwrap_or_default()` for a sequence
    with fewer locations than elements), the result loads, and the loaded value is `==` the original in the sense of
    the generated `PartialEq` impls, which compare all fields and ignore `__block_info` at every level (`Eqv`). This
    is the exact content of the harness check `load_from_ifdata(&fresh) == Some(v)`. -/
theorem load_store_eq (S : Spec) (v : TVal) (hS : TagsDistinct S) (hv : Shaped S v) (uid startOff endOff : Nat) :
    ∃ v', typedLoadAt S (typedStore S v) uid startOff endOff = .ok v' ∧ Eqv v v' := by
  cases v with
  | struct info fs =>
    obtain ⟨r, hl, he⟩ := load_store_eqv_rec.2.1 _ hS fs info.locs hv
    refine ⟨.struct ⟨info.line, uid, startOff, endOff, r.2⟩ r.1, ?_, _, _, rfl, he⟩
    simp only [typedLoadAt, typedStore, loadBlockWith, hl, LRes.ok_bind, LRes.pure_def]
  | _ => cases hv

theorem Shaped_def (S : Spec) (v : TVal) : Shaped S v ↔ shBlockWith (shFields (blockItems S)) v = true := Iff.rfl
/-- `==` on a generated struct: the fields -/
example (info : BInfo) (fs : List TVal) (w : TVal) :
    Eqv (.struct info fs) w ↔ ∃ info' fs', w = .struct info' fs' ∧ EqvL fs fs' := Iff.rfl
example (a : Int) (w : TVal) : Eqv (.int a) w ↔ w = .int a := Iff.rfl

/-- `block "IF_DATA" taggedunion { "S" (uint)*; };` and the value `Seq { s: Some(S { item: vec![1, 2] }) }` built with
    `new()` + `push`: no locations for the two elements. Not `TypedOk`, but `Shaped`; `store` writes them with the
    default location, the loaded value has the two default locations and equal fields -/
def seqSpec : Spec := .taggedUnion [⟨['S'], .seq (.int 5), false, false⟩]
def seqV : TVal := .struct ⟨0, 0, 1, 1, []⟩ [.opt (some (.struct ⟨0, 0, 1, 1, [.seq []]⟩ [.seq [.int 1, .int 2]]))]
example : ¬ TypedOk seqSpec seqV ∧ Shaped seqSpec seqV := by decide
example : typedLoad seqSpec (typedStore seqSpec seqV) =
    .ok (.struct ⟨0, 0, 1, 1, []⟩ [.opt (some (.struct ⟨0, 0, 1, 1, [.seq [.int 0 false, .int 0 false]]⟩ [.seq [.int 1, .int 2]]))]) := rfl

/-- **`typedLoad_typedOk`**: every value that the typed load returns, from any generic value whatsoever, is well-typed;
    so `TypedOk` is satisfiable exactly by what can be loaded or what `load_store` talks about -/
theorem typedLoad_typedOk (S : Spec) (g : Gen) (uid startOff endOff : Nat) (v : TVal)
    (h : typedLoadAt S g uid startOff endOff = .ok v) : TypedOk S v :=
  (loadBlockWith_post (okf := okFields (rootItems S)) (load_post.2.1 _) g uid startOff endOff).of_ok h

example : TypedOk exSpec exV ∧ TypedOk exSpec exV2 := by decide
/-- not well-typed: a `Vec` where the member is not declared `( ... )*` -/
example : ¬ TypedOk exSpec (.struct ⟨1, 0, 1, 1, []⟩ [.multi [], .opt none]) := by decide

/-- **the hypothesis `TagsDistinct` holds for every definition that `parse_a2ml` returns** (the text constant, any A2ML
    block): `insertTagged` (= `HashMap::insert`) replaces an earlier member with the same tag -/
theorem parsed_tags_distinct (cs : List Char) (S : Spec) (h : parseA2ml cs = .ok S) : TagsDistinct S :=
  (distinctL_blockItems S).trans (parseA2ml_made _ (fun _ => Made.wf) cs S h).wf

/-- so for the type tree of a text constant, `load_store` has only the hypothesis on the value -/
theorem load_store_parsed (cs : List Char) (S : Spec) (h : parseA2ml cs = .ok S) (v : TVal) (hv : TypedOk S v) :
    typedLoadAt S (typedStore S v) v.uid v.startOff v.endOff = .ok v :=
  load_store S v (parsed_tags_distinct cs S h) hv

def dumpOf (r : A2l.Aml.PRes) : Option (List Char) := match r with | .ok sp => some (dumpSpec sp) | _ => none

/-- a tag that is declared twice: the later declaration replaces the earlier one -/
example : dumpOf (parseA2ml "block \"IF_DATA\" taggedstruct { \"X\" uint; \"X\" char[4]; };".toList) =
    some "ts{(\"X\" 0 0 arr[4 char])}".toList := by
  -- the kernel is slow at decoding a string literal: turn both into lists of characters first
  rw [String.toList_ofList, String.toList_ofList]
  decide +kernel

/-- without `TagsDistinct` the statement is false in the model (in Rust such a specification does not compile):
    two members `"X"`, the second field `Some`, the first `None`: after `store` both fields load the same item -/
theorem load_store_needs_distinct_tags :
    let S : Spec := .taggedStruct [⟨['X'], .none, false, false⟩, ⟨['X'], .none, false, false⟩]
    let v : TVal := .struct ⟨1, 0, 1, 1, []⟩ [.opt none, .opt (some (.struct ⟨1, 5, 0, 0, []⟩ []))]
    TypedOk S v ∧ typedLoadAt S (typedStore S v) v.uid v.startOff v.endOff =
      .ok (.struct ⟨1, 0, 1, 1, []⟩ [.opt (some (.struct ⟨1, 5, 0, 0, []⟩ [])), .opt (some (.struct ⟨1, 5, 0, 0, []⟩ []))]) :=
  ⟨by decide, rfl⟩

/-! ## 2. shape mismatch -/

/-- **`mismatch_no_panic`**: the generated `parse` returns a value or `Err` for EVERY generic value, of any shape,
    under every specification: no index, no `unwrap` on `None` (Model/Typed.lean lists the sites) -/
theorem mismatch_no_panic (S : Spec) (g : Gen) (uid startOff endOff : Nat) : typedLoadAt S g uid startOff endOff ≠ .panic :=
  (loadBlockWith_post (okf := okFields (rootItems S)) (load_post.2.1 _) g uid startOff endOff).np

theorem loadFromIfdata_no_panic (S : Spec) (b : IfDataBlk) : loadFromIfdata S b ≠ .panic := by
  unfold loadFromIfdata
  split
  · cases hb : b.items with
    | none => simp
    | some g =>
      dsimp only
      have := mismatch_no_panic S g b.uid b.startOff b.endOff
      cases h : typedLoadAt S g b.uid b.startOff b.endOff with
      | ok v => simp
      | err => simp
      | panic => exact absurd h this
  · simp

/-- **`loadFromIfdata_invalid`**: `None` when the block is not flagged valid, whatever it holds -/
theorem loadFromIfdata_invalid (S : Spec) (b : IfDataBlk) (h : b.valid = false) : loadFromIfdata S b = .ok none := by
  simp [loadFromIfdata, h]

/-- ... and `None` (not a panic) when the block is valid but of another shape: here `X` with a string where `uint`
    is expected, a missing member, an unknown tag only -/
example : typedLoad exSpec (.block 1 [.taggedUnion [⟨1, 7, 0, 0, ['X'], .block 1 [.str 0 ['a']], false⟩]]) = .err := rfl
example : typedLoad exSpec (.block 1 [.taggedUnion [⟨1, 7, 0, 0, ['X'], .block 1 [.int 5 0 16 true], false⟩]]) = .err := rfl
example : typedLoad exSpec (.block 1 [.int 5 0 16 true]) = .err := rfl
/-- decoded anyway: an unknown tag is ignored, a longer array is cut, block-ness is not looked at -/
example : typedLoad exSpec (.block 1 [.taggedUnion [⟨1, 7, 0, 0, ['Q'], .block 1 [], true⟩]]) =
    .ok (.struct ⟨1, 0, 1, 1, []⟩ [.opt none, .opt none]) := rfl

/-! ## 3. content that the interpreter accepted -/

/-- **`conforming_decodes`**: whatever `parse_ifdata_item` builds for the definition `S` decodes with the typed code
    of `S` (wrapped by `parse_ifdata_make_block` as `parse_ifdata_from_spec` does; any line, any layout). -/
theorem conforming_decodes {e : Env} (f32 : List Char → Option (List Char)) (S : Spec) (ctx : Ctx) (s s' : PState) (d : Gen)
    (hF : Flat S) (hS : TagsDistinct S) (h : itemP f32 S ctx e s = .ok d s') (line uid startOff endOff : Nat) :
    ∃ v, typedLoadAt S (makeBlock d line) uid startOff endOff = .ok v := by
  obtain ⟨v, hv, _⟩ := decode_of_shape S hF hS d (itemP_shape f32 S ctx s d s' h) line uid startOff endOff
  exact ⟨v, hv⟩

/-- ... at the top level: a block that `parse_ifdata` flags valid decodes with the typed code of (one of) the
    applicable definition(s): the one whose interpretation was stored -/
theorem conforming_decodes_top {e : Env} (f32 : List Char → Option (List Char)) (specs : List Spec) (ctx : Ctx)
    (s s' : PState) (g : Gen) (hall : ∀ sp ∈ specs, Flat sp ∧ TagsDistinct sp)
    (h : parseIfdata f32 specs ctx e s = .ok (some g, true) s') :
    ∃ sp ∈ specs, ∀ uid startOff endOff, ∃ v, typedLoadAt sp g uid startOff endOff = .ok v := by
  obtain ⟨sp, hm, d, s0, s1, hi, rfl⟩ := parseIfdata_valid_inv h
  exact ⟨sp, hm, fun u so eo => conforming_decodes f32 sp ctx s0 s1 d (hall sp hm).1 (hall sp hm).2 hi ctx.line u so eo⟩

/-- what the interpreter accepts never has two items of a member that is not declared `( ... )*`, at any depth -/
theorem interpreted_no_repeat {e : Env} (f32 : List Char → Option (List Char)) (S : Spec) (ctx : Ctx) (s s' : PState) (d : Gen)
    (hF : Flat S) (hS : TagsDistinct S) (h : itemP f32 S ctx e s = .ok d s') : NoRepeatViolation S d :=
  noRepeatViolation_of_shape S hF hS d (itemP_shape f32 S ctx s d s' h)

/-- **`store_load_content`**: ... and the generic value that the decoded value stores is `Sim`ilar to the original (see
    the examples before `SimT_def` above for what that leaves open: the order inside a hash map and `Block []` for
    `Block [None]`) and is written as the same text, at every indent, as a whole block (`top = true`, what
    `IfData::stringify` calls). -/
theorem store_load_content {e : Env} (f32 : List Char → Option (List Char)) (S : Spec) (ctx : Ctx) (s s' : PState) (d : Gen)
    (hF : Flat S) (hS : TagsDistinct S) (h : itemP f32 S ctx e s = .ok d s') (line uid startOff endOff : Nat) :
    ∃ v, typedLoadAt S (makeBlock d line) uid startOff endOff = .ok v ∧
      Sim (typedStore S v) (makeBlock d line) ∧
      ∀ indent, write indent (typedStore S v) = write indent (makeBlock d line) := by
  obtain ⟨v, hv, hsim⟩ := decode_of_shape S hF hS d (itemP_shape f32 S ctx s d s' h) line uid startOff endOff
  exact ⟨v, hv, hsim, fun indent => sim_write indent true _ _ hsim (uidOk_makeBlock d line (itemP_uidOk h))⟩

/-- ... at the top level, through the interface: for a block that `parse_ifdata` flagged valid, loaded with
    `load_from_ifdata`, and stored back INTO THE SAME `IfData` with `store_to_ifdata`: the flag stays set and
    `IfData::stringify` produces the same text as before -/
theorem store_load_content_top {e : Env} (f32 : List Char → Option (List Char)) (S : Spec) (ctx : Ctx)
    (s s' : PState) (g : Gen) (hF : Flat S) (hS : TagsDistinct S)
    (h : parseIfdata f32 [S] ctx e s = .ok (some g, true) s') (b : IfDataBlk) (hb : b.items = some g) (hv : b.valid = true) :
    ∃ v, loadFromIfdata S b = .ok (some v) ∧
      (storeToIfdata S v b).valid = true ∧ ∃ g', (storeToIfdata S v b).items = some g' ∧ Sim g' g ∧
        ∀ indent, write indent g' = write indent g := by
  obtain ⟨sp, hm, d, s0, s1, hi, rfl⟩ := parseIfdata_valid_inv h
  rw [List.mem_singleton] at hm
  subst hm
  obtain ⟨v, hl, hsim, hw⟩ := store_load_content f32 sp ctx s0 s1 d hF hS hi ctx.line b.uid b.startOff b.endOff
  exact ⟨v, by simp only [loadFromIfdata, hv, hb, if_true, hl], rfl, _, rfl, hsim, hw⟩

/-- the hypotheses are satisfiable: `X 0x10 "a" 1.5` under `exSpec` -/
def exToks : Array PTok :=
  #[tk 0 ['X'], tk 5 "0x10".toList, tk 4 "\"a\"".toList 2, tk 5 "1.5".toList 2 (some "1.5".toList), tk 2 "/end".toList 3,
    tk 0 "IF_DATA".toList 3]

example : genOf (parseIfdata exF32 [exSpec] exCtx (specialEnv exToks false) {}) =
    some (.block 1 [.taggedUnion [⟨1, 1, 0, 0, ['X'], .block 1 [.int 5 0 16 true, .str 1 ['a'], .float 0 "1.5".toList], false⟩]],
      true) := by rfl

/-! ### a member that is not declared `( ... )*` and occurs twice -/

/-- `block "IF_DATA" taggedstruct { "X" uint; };` -/
def dupSpec : Spec := .taggedStruct [⟨['X'], .int 5, false, false⟩]
/-- `X 1 X 2 /end IF_DATA` -/
def dupToks : Array PTok :=
  #[tk 0 ['X'], tk 5 ['1'], tk 0 ['X'], tk 5 ['2'], tk 2 "/end".toList, tk 0 "IF_DATA".toList]
/-- what the interpreter stored for `X 1 X 2` BEFORE fix 9daacf5 (and flagged valid) -/
def dupG : Gen :=
  .block 1 [.taggedStruct [⟨1, 1, 0, 0, ['X'], .block 1 [.int 5 0 1 false], false⟩,
                           ⟨1, 2, 0, 0, ['X'], .block 1 [.int 5 0 2 false], false⟩]]
def dupV : TVal := .struct ⟨1, 0, 1, 1, []⟩ [.opt (some (.struct ⟨1, 1, 0, 0, [.int 0 false]⟩ [.int 1]))]

/-- now: `X 1 X 2` under `taggedstruct { "X" uint; }` is not flagged valid (the content is kept as uninterpreted data),
    `load_from_ifdata` gives `None`, nothing is decoded and nothing can be dropped -/
theorem repeated_member_not_valid :
    (genOf (parseIfdata exF32 [dupSpec] exCtx (specialEnv dupToks false) {})).map (·.2) = some false ∧
    ∀ g, loadFromIfdata dupSpec ⟨some g, false, 1, 0, 1, 1⟩ = .ok none :=
  ⟨by decide +kernel, fun g => loadFromIfdata_invalid dupSpec _ rfl⟩

/-- **FINDING (confirmed on the Rust library, fixed in 9daacf5)** about the behaviour BEFORE the fix:
    `parse_ifdata_taggedstruct` accepted `X 1 X 2` for a member `"X"` that is not declared `( ... )*` (it pushed every
    occurrence: `dupG`), the block was flagged valid; the generated `parse` takes the first occurrence
    (`get_single_optitem`: `itemlist[0]`), `load_from_ifdata` returned `Some`; `store` writes one `X`: the file changed
    from `X 1 X 2` to `X 1` without any diagnostic. The typed code is unchanged: for the generic value `dupG` (which
    only a hand-built `GenericIfData` can be now) it still behaves like this. -/
theorem old_store_dropped_repeated_member :
    Flat dupSpec ∧ TagsDistinct dupSpec ∧
    loadFromIfdata dupSpec ⟨some dupG, true, 1, 0, 1, 1⟩ = .ok (some dupV) ∧
    values true dupG = [.ident ['X'], .int 5 1 false, .ident ['X'], .int 5 2 false] ∧
    values true (typedStore dupSpec dupV) = [.ident ['X'], .int 5 1 false] ∧
    write 0 dupG = " X 1 X 2".toList ∧ write 0 (typedStore dupSpec dupV) = " X 1".toList := by
  refine ⟨by decide, by decide, rfl, rfl, rfl, ?_, ?_⟩
  · rw [write, writeG_render true 0 _ (by simp [dupG, UidOk, UidOkL, UidOkT]), String.toList_ofList]
    decide
  · have he : typedStore dupSpec dupV = .block 1 [.taggedStruct [⟨1, 1, 0, 0, ['X'], .block 1 [.int 5 0 1 false], false⟩]] := rfl
    rw [he, write, writeG_render true 0 _ (by simp [UidOk, UidOkL, UidOkT]), String.toList_ofList]
    decide

/-- ... and `NoRepeatViolation` (which accepted content now always has) is exactly what fails for `dupG` -/
example : ¬ NoRepeatViolation dupSpec (.taggedStruct [⟨1, 1, 0, 0, ['X'], .block 1 [.int 5 0 1 false], false⟩,
    ⟨1, 2, 0, 0, ['X'], .block 1 [.int 5 0 2 false], false⟩]) := by
  intro h
  have h1 : OnceL [.tagged false [⟨['X'], false, false, [.int 5]⟩]] [.taggedStruct [⟨1, 1, 0, 0, ['X'], .block 1 [.int 5 0 1 false], false⟩,
    ⟨1, 2, 0, 0, ['X'], .block 1 [.int 5 0 2 false], false⟩]] := h
  have h3 : OnceM [⟨['X'], false, false, [.int 5]⟩] _ := h1.1 _ rfl
  have := h3.1 rfl
  revert this
  decide

/-! ### FALSE as drafted: `values` of the stored data as a list -/

/-- `block "IF_DATA" taggedstruct { "A" uint; "B" uint; };` in the list order A, B -/
def ordSpec : Spec := .taggedStruct [⟨['A'], .int 5, false, false⟩, ⟨['B'], .int 5, false, false⟩]
/-- `B 1 A 2` -/
def ordG : Gen :=
  .block 1 [.taggedStruct [⟨1, 1, 0, 0, ['B'], .block 1 [.int 5 0 1 false], false⟩,
                           ⟨1, 2, 0, 0, ['A'], .block 1 [.int 5 0 2 false], false⟩]]
def ordV : TVal :=
  .struct ⟨1, 0, 1, 1, []⟩ [.opt (some (.struct ⟨1, 2, 0, 0, [.int 0 false]⟩ [.int 2])),
                            .opt (some (.struct ⟨1, 1, 0, 0, [.int 0 false]⟩ [.int 1]))]

/-- `values (typedStore S v) = values g` does not hold as an equation of lists: the stored hash map is listed member
    by member (in Rust: in hash order); the writer sorts by uid, the text is the same -/
theorem stored_values_order :
    typedLoad ordSpec ordG = .ok ordV ∧
    values true ordG = [.ident ['B'], .int 5 1 false, .ident ['A'], .int 5 2 false] ∧
    values true (typedStore ordSpec ordV) = [.ident ['A'], .int 5 2 false, .ident ['B'], .int 5 1 false] ∧
    write 0 (typedStore ordSpec ordV) = write 0 ordG := by
  refine ⟨rfl, rfl, rfl, ?_⟩
  have hs : Sim (typedStore ordSpec ordV) ordG := by
    show Sim (.block 1 [.taggedStruct [⟨1, 2, 0, 0, ['A'], .block 1 [.int 5 0 2 false], false⟩,
      ⟨1, 1, 0, 0, ['B'], .block 1 [.int 5 0 1 false], false⟩]]) ordG
    have hb : ∀ (l w o : Nat) (v : Int), Sim (.block l [.int w o v false]) (.block l [.int w o v false]) :=
      fun l w o v => ⟨_, rfl, .inl ⟨_, _, rfl, rfl, rfl⟩⟩
    refine ⟨_, rfl, .inl ⟨_, _, rfl, ?_, rfl⟩⟩
    refine ⟨_, [⟨1, 2, 0, 0, ['A'], .block 1 [.int 5 0 2 false], false⟩, ⟨1, 1, 0, 0, ['B'], .block 1 [.int 5 0 1 false], false⟩],
      rfl, List.Perm.swap _ _ _, ?_⟩
    exact ⟨_, _, rfl, rfl, rfl, rfl, rfl, rfl, rfl, hb _ _ _ _, _, _, rfl, rfl, rfl, rfl, rfl, rfl, rfl, hb _ _ _ _, rfl⟩
  exact sim_write 0 true _ _ hs (by simp [ordG, UidOk, UidOkL, UidOkT])

/-! ### the side condition `Flat` -/

/-- `"T" (( uint )*)*`: `fixup_data_type` flattens the nested sequence, the interpreter nests. No A2ML text denotes this
    tree. -/
theorem conforming_decodes_needs_flat :
    let S : Spec := .taggedUnion [⟨['T'], .seq (.seq (.int 5)), false, false⟩]
    let g : Gen := .block 1 [.taggedUnion [⟨1, 1, 0, 0, ['T'], .block 1 [.seq [.seq [.int 5 0 1 false]]], false⟩]]
    ¬ Flat S ∧ Shape S (.taggedUnion [⟨1, 1, 0, 0, ['T'], .block 1 [.seq [.seq [.int 5 0 1 false]]], false⟩]) ∧
      typedLoad S g = .err := by
  refine ⟨by decide, ?_, rfl⟩
  refine ⟨_, rfl, Nat.le_refl 1, ?_⟩
  intro it hit
  obtain rfl := List.mem_singleton.1 hit
  refine (if_pos rfl).mpr ⟨rfl, .seq [.seq [.int 5 0 1 false]], rfl, _, rfl, ?_⟩
  intro x hx
  obtain rfl := List.mem_singleton.1 hx
  refine ⟨_, rfl, ?_⟩
  intro x hx
  obtain rfl := List.mem_singleton.1 hx
  exact ⟨0, 1, false, rfl⟩

/-! ## 4. the behaviour of `fixup_struct` before the fix -/

/-- **FINDING (confirmed on the Rust library, fixed)**: `fixup_struct` used to build the field list of a struct that
    is used as a member with `new_structitems.extend(fixup_add_data_to_struct(item))`, which INLINES the members of a
    member that is itself a struct. For `"T" struct Outer { struct P { struct Q { int; int; }; uint; }; }` the type
    `P` had the three fields `int, int, uint` (`oldItems`), while the interpreter stores `P` as
    `Struct [Struct [1, 2], 3]`; the generated `P::parse` then called `get_integer_i16` on a `Struct`: `Err`, and
    `load_from_ifdata` returned `None` for a conforming block. The model after the fix (`structItems`) keeps `Q` as a
    member and decodes the block. -/
theorem old_fixup_struct_inlined_struct_members :
    let S : Spec := .taggedUnion [⟨['T'], .struct [.struct [.struct [.int 1, .int 1], .int 5]], false, false⟩]
    let g : Gen := .block 1 [.taggedUnion [⟨1, 1, 0, 0, ['T'],
      .block 1 [.struct 0 [.struct 0 [.int 1 0 1 false, .int 1 0 2 false], .int 5 0 3 false]], false⟩]]
    let oldItems : List OTy := [.tagged true [⟨['T'], false, false, [.struct [.int 1, .int 1, .int 5]]⟩]]
    loadBlockWith (loadFields oldItems) g 0 1 1 = .err ∧
    rootItems S = [.tagged true [⟨['T'], false, false, [.struct [.struct [.int 1, .int 1], .int 5]]⟩]] ∧
    (∃ v, typedLoad S g = .ok v) := ⟨rfl, rfl, _, rfl⟩

end A2l.Typed
