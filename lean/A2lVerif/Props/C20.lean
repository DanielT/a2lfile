import A2lVerif.Gen.Shipped
import A2lVerif.Gen.Fresh
/-!
# C20 — the shipped generated code behaves like a fresh expansion of the specification DSL

`Gen.Fresh` is extracted from the token stream that the *in-tree* generator (`a2lmacros/src/{a2lspec,codegenerator}`,
linked into the translator and executed on every run) produces from the *in-tree* DSL; `Gen.Shipped` from
`specification.rs`. Equality of the grammar tables (parser side) and of the code tables (writer items and tags,
TAG_LIST passed to the unknown-tag handler, default arm, comment handling, position restrictions, enum variant /
Display mapping). Since the parser / writer model is a function of these tables only, both variants yield the same
model, diagnostics and text on every input.
-/
namespace A2l.G

theorem shipped_eq_fresh_table : Shipped.table = Fresh.table := rfl

theorem shipped_eq_fresh_code : Shipped.code = Fresh.code := rfl

end A2l.G
