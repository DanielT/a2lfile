import A2lVerif.Gen.Shipped
import A2lVerif.Gen.Reference
import A2lVerif.Gen.CurrentDsl
/-!
# C04 (table side) — the shipped parser implements exactly the reference grammar

`Gen.Shipped.table` is reconstructed on every run from the *parser functions* of `specification.rs` (event extractor);
`Gen.Reference.table` is read by an independent reader from the frozen copy of the specification DSL
(`/verif/reference/dsl_tokens.txt`); `Gen.CurrentDsl.table` by the same reader from the DSL in `specification_orig.rs`
as it is now. The tables are closed terms, so equality is checked by `rfl` (the two normal forms are compared): element kinds, block/keyword form, parameter order and types, sequences and
their stop words, every optional / required / repeatable sub-element with its version range, every enumeration value
with its version range.
-/
namespace A2l.G

theorem shipped_is_reference : Shipped.table = Reference.table := rfl

theorem current_dsl_is_reference : CurrentDsl.table = Reference.table := rfl

end A2l.G
