import A2lVerif.Lemmas.ItemList
/-!
# C13 — ItemList: name index and positions stay coherent under every operation

Property theorems only. `IL` mirrors `a2lfile/src/itemlist.rs` (Model/ItemList.lean); the specification is a
plain vector of names (`specStep`, `specIndex`). Quantification: every state satisfying the invariant, every
operation with every argument, every history — no bound on lengths.
-/

namespace A2l.IL

/-- the invariant, spelled out (definition lives in Lemmas/ItemList.lean) -/
theorem inv_iff (l : IL) : l.Inv ↔
    ((∀ i (h : i < l.items.length), l.map.get l.items[i] = some i) ∧
     (∀ k i, l.map.get k = some i → l.items[i]? = some k)) := Iff.rfl

theorem inv_empty : empty.Inv := empty_inv

/-- names are unique in every coherent list -/
theorem inv_nodup {l : IL} (h : l.Inv) : l.items.Nodup := h.nodup

/-- **Lookup coherence.** In a coherent list, lookup by name is linear search in the vector. -/
theorem index_eq_spec {l : IL} (h : l.Inv) (k : String) : l.index k = specIndex l.items k :=
  h.index_eq_spec k

theorem get_eq_spec {l : IL} (h : l.Inv) (k : String) :
    l.get k = .ok (if k ∈ l.items then some k else none) := h.get_eq_spec k

theorem containsKey_eq_spec {l : IL} (h : l.Inv) (k : String) : l.containsKey k = decide (k ∈ l.items) :=
  h.containsKey_eq_spec k

/-- every stored element is reachable by its name, at the position the list reports -/
theorem reachable {l : IL} (h : l.Inv) (i : Nat) (hi : i < l.items.length) :
    l.index l.items[i] = some i ∧ l.get l.items[i] = .ok (some l.items[i]) := by
  refine ⟨h.1 i hi, ?_⟩
  rw [h.get_eq_spec, if_pos (List.getElem_mem hi)]

/-- **renaming an element to the name it already has changes nothing**: the list stays coherent, holds the same names,
    and the element is still found by its name at its position (the remove-old / insert-new order of `rename_item`
    matters exactly here: inserting first and removing afterwards would drop the element from the index) -/
theorem rename_to_same_name {l : IL} (h : l.Inv) (i : Nat) (n : String) (hi : l.items[i]? = some n) :
    (l.renameItem i n).Inv ∧ (l.renameItem i n).items = l.items ∧ (l.renameItem i n).index n = some i := by
  obtain ⟨hlt, hget⟩ := List.getElem?_eq_some_iff.1 hi
  have hinv := renameItem_inv l i n h (Or.inr hi)
  have hitems : (l.renameItem i n).items = l.items := by
    rw [renameItem_items, ← hget]
    exact List.set_getElem_self hlt
  refine ⟨hinv, hitems, ?_⟩
  exact (hinv.lookup i n).1 (hitems ▸ hi)

/-- names that are not stored (removed, renamed away) are not reachable -/
theorem unreachable {l : IL} (h : l.Inv) (k : String) (hk : k ∉ l.items) :
    l.index k = none ∧ l.get k = .ok none ∧ l.containsKey k = false := by
  refine ⟨h.get_none hk, ?_, ?_⟩
  · rw [h.get_eq_spec, if_neg hk]
  · rw [h.containsKey_eq_spec, decide_eq_false hk]

/-- **One step**: for every operation and argument that keeps names unique, the operation does not panic,
    re-establishes the invariant, and acts on the item vector exactly like the plain-vector specification
    (including its return value). -/
theorem step_ok {l : IL} (h : l.Inv) (op : Op) (hop : OpOk l.items op) :
    ∃ l' r, step l op = .ok (l', r) ∧ l'.Inv ∧ (l'.items, r) = specStep l.items op := by
  cases op with
  | push x => exact ⟨_, _, rfl, push_inv l x h hop, rfl⟩
  | pop => exact ⟨l.pop.1, l.pop.2, rfl, pop_inv l h, pop_spec l⟩
  | swapRemove k => exact swapRemove_ok l k h
  | swapRemoveIdx i =>
    exact ⟨(l.swapRemoveIdx i).1, (l.swapRemoveIdx i).2, rfl, swapRemoveIdx_inv l i h, swapRemoveIdx_spec l i⟩
  | truncate n =>
    exact ⟨_, _, rfl, truncate_inv l n h, by rw [truncate_items]; rfl⟩
  | retain keep => exact ⟨_, _, rfl, rebuild_inv _ (h.nodup.sublist List.filter_sublist), rfl⟩
  | sortAsc => exact ⟨_, _, rfl, sortBy_inv l _ h, rfl⟩
  | sortDesc => exact ⟨_, _, rfl, sortBy_inv l _ h, rfl⟩
  | rename i n =>
    exact ⟨_, _, rfl, renameItem_inv l i n h hop, by rw [renameItem_items]; rfl⟩
  | extend xs =>
    exact ⟨_, _, rfl, extend_inv l xs h hop.1 hop.2, by rw [extend_items]; rfl⟩
  | clear => exact ⟨_, _, rfl, empty_inv, rfl⟩
  | collect xs =>
    exact ⟨_, _, rfl, collect_inv xs hop, by rw [collect_items]; rfl⟩

/-- **No operation panics**, for any in-range or out-of-range argument, on a coherent list — even when the
    argument would introduce a duplicate name. -/
theorem step_no_panic {l : IL} (h : l.Inv) (op : Op) : step l op ≠ .panic := by
  cases op with
  | swapRemove k =>
    obtain ⟨l', r, hs, _⟩ := swapRemove_ok l k h
    show l.swapRemove k ≠ .panic
    rw [hs]; exact fun he => by cases he
  | _ => exact fun he => by cases he

/-- histories that keep names unique, judged on the specification side -/
def HistOk : List String → List Op → Prop
  | _, [] => True
  | xs, op :: ops => OpOk xs op ∧ HistOk (specStep xs op).1 ops

def specRun : List String → List Op → List String
  | xs, [] => xs
  | xs, op :: ops => specRun (specStep xs op).1 ops

/-- **Every history** -/
theorem run_ok (ops : List Op) {l : IL} (h : l.Inv) (hops : HistOk l.items ops) :
    ∃ l', run l ops = .ok l' ∧ l'.Inv ∧ l'.items = specRun l.items ops := by
  induction ops generalizing l with
  | nil => exact ⟨l, rfl, h, rfl⟩
  | cons op ops ih =>
    obtain ⟨hop, hrest⟩ := hops
    obtain ⟨l1, r, hs, h1, hspec⟩ := step_ok h op hop
    have hitems : l1.items = (specStep l.items op).1 := congrArg Prod.fst hspec
    rw [← hitems] at hrest
    obtain ⟨l', hr, hinv, hit⟩ := ih h1 hrest
    refine ⟨l', ?_, hinv, ?_⟩
    · simp only [run, hs]; exact hr
    · rw [hit, hitems]; rfl

theorem run_from_empty_ok (ops : List Op) (hops : HistOk [] ops) :
    ∃ l', run empty ops = .ok l' ∧ l'.Inv ∧ l'.items = specRun [] ops :=
  run_ok ops inv_empty hops

/-- `HistOk` can be met: a history using most operations (`run_from_empty_ok` then gives its coherent end state) -/
example : HistOk [] [.push "b", .push "a", .push "c", .swapRemove "b", .sortAsc, .rename 0 "z", .pop,
    .extend ["q", "r"], .swapRemoveIdx 2, .truncate 1, .retain ["z"]] := by
  simp [HistOk, OpOk, specStep, specIndex, vecSwapRemove, leAsc, List.mergeSort]

/-! ## the defect repaired by the `fix:` commit for C13 (kept as a witness)

Before the fix the code wrote `self.map.insert(self.items[index].get_name().to_string(), index)` unconditionally after
`Vec::swap_remove`; removing the *last* element then indexes one past the end. -/
def swapRemoveIdxUnfixed (l : IL) (index : Nat) : Out (IL × Option String) :=
  match l.items[index]? with
  | none => .ok (l, none)
  | some item =>
    let items' := vecSwapRemove l.items index
    let map1 := l.map.erase item
    match items'[index]? with
    | some sw => .ok ({ items := items', map := map1.insert sw index }, some item)
    | none => .panic

theorem swapRemoveIdxUnfixed_last_panics :
    (collect ["a"]).Inv ∧ swapRemoveIdxUnfixed (collect ["a"]) 0 = .panic :=
  ⟨collect_inv ["a"] (by simp), rfl⟩

end A2l.IL
