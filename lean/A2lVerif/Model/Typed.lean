import A2lVerif.Model.IfData
/-!
# Typed IF_DATA access: what the code generated by `a2ml_specification!` does (`a2lmacros/src/a2mlspec.rs`,
# `codegenerator/{ifdata_parser,ifdata_writer,data_structure}.rs`, the accessors `impl GenericIfData` in `a2ml.rs`)

The macro turns a specification (A2ML text with optional field names) into Rust types with `parse(&GenericIfData)`
(typed LOAD) and `store(&self) -> GenericIfData` (typed STORE). The generated code is one fixed code shape per node
of the specification, so it is modelled here as functions of the type tree (`Spec`, Model/A2ml.lean), in two steps
like the macro itself:

1. `fixItem` / `blockItems` / `structItems` / `fixTagged` = the `fixup_*` phase (`fixup_data_type`,
   `fixup_add_data_to_struct`, `fixup_struct`, `fixup_taggeditems` + `fixup_output_block`): the A2ML tree becomes the
   tree of *output data types* `OTy`: every tagged member becomes a block type whose fields are the members of its
   data if that is a struct, nothing if it has no data, else the one data item; `char[n]` is a string; a struct used
   as a member becomes a struct type with one field per member (`structItems`; this is `fixup_struct` after the fix of
   the finding recorded in Props/C19.lean: it used to inline the members of a struct member); references
   (`StructRef`, `EnumRef`, `TaggedStructRef`, `TaggedUnionRef`) are already resolved in `Spec`; `(( x )*)*` is
   flattened to `( x )*`.
2. `loadItem` / `loadFields` / `loadMembers` / `loadBlock` = `generate_item_parser_call`, `generate_item_location`,
   `generate_struct_field_intializers`, `generate_indirect_{struct,block}_parser`; `storeItem` / `storeFields` /
   `storeMembers` = `generate_indirect_store_simple_item`, `generate_indirect_store_item`,
   `generate_indirect_store_taggeditems`.

Typed values (`TVal`) mirror the generated structs: the fields in declaration order; the members of a tagged struct /
tagged union are one field each, `opt` (`Option<T>`) or `multi` (`Vec<T>`, for `( ... )*` members); `__block_info`
(`BInfo`: line, uid, start / end offset, and `item_location`, the tuple of the locations of the non-tagged fields).
`incfile` is left out as in Model/IfData.lean. Rust identifiers (type names, field names, enum variant names) are not
modelled: an enum value is the item's A2ML name.

The order of the members of a tagged type is the order of the list in `Spec` (the macro uses the order of the
declaration; `parseA2ml` produces the reverse order; the order only determines the order of the fields of `TVal`
and the order in which `store` inserts into the hash map, neither of which is observable in written text as long as
the uids are distinct, see `Lemmas/TypedContent.lean`).

Where the Rust code could panic
* `get_single_optitem`: `itemlist.first()` on the `Vec` found under the tag in the hash map (`itemlist[0]` before fix
  9bca58b, DESIGN 9.4, which made the case described at the end of this item a panic; the
  harness now builds such trees through the API). In this model the hash map
  `HashMap<String, Vec<GenericIfDataTaggedItem>>` is the flat list of the items (Model/IfData.lean), the `Vec` under a
  tag is the sublist of the items with that tag, and the key is present iff that sublist is not empty; so the
  `panic` result below is unreachable in the model (`Props/C19.lean mismatch_no_panic`). A `GenericIfData` with an
  EMPTY `Vec` under a key (the type and its fields are public, so a user can build one; neither the parser nor `store`
  does) made `get_single_optitem` panic before that fix and is read as "tag absent" now; that value is not representable
  here: the harness covers it (`hand-built:empty-occurrence-list`).
* every other access is `input_items.get(idx).unwrap_or_else(|| &GenericIfData::None)`,
  `arrayitems.get(i).unwrap_or_else(..)`, `location.get(idx).copied().unwrap_or_default()`, or an accessor that
  returns `Err` on the wrong variant: no panic site. `#locationinfo[idx]` in the array writer indexes a `[L; dim]` with
  `idx < dim` (value and location arrays have the same length by their Rust types).

Specifications that the macro itself rejects (it panics at compile time, or the generated code does not compile):
a sequence of a tagged struct / tagged union; a tagged struct / union, a sequence or "no type" as the element of an
array or sequence or ("no type") as a struct member; anonymous structs in member position (names are not modelled, so
this is not visible here); arrays of structs / enums / arrays (the generated `store` does not compile). For those the
functions below give the compositional reading where there is one (arrays of anything) and `err` / `Gen.none` where the
code generator has no case (`OTy.none`, `OTy.tagged` in element position). `Flat` (Lemmas/TypedExact.lean) is the
decidable description of the trees for which the code generators have a case at every node.
-/
namespace A2l.Typed
open A2l.Aml A2l.IfData

/-! ## the output data types (`fixup_output_datatypes`) -/

/-- a member of a tagged struct / union after `fixup_taggeditems`: its data has become a block type with `items` -/
structure OTag (α : Type) where
  tag : List Char
  isBlock : Bool
  rep : Bool
  items : List α
  deriving Repr, Inhabited

/-- `BaseType` after the fixup phase, with the referenced types inlined. `none` = `BaseType::None` in a position
    where the code generators have no case for it. -/
inductive OTy where
  | none
  | int (w : Nat)
  | float
  | double
  | str
  | array (of : OTy) (dim : Nat)
  | enum (names : List (List Char))
  | struct (items : List OTy)
  | seq (of : OTy)
  | tagged (union : Bool) (members : List (OTag OTy))
  deriving Repr, Inhabited

/-- `arraytype.basetype == BaseType::Char` -/
def isChar : Spec → Bool
  | .int 0 => true
  | _ => false

/-- `item.basetype == BaseType::None` -/
def isNone : Spec → Bool
  | .none => true
  | _ => false

mutual

/-- `fixup_data_type` -/
def fixItem : Spec → OTy
  | .none => .none
  | .int w => .int w
  | .float => .float
  | .double => .double
  | .array of dim => if isChar of then .str else .array (fixItem of) dim
  | .enum items => .enum (items.map (·.1))
  | .struct items => .struct (structItems items)
  | .seq of =>
    let r := fixItem of
    match of with
    | .seq inner => .seq (fixItem inner)          -- "seqence(seqence(x)) makes no sense, flatten it"
    | _ => .seq r
  | .taggedStruct items => .tagged false (fixTagged items)
  | .taggedUnion items => .tagged true (fixTagged items)

/-- `fixup_add_data_to_struct`: the fields that a data item contributes to a block (`fixup_output_block`) or to a
    struct type (`fixup_struct`): the members of a struct, nothing for "no data", else the item itself.
    (Written out by cases; `blockItems_eq` is the three-line reading.) -/
def blockItems : Spec → List OTy
  | .struct items => fixItems items
  | .none => []
  | .int w => [.int w]
  | .float => [.float]
  | .double => [.double]
  | .array of dim => [if isChar of then .str else .array (fixItem of) dim]
  | .enum items => [.enum (items.map (·.1))]
  | .seq of =>
    let r := fixItem of
    [match of with
     | .seq inner => .seq (fixItem inner)
     | _ => .seq r]
  | .taggedStruct items => [.tagged false (fixTagged items)]
  | .taggedUnion items => [.tagged true (fixTagged items)]

/-- `for sitem in structitems { push(fixup_make_dataitem(sitem)) }` -/
def fixItems : List Spec → List OTy
  | [] => []
  | s :: rest => fixItem s :: fixItems rest

/-- `fixup_struct`: `for item in structitems { if item.basetype != BaseType::None { push(fixup_make_dataitem(item)) } }`
    (after the fix of the finding in Props/C19.lean `old_fixup_struct_inlined_struct_members`; before it the loop was
    `new_structitems.extend(fixup_add_data_to_struct(item))`, which inlined the members of a struct member) -/
def structItems : List Spec → List OTy
  | [] => []
  | s :: rest => if isNone s then structItems rest else fixItem s :: structItems rest

/-- `fixup_taggeditems`: every member becomes `fixup_output_block(tag, item, is_block)` -/
def fixTagged : List (Tagged Spec) → List (OTag OTy)
  | [] => []
  | t :: rest => ⟨t.tag, t.isBlock, t.rep, blockItems t.item⟩ :: fixTagged rest

end

/-- the root type: `fixup_output_block(spec, &spec.name, ifdata_item, .., true)` -/
def rootItems (S : Spec) : List OTy := blockItems S

/-! ## typed values -/

/-- one component of `__block_info.item_location`: `(u32, bool)` for an integer, `u32` for every other single item
    (for a struct member: the line of the `Struct`), `[L; dim]` for an array, `Vec<L>` for a sequence -/
inductive Loc where
  | int (off : Nat) (hex : Bool)
  | off (n : Nat)
  | arr (l : List Loc)
  | seq (l : List Loc)
  deriving Repr, Inhabited

/-- `BlockInfo<..>` without `incfile` -/
structure BInfo where
  line : Nat
  uid : Nat
  startOff : Nat
  endOff : Nat
  locs : List Loc
  deriving Repr, Inhabited

/-- a value of a generated type: scalars (a float is the text that `add_float` prints for it, as in `Gen`), an enum
    item by its A2ML name, `[T; dim]`, `Vec<T>`, a generated struct (struct type or block type) with its fields in
    order, and the two kinds of fields that a tagged member becomes -/
inductive TVal where
  | int (v : Int)
  | float (txt : List Char)
  | double (txt : List Char)
  | str (s : List Char)
  | enum (name : List Char)
  | array (items : List TVal)
  | seq (items : List TVal)
  | struct (info : BInfo) (fields : List TVal)
  | opt (o : Option TVal)
  | multi (items : List TVal)
  deriving Repr, Inhabited

/-- `Result<T, &'static str>` of the generated `parse` functions, plus the panic of an unchecked index -/
inductive LRes (α : Type) where
  | ok (a : α)
  | err
  | panic
  deriving Repr, Inhabited

instance : Monad LRes where
  pure a := .ok a
  bind m f := match m with
    | .ok a => f a
    | .err => .err
    | .panic => .panic

/-- `for x in xs { out.push(f(x)?) }` -/
def mapL {α β : Type} (f : α → LRes β) : List α → LRes (List β)
  | [] => pure []
  | x :: rest => do
    let b ← f x
    let bs ← mapL f rest
    pure (b :: bs)

/-- the array initialiser `[ f(arrayitems.get(0).unwrap_or(&None))?, .., f(arrayitems.get(dim-1).unwrap_or(&None))? ]`:
    "the data may have been parsed using a different definition with a shorter array" -/
def loadArr {β : Type} (f : Gen → LRes β) : Nat → List Gen → LRes (List β)
  | 0, _ => pure []
  | n + 1, items => do
    let b ← f (items.headD .none)
    let bs ← loadArr f n items.tail
    pure (b :: bs)

/-! ## typed LOAD -/

/-- `taggeditems.get(tag)`: the `Vec` under the key -/
def itemsOf (items : List (TItem Gen)) (tag : List Char) : List (TItem Gen) := items.filter (fun it => it.tag = tag)

/-- is the key present in the hash map -/
def hasTag (items : List (TItem Gen)) (tag : List Char) : Bool := items.any (fun it => it.tag = tag)

/-- the `match self { TaggedStruct(taggeditems) | TaggedUnion(taggeditems) => .., _ => Err(..) }` of
    `get_single_optitem` / `get_multiple_optitems` -/
def tagItems : Gen → LRes (List (TItem Gen))
  | .taggedStruct items => .ok items
  | .taggedUnion items => .ok items
  | _ => .err

/-- the generated `parse(data, __uid, __start_offset, __end_offset)` of a block type (`get_block_items`), given the
    field initialisers `lf` -/
def loadBlockWith (lf : List Gen → LRes (List TVal × List Loc)) (g : Gen) (uid startOff endOff : Nat) : LRes TVal :=
  match g with
  | .block line gs => do
    let r ← lf gs
    pure (.struct ⟨line, uid, startOff, endOff, r.2⟩ r.1)
  | _ => .err

/-- one member of a tagged struct / union: `get_multiple_optitems(tag, T::parse)` for a `( ... )*` member,
    `get_single_optitem(tag, T::parse)` otherwise; `lf` = the field initialisers of the member's block type `T` -/
def loadMember (lf : List Gen → LRes (List TVal × List Loc)) (tag : List Char) (rep : Bool) (items : List (TItem Gen)) :
    LRes TVal :=
  if rep then do
    let vs ← mapL (fun it => loadBlockWith lf it.data it.uid it.startOff it.endOff) (itemsOf items tag)
    pure (.multi vs)
  else if hasTag items tag then
    match itemsOf items tag with
    | [] => .panic                                                                 -- `itemlist[0]`
    | it :: _ => do
      let v ← loadBlockWith lf it.data it.uid it.startOff it.endOff
      pure (.opt (some v))
  else pure (.opt none)

/-- is this item a tagged struct / union (which becomes one field per member) -/
def isTagged : OTy → Bool
  | .tagged _ _ => true
  | _ => false

mutual

/-- `generate_item_parser_call` together with `generate_item_location` for the same item: the value and its entry
    in `item_location` (both are evaluated with `?`; neither has a side effect, so the order does not matter) -/
def loadItem : OTy → Gen → LRes (TVal × Loc)
  | .none, _ => .err
  | .int w, g =>
    match g with
    | .int w' off v hex => if w' = w then .ok (.int v, .int off hex) else .err      -- `get_integer_*`, `get_line`, `get_int_is_hex`
    | _ => .err
  | .float, g =>
    match g with
    | .float off txt => .ok (.float txt, .off off)
    | _ => .err
  | .double, g =>
    match g with
    | .double off txt => .ok (.double txt, .off off)
    | _ => .err
  | .str, g =>
    match g with
    | .str off s => .ok (.str s, .off off)
    | _ => .err
  | .array of dim, g =>
    match g with
    | .array items => do                                                           -- `get_array`
      let rs ← loadArr (loadItem of) dim items
      pure (.array (rs.map (·.1)), .arr (rs.map (·.2)))
    | _ => .err
  | .enum names, g =>
    match g with
    | .enumItem off s => if names.contains s then .ok (.enum s, .off off) else .err   -- the generated `match &**item`
    | _ => .err
  | .struct items, g =>
    match g with
    | .struct line gs => do                                                        -- `get_struct_items`
      let r ← loadFields items gs
      pure (.struct ⟨line, 0, 0, 0, r.2⟩ r.1, .off line)
    | _ => .err
  | .seq of, g =>
    match g with
    | .seq items => do                                                             -- `get_sequence`
      let rs ← mapL (loadItem of) items
      pure (.seq (rs.map (·.1)), .seq (rs.map (·.2)))
    | _ => .err
  | .tagged _ _, _ => .err

/-- `generate_struct_field_intializers`: field `idx` reads `input_items.get(idx).unwrap_or(&None)`; a tagged struct /
    union contributes one field per member and no location -/
def loadFields : List OTy → List Gen → LRes (List TVal × List Loc)
  | [], _ => pure ([], [])
  | t :: rest, gs =>
    match t with
    | .tagged _ members => do
      let ms ← loadMembers members (gs.headD .none)
      let r ← loadFields rest gs.tail
      pure (ms ++ r.1, r.2)
    | t => do
      let x ← loadItem t (gs.headD .none)
      let r ← loadFields rest gs.tail
      pure (x.1 :: r.1, x.2 :: r.2)

/-- the fields of the members of a tagged struct / union, one per member -/
def loadMembers : List (OTag OTy) → Gen → LRes (List TVal)
  | [], _ => pure []
  | m :: rest, g => do
    let items ← tagItems g
    let v ← loadMember (loadFields m.items) m.tag m.rep items
    let vs ← loadMembers rest g
    pure (v :: vs)

end

/-- `X::parse(data, uid, start_offset, end_offset)` of the root type `X` of the specification `S` -/
def typedLoadAt (S : Spec) (g : Gen) (uid startOff endOff : Nat) : LRes TVal :=
  loadBlockWith (loadFields (rootItems S)) g uid startOff endOff

/-- typed LOAD of a generic value with the layout of a fresh block (what `load_from_ifdata` does for an `IfData::new()`) -/
def typedLoad (S : Spec) (g : Gen) : LRes TVal := typedLoadAt S g 0 1 1

/-! ## typed STORE -/

def Loc.offOf : Loc → Nat
  | .int o _ => o
  | .off n => n
  | _ => 0

def Loc.hexOf : Loc → Bool
  | .int _ hex => hex
  | _ => false

def Loc.listOf : Loc → List Loc
  | .arr l => l
  | .seq l => l
  | _ => []

/-- `Default::default()` of the location type of an item -/
def defLoc : OTy → Loc
  | .int _ => .int 0 false
  | .array of dim => .arr (List.replicate dim (defLoc of))
  | .seq _ => .seq []
  | _ => .off 0

/-- `for (idx, item) in xs.iter().enumerate() { out.push(f(item, location.get(idx).copied().unwrap_or_default())) }`
    (for an array the location is `#locationinfo[idx]`, which exists) -/
def storeList (f : TVal → Loc → Gen) (dflt : Loc) : List TVal → List Loc → List Gen
  | [], _ => []
  | v :: vs, locs => f v (locs.headD dflt) :: storeList f dflt vs locs.tail

/-- `GenericIfDataTaggedItem { tag, data: taggeditem.store(), is_block, line, uid, start_offset, end_offset }`;
    `sf` = the stored fields of the member's block type -/
def mkItem (sf : List TVal → List Loc → List Gen) (tag : List Char) (isBlock : Bool) (v : TVal) : TItem Gen :=
  match v with
  | .struct info fs => ⟨info.line, info.uid, info.startOff, info.endOff, tag, .block info.line (sf fs info.locs), isBlock⟩
  | _ => ⟨0, 0, 0, 0, tag, .none, isBlock⟩            -- not a value of the member's type (no such Rust value)

/-- what one member inserts into the hash map: nothing for `None` / an empty `Vec` -/
def storeMember (sf : List TVal → List Loc → List Gen) (tag : List Char) (isBlock : Bool) (field : TVal) : List (TItem Gen) :=
  match field with
  | .opt (some v) => [mkItem sf tag isBlock v]
  | .multi vs => vs.map (mkItem sf tag isBlock)
  | _ => []

mutual

/-- `generate_indirect_store_simple_item` (and the `Sequence` arm of `generate_indirect_store_item`) -/
def storeItem : OTy → TVal → Loc → Gen
  | .none, _, _ => .none
  | .int w, v, loc =>
    match v with
    | .int i => .int w loc.offOf i loc.hexOf
    | _ => .none
  | .float, v, loc =>
    match v with
    | .float txt => .float loc.offOf txt
    | _ => .none
  | .double, v, loc =>
    match v with
    | .double txt => .double loc.offOf txt
    | _ => .none
  | .str, v, loc =>
    match v with
    | .str s => .str loc.offOf s
    | _ => .none
  | .array of _, v, loc =>
    match v with
    | .array vs => .array (storeList (storeItem of) (defLoc of) vs loc.listOf)
    | _ => .none
  | .enum _, v, loc =>
    match v with
    | .enum s => .enumItem loc.offOf s                                             -- `Enum::store(line)`
    | _ => .none
  | .struct items, v, _ =>
    match v with
    | .struct info fs => .struct info.line (storeFields items fs info.locs)        -- `Struct::store()`
    | _ => .none
  | .seq of, v, loc =>
    match v with
    | .seq vs => .seq (storeList (storeItem of) (defLoc of) vs loc.listOf)
    | _ => .none
  | .tagged _ _, _, _ => .none

/-- `generate_indirect_store_item`: the stored items of a struct / block type, given the fields and `item_location`;
    `storageidx` advances with every non-tagged field -/
def storeFields : List OTy → List TVal → List Loc → List Gen
  | [], _, _ => []
  | t :: rest, fs, locs =>
    match t with
    | .tagged union members =>
      (if union then Gen.taggedUnion (storeMembers members fs) else Gen.taggedStruct (storeMembers members fs)) ::
        storeFields rest (fs.drop members.length) locs
    | t => storeItem t (fs.headD (.opt none)) (locs.headD (defLoc t)) :: storeFields rest fs.tail locs.tail

/-- `generate_indirect_store_taggeditems`: the hash map as the list of what the members insert, member by member -/
def storeMembers : List (OTag OTy) → List TVal → List (TItem Gen)
  | [], _ => []
  | m :: rest, fs => storeMember (storeFields m.items) m.tag m.isBlock (fs.headD (.opt none)) ++ storeMembers rest fs.tail

end

/-- `X::store()` of the root type -/
def typedStore (S : Spec) (v : TVal) : Gen :=
  match v with
  | .struct info fs => .block info.line (storeFields (rootItems S) fs info.locs)
  | _ => .none

/-! ## `load_from_ifdata` / `store_to_ifdata` (`generate_interface`) -/

/-- `IfData`: `ifdata_items`, `ifdata_valid` and the layout (`__block_info`: line, uid, offsets) -/
structure IfDataBlk where
  items : Option Gen
  valid : Bool
  line : Nat
  uid : Nat
  startOff : Nat
  endOff : Nat
  deriving Repr, Inhabited

/-- `IfData::new()` -/
def IfDataBlk.new : IfDataBlk := ⟨none, false, 0, 0, 1, 1⟩

/-- `X::load_from_ifdata(&ifdata) -> Option<X>`; `.ok none` = `None` -/
def loadFromIfdata (S : Spec) (b : IfDataBlk) : LRes (Option TVal) :=
  if b.valid then
    match b.items with
    | some g =>
      match typedLoadAt S g b.uid b.startOff b.endOff with
      | .ok v => .ok (some v)
      | .err => .ok none
      | .panic => .panic
    | none => .ok none
  else .ok none

/-- `x.store_to_ifdata(&mut ifdata)` -/
def storeToIfdata (S : Spec) (v : TVal) (b : IfDataBlk) : IfDataBlk :=
  { b with valid := true, items := some (typedStore S v) }

/-! ## the text constant (`generate_a2ml_constant`)

The macro renders its own syntax tree, in which named types and references to them are kept. `Spec` has the references
resolved, so `renderSpec` is the generator for specifications WITHOUT named types (every type written inline, as
`generate_a2ml_constant_of_item` does for an anonymous type); white space is one blank where the generator indents. -/

def renderEnumItems : List (List Char × Option Int) → List Char
  | [] => []
  | [(n, v)] => ['"'] ++ n ++ ['"'] ++ (match v with | some c => " = ".toList ++ A2l.Sc.showDec c | none => []) ++ [' ']
  | (n, v) :: rest =>
    ['"'] ++ n ++ ['"'] ++ (match v with | some c => " = ".toList ++ A2l.Sc.showDec c | none => []) ++ ", ".toList ++
      renderEnumItems rest

mutual
def renderItem : Spec → List Char
  | .none => []
  | .int w => (intName w).toList
  | .float => "float".toList
  | .double => "double".toList
  | .array of dim => renderItem of ++ ['['] ++ A2l.Sc.showDec dim ++ [']']
  | .enum items => "enum { ".toList ++ renderEnumItems items ++ ['}']
  | .struct items => "struct { ".toList ++ renderMembers items ++ ['}']
  | .seq of => ['('] ++ renderItem of ++ [')', '*']
  | .taggedStruct items => "taggedstruct { ".toList ++ renderTagged items ++ ['}']
  | .taggedUnion items => "taggedunion { ".toList ++ renderTagged items ++ ['}']
def renderMembers : List Spec → List Char
  | [] => []
  | s :: rest => renderItem s ++ "; ".toList ++ renderMembers rest
def renderTagged : List (Tagged Spec) → List Char
  | [] => []
  | t :: rest =>
    (if t.rep then ['('] else []) ++ (if t.isBlock then "block ".toList else []) ++ ['"'] ++ t.tag ++ ['"', ' '] ++
      renderItem t.item ++ (if t.rep then [')', '*'] else []) ++ "; ".toList ++ renderTagged rest
end

/-- `generate_a2ml_constant` for a specification without named types -/
def renderSpec (S : Spec) : List Char := "block \"IF_DATA\" ".toList ++ renderItem S ++ [';']

end A2l.Typed
