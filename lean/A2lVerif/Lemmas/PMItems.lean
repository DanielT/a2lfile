import A2lVerif.Lemmas.PMLogic
/-!
# Properties of parser programs that the parameter parsers keep

For a property `R` with the closure rules `PMRules` / `PMRulesLog` of Lemmas/PMLogic.lean: the parser of a scalar
parameter satisfies `R`; a parameter list, an array and a keyword type without tagged part satisfy `R` if their items do.
-/
namespace A2l.Tree
open A2l.G A2l.Sc

/-- parameter types that are read by one cursor primitive -/
def scalarItem : ItemTy → Bool
  | .structRef _ | .arr _ _ | .seq _ _ => false
  | _ => true

namespace PMRules
variable {e : Env} {R : ∀ {α : Type}, PM α → Prop} (H : PMRules e R)
include H

theorem parseArr {of : ItemTy} (h : ∀ fuel ctx, R (parseItem fuel ctx of)) : ∀ fuel ctx n, R (parseArr fuel ctx of n)
  | 0, _, _ => by rw [A2l.Tree.parseArr]; exact H.outOfFuel
  | fuel + 1, ctx, 0 => by rw [A2l.Tree.parseArr]; exact H.pure _
  | fuel + 1, ctx, n + 1 => by
    rw [A2l.Tree.parseArr]
    exact H.bind (h fuel ctx) fun _ => H.bind (PMRules.parseArr h fuel ctx n) fun _ => H.pure _

theorem parseItems : ∀ (fuel : Nat) (ctx : Ctx) (its : List ItemTy),
    (∀ it ∈ its, ∀ fuel ctx, R (parseItem fuel ctx it)) → R (parseItems fuel ctx its)
  | 0, _, _, _ => by rw [A2l.Tree.parseItems]; exact H.outOfFuel
  | fuel + 1, ctx, [], _ => by rw [A2l.Tree.parseItems]; exact H.pure _
  | fuel + 1, ctx, it :: its, h => by
    rw [A2l.Tree.parseItems]
    exact H.bind (h it (List.mem_cons_self ..) fuel ctx) fun _ =>
      H.bind (PMRules.parseItems fuel ctx its fun it' hit' => h it' (List.mem_cons_of_mem _ hit')) fun _ => H.pure _

/-- a keyword / struct without tagged part: a fresh id, its parameters, nothing else -/
theorem parseType_plain (hId : R getNextId) {ty : Nat} {items : List ItemTy}
    (hlk : e.table.lookup ty = some (.block false items [] false))
    (hitems : ∀ fuel ctx, R (A2l.Tree.parseItems fuel ctx items)) : ∀ fuel ctx off, R (parseType fuel ty ctx off) := by
  intro fuel ctx off
  cases fuel with
  | zero => rw [parseType]; exact H.outOfFuel
  | succ fuel =>
    rw [parseType]
    refine H.getEnv_bind (fun _ => rfl) ?_
    simp only [hlk]
    refine H.bind hId fun uid => H.bind (hitems fuel ctx) fun fields => ?_
    simp only [Bool.false_eq_true, if_false]
    refine H.bind (H.pure _) fun x => ?_
    obtain ⟨children, comments⟩ := x
    simp only [List.zip_nil_left, List.foldlM_nil]
    exact H.bind (H.pure _) fun _ => H.pure _

end PMRules

/-- an enum reference that does not resolve is the model's `panic` arm, which `R` holds of -/
theorem PMRulesLog.parseItem_scalar {e : Env} {R : ∀ {α : Type}, PM α → Prop} (H : PMRulesLog e R)
    (hS : ∀ {β} {f : PState → PM β}, (∀ s0, R (f s0)) → R (getState >>= f)) (hW : ∀ {k : DK}, R (logWarning k))
    (fuel : Nat) (ctx : Ctx) (it : ItemTy) (hit : scalarItem it = true) : R (parseItem fuel ctx it) := by
  cases fuel with
  | zero => rw [parseItem]; exact H.outOfFuel
  | succ fuel =>
    cases it with
    | ident => rw [parseItem]; exact H.withOff (H.getIdentifier ctx)
    | string => rw [parseItem]; exact H.withOff (H.getString ctx)
    | double | float => rw [parseItem]; exact H.withOff (H.getDouble ctx)
    | int w => rw [parseItem]; exact H.bind (H.getInteger ctx w) fun _ => H.bind H.getLineOffset fun _ => H.pure _
    | strMax n => rw [parseItem]; exact H.bind (H.getStringMaxlen ctx n) fun _ => H.pure _
    | enumRef ty =>
      rw [parseItem]
      refine H.getEnv_bind (fun _ => rfl) ?_
      split
      · exact H.withOff (H.parseEnum hS hW _ ctx)
      · exact H.panic
    | structRef _ | arr _ _ | seq _ _ => cases hit

end A2l.Tree
