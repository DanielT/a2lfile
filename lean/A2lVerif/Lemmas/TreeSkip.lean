import A2lVerif.Lemmas.TreeMonad
/-! C07: the unknown-element skipper on the tokens from the cursor on (`e.toks.toList.drop s.pos`), token type by token
    type (`skipStep` of Lemmas/TreeMonad.lean) -/
namespace A2l.Tree

/-- nesting depth change of a token list (`/begin` = +1, `/end` = -1) -/
def depth : List PTok → Int
  | [] => 0
  | t :: ts => (if t.ty = 1 then 1 else if t.ty = 2 then -1 else 0) + depth ts

/-- no prefix closes more blocks than it opened, starting at depth `d` -/
def NoDipFrom : Int → List PTok → Prop
  | _, [] => True
  | d, t :: ts =>
    if t.ty = 1 then NoDipFrom (d + 1) ts
    else if t.ty = 2 then 0 ≤ d - 1 ∧ NoDipFrom (d - 1) ts
    else NoDipFrom d ts

/-- `last_token_position` after reading a token list, `d` if the list is empty -/
def lastLineOf : Nat → List PTok → Nat
  | d, [] => d
  | _, t :: ts => lastLineOf t.line ts

theorem skipUnknownLoop_cons (ctx : Ctx) (tag : List Char) (ib : Bool) (stop : List Nat) (b : Int) (fuel : Nat)
    (e : Env) (s : PState) {t : PTok} {r : List PTok} (hf : fuel ≠ 0) (h : e.toks.toList.drop s.pos = t :: r) :
    skipUnknownLoop ctx tag ib stop b fuel e s = skipStep ctx tag ib stop b (fuel - 1) t e (s.step t) := by
  obtain ⟨fuel, rfl⟩ := Nat.exists_eq_succ_of_ne_zero hf
  rw [skipUnknownLoop_succ, bind_def, getToken_some ctx e s t (drop_toList_eq_cons h).1]
  rfl

theorem skipUnknownLoop_nil (ctx : Ctx) (tag : List Char) (ib : Bool) (stop : List Nat) (b : Int) (fuel : Nat)
    (e : Env) (s : PState) (hf : fuel ≠ 0) (h : e.toks.toList.drop s.pos = []) :
    skipUnknownLoop ctx tag ib stop b fuel e s = .err ⟨.unexpectedEOF, s.lastLine⟩ s := by
  obtain ⟨fuel, rfl⟩ := Nat.exists_eq_succ_of_ne_zero hf
  rw [skipUnknownLoop_succ, bind_def, getToken_none ctx e s (by simpa using h)]

/-- a token is only counted while the balance is, and stays, at or above the level at which the loop looks at tokens:
    `1` for a block (the level of its own `/end TAG`), `0` for a keyword (the level of the enclosing block's tags) -/
theorem skipStep_inside {ctx : Ctx} {tag : List Char} {ib : Bool} {stop : List Nat} {b : Int} {fuel : Nat} {t : PTok}
    (hb : (if ib then 1 else 0) ≤ b) (hend : t.ty = 2 → (if ib then 1 else 0) ≤ b - 1)
    (hstop : ib = false → t.ty = 0 → ¬ stop.contains t.sym = true) :
    skipStep ctx tag ib stop b fuel t =
      skipUnknownLoop ctx tag ib stop (b + (if t.ty = 1 then 1 else if t.ty = 2 then -1 else 0)) fuel := by
  by_cases h1 : t.ty = 1
  · rw [skipStep_begin h1, if_pos h1]
  by_cases h2 : t.ty = 2
  · have := hend h2
    rw [skipStep_end h2, if_neg (by omega), if_neg h1, if_pos h2]
    rfl
  rw [if_neg h1, if_neg h2, Int.add_zero]
  by_cases h0 : t.ty = 0
  · cases ib with
    | true =>
      have hb1 : (1 : Int) ≤ b := hb
      rw [skipStep_ident_block h0, if_neg (by omega)]
    | false => rw [skipStep_ident_keyword h0, if_neg (fun h => hstop rfl h0 h.2)]
  · rw [skipStep_other h0 h1 h2, if_neg]
    rintro ⟨rfl, rfl⟩
    exact absurd hb (by decide)

theorem NoDipFrom.tail {d : Int} {t : PTok} {ts : List PTok} (hd : 0 ≤ d) (h : NoDipFrom d (t :: ts)) :
    0 ≤ d + (if t.ty = 1 then 1 else if t.ty = 2 then -1 else 0) ∧
      NoDipFrom (d + (if t.ty = 1 then 1 else if t.ty = 2 then -1 else 0)) ts := by
  unfold NoDipFrom at h
  by_cases h1 : t.ty = 1
  · rw [if_pos h1] at h ⊢
    exact ⟨by omega, h⟩
  by_cases h2 : t.ty = 2
  · rw [if_neg h1, if_pos h2] at h ⊢
    exact h
  · rw [if_neg h1, if_neg h2] at h ⊢
    rw [Int.add_zero]
    exact ⟨hd, h⟩

/-- **inside the unknown element the loop only counts**: a `body` in front of the cursor without dips below the level of
    the loop (and, for a keyword, without identifiers of the stop list) is consumed token by token -/
theorem skipUnknownLoop_body (ctx : Ctx) (tag : List Char) (ib : Bool) (stop : List Nat) (e : Env) :
    ∀ (body rest : List PTok) (s : PState) (b : Int) (fuel : Nat),
      e.toks.toList.drop s.pos = body ++ rest →
      (if ib then 1 else 0) ≤ b → NoDipFrom (b - (if ib then 1 else 0)) body →
      (ib = false → ∀ t ∈ body, t.ty = 0 → ¬ stop.contains t.sym = true) →
      body.length < fuel →
      skipUnknownLoop ctx tag ib stop b fuel e s =
        skipUnknownLoop ctx tag ib stop (b + depth body) (fuel - body.length) e
          { s with pos := s.pos + body.length, lastLine := lastLineOf s.lastLine body }
  | [], _, s, b, fuel, _, _, _, _, _ => by
    cases s
    simp only [depth, lastLineOf, List.length_nil, Nat.add_zero, Nat.sub_zero, Int.add_zero]
  | t :: body, rest, s, b, fuel, h, hb, hnd, hns, hfuel => by
    simp only [List.length_cons] at hfuel
    obtain ⟨hd', hnd'⟩ := hnd.tail (by omega)
    have hcomm : ∀ x y z : Int, x + y - z = x - z + y := fun x y z => by omega
    rw [skipUnknownLoop_cons ctx tag ib stop b fuel e s (by omega) h,
      skipStep_inside hb (fun h2 => by omega) (fun hib h0 => hns hib t (List.mem_cons_self ..) h0),
      skipUnknownLoop_body ctx tag ib stop e body rest (s.step t) _ (fuel - 1) (drop_toList_eq_cons h).2.1
        (by omega) (by rw [hcomm]; exact hnd') (fun h u hu => hns h u (List.mem_cons_of_mem _ hu)) (by omega)]
    simp only [depth, lastLineOf, List.length_cons, Int.add_assoc, Nat.add_assoc, Nat.add_comm 1, Nat.sub_sub]

/-- non-strict mode, at least one more token: log, probe the cursor (this moves `lastLine`), run the loop -/
theorem handleUnknown_nonstrict (ctx : Ctx) (tag : List Char) (ib : Bool) (stop : List Nat) (e : Env) (s : PState)
    (t : PTok) (hns : e.strict = false) (hget : e.toks[s.pos]? = some t) :
    handleUnknownTaggedstructTag ctx tag ib stop e s =
      skipUnknownLoop ctx tag ib stop (if ib then 1 else 0) (e.toks.size + 1) e
        { s with log := ⟨.unknownSubBlock, s.lastLine⟩ :: s.log, lastLine := t.line } := by
  have hget' : e.toks[({ s with log := ⟨.unknownSubBlock, s.lastLine⟩ :: s.log } : PState).pos]? = some t := hget
  simp only [handleUnknownTaggedstructTag, errorOrLog, bind_def, getEnv, hns, Bool.false_eq_true, ↓reduceIte,
    logWarning, modifyState, getToken_some ctx e _ t hget']
  rw [undoGetToken_succ e _ s.pos rfl]

theorem handleUnknown_body (ctx : Ctx) (tag : List Char) (ib : Bool) (stop : List Nat) (e : Env) (s : PState)
    (pre body rest : List PTok) (hns : e.strict = false)
    (htoks : e.toks.toList = pre ++ body ++ rest) (hpos : s.pos = pre.length) (hne : body ++ rest ≠ [])
    (hnodip : NoDipFrom 0 body) (hnostop : ib = false → ∀ t ∈ body, t.ty = 0 → ¬ stop.contains t.sym = true) :
    e.toks.toList.drop (s.pos + body.length) = rest ∧
    ∃ ll, handleUnknownTaggedstructTag ctx tag ib stop e s =
      skipUnknownLoop ctx tag ib stop ((if ib then 1 else 0) + depth body) (s.pos + rest.length + 1) e
        { s with pos := s.pos + body.length, log := ⟨.unknownSubBlock, s.lastLine⟩ :: s.log, lastLine := ll } := by
  have htail : e.toks.toList.drop s.pos = body ++ rest := by rw [htoks, hpos, List.append_assoc, List.drop_left]
  refine ⟨by rw [← List.drop_drop, htail, List.drop_left], ?_⟩
  obtain ⟨t0, r0, h0⟩ := List.exists_cons_of_ne_nil hne
  have hfuel : e.toks.size + 1 - body.length = s.pos + rest.length + 1 := by
    have h1 := congrArg List.length htail
    have h2 := congrArg List.length h0
    simp only [List.length_drop, Array.length_toList, List.length_append, List.length_cons] at h1 h2
    omega
  rw [handleUnknown_nonstrict ctx tag ib stop e s t0 hns (drop_toList_eq_cons (htail.trans h0)).1,
    skipUnknownLoop_body ctx tag ib stop e body rest
      { s with log := ⟨.unknownSubBlock, s.lastLine⟩ :: s.log, lastLine := t0.line } _ (e.toks.size + 1) htail
      (Int.le_refl _) (by rw [Int.sub_self]; exact hnodip) hnostop (by omega), hfuel]
  exact ⟨_, rfl⟩

/-- non-strict mode at the end of the token array: `UnexpectedEOF` (after the log entry) -/
theorem handleUnknown_nonstrict_eof (ctx : Ctx) (tag : List Char) (ib : Bool) (stop : List Nat) (e : Env) (s : PState)
    (hns : e.strict = false) (hget : e.toks[s.pos]? = none) :
    handleUnknownTaggedstructTag ctx tag ib stop e s =
      .err ⟨.unexpectedEOF, s.lastLine⟩ { s with log := ⟨.unknownSubBlock, s.lastLine⟩ :: s.log } := by
  have hget' : e.toks[({ s with log := ⟨.unknownSubBlock, s.lastLine⟩ :: s.log } : PState).pos]? = none := hget
  simp only [handleUnknownTaggedstructTag, errorOrLog, bind_def, getEnv, hns, Bool.false_eq_true, ↓reduceIte,
    logWarning, modifyState, getToken_none ctx e _ hget']

end A2l.Tree
