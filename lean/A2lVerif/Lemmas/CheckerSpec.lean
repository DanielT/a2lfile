import A2lVerif.Lemmas.Basics
import A2lVerif.Lemmas.Checker
import A2lVerif.Lemmas.CheckerGroups
/-! The reference specification of `check()` — every covered reference site with its target name space — and the proof
    that the structural checker model reports exactly the sites that do not resolve, in order. -/
namespace A2l.Chk

/-- one covered reference: the name a report would carry, and whether the reference resolves -/
structure Site where
  target : Name
  resolves : Bool

/-- what a sound and complete checker names -/
def dangling (ss : List Site) : List Name := (ss.filter fun x => !x.resolves).map (·.target)

def xrefTarget : Report → Option Name
  | .xref _ _ _ t => some t
  | _ => none

def xrefTargets (rs : List Report) : List Name := rs.filterMap xrefTarget

/-- a single-name reference with a reserved word that means "none" -/
def convSite (reserved : Name) (target : Name) (space : List Name) : Site := ⟨target, target == reserved || space.contains target⟩

def nameSite (target : Name) (space : List Name) : Site := ⟨target, space.contains target⟩

def optSite (o : Option Name) (space : List Name) : List Site :=
  match o with
  | none => []
  | some t => [nameSite t space]

def listSites (l : Option (List Name)) (space : List Name) : List Site :=
  match l with
  | none => []
  | some l => l.map fun t => nameSite t space

/-- AXIS_PTS_REF / CURVE_AXIS_REF: `THIS.x` designates component `x` of every containing structure when the typedef is
    not used directly and some structure contains it; otherwise the text is an object name -/
def thisSite (target : Name) (objects : List Name) (direct : Bool) (containing : List TypedefStructure) : Site :=
  match (if !direct && !containing.isEmpty then stripPrefix? (s "THIS.") target else none) with
  | some comp => ⟨comp, isValidStructureComponent comp containing⟩
  | none => nameSite target objects

def optThisSite (o : Option Name) (objects : List Name) (direct : Bool) (containing : List TypedefStructure) : List Site :=
  match o with
  | none => []
  | some t => [thisSite t objects direct containing]

def memSegSite (m : Module) (o : Option Name) : List Site :=
  match o with
  | none => []
  | some n => [⟨n, match m.memorySegment with | some segs => segs.contains n | none => false⟩]

def axisDescrSites (m : Module) (direct : Bool) (containing : List TypedefStructure) (ad : AxisDescr) : List Site :=
  [convSite (s "NO_INPUT_QUANTITY") ad.inputQuantity m.objects,
   convSite (s "NO_COMPU_METHOD") ad.conversion m.compuMethodNames] ++
  optThisSite ad.axisPtsRef m.objects direct containing ++
  optThisSite ad.curveAxisRef m.objects direct containing

def charCommonSites (m : Module) (direct : Bool) (containing : List TypedefStructure) (c : Characteristic) : List Site :=
  [convSite (s "NO_COMPU_METHOD") c.conversion m.compuMethodNames] ++
  c.axisDescr.flatMap (axisDescrSites m direct containing) ++
  [nameSite c.recordLayout m.recordLayoutNames]

def characteristicSites (m : Module) (c : Characteristic) : List Site :=
  charCommonSites m true [] c ++ optSite c.comparisonQuantity m.objects ++ listSites c.dependent m.objects ++
  listSites c.mapList m.objects ++ listSites c.virtualChar m.objects ++ listSites c.functionList m.functionNames ++
  memSegSite m c.refMemorySegment

def typedefCharacteristicSites (m : Module) (t : Characteristic) : List Site :=
  charCommonSites m (m.instance_.any fun i => i.typeRef == t.name)
    (m.typedefStructure.filter fun ts => ts.components.any fun sc => sc.2 == t.name) t

def axisPtsSites (m : Module) (a : AxisPts) : List Site :=
  [convSite (s "NO_COMPU_METHOD") a.conversion m.compuMethodNames,
   convSite (s "NO_INPUT_QUANTITY") a.inputQuantity m.objects,
   nameSite a.depositRecord m.recordLayoutNames] ++
  listSites a.functionList m.functionNames ++ memSegSite m a.refMemorySegment

def typedefAxisSites (m : Module) (t : TypedefAxis) : List Site :=
  [convSite (s "NO_INPUT_QUANTITY") t.inputQuantity m.objects,
   nameSite t.recordLayout m.recordLayoutNames,
   convSite (s "NO_COMPU_METHOD") t.conversion m.compuMethodNames]

def compuMethodSites (m : Module) (cm : CompuMethod) : List Site :=
  optSite cm.compuTabRef m.compuTabs ++ optSite cm.refUnit m.unit ++ optSite cm.statusStringRef m.compuTabs

def functionSites (m : Module) (f : Function) : List Site :=
  listSites f.inMeas m.objects ++ listSites f.locMeas m.objects ++ listSites f.outMeas m.objects ++
  listSites f.defChar m.objects ++ listSites f.refChar m.objects ++ listSites f.subFunction m.functionNames

def groupSites (m : Module) (g : Group) : List Site :=
  listSites g.refChar m.objects ++ listSites g.refMeas m.objects ++ listSites g.functionList m.functionNames ++
  listSites g.subGroup m.groupNames

def measurementSites (m : Module) (x : Measurement) : List Site :=
  [convSite (s "NO_COMPU_METHOD") x.conversion m.compuMethodNames] ++ memSegSite m x.refMemorySegment ++
  listSites x.functionList m.functionNames

def typedefMeasurementSites (m : Module) (x : Measurement) : List Site :=
  [convSite (s "NO_COMPU_METHOD") x.conversion m.compuMethodNames]

def transformerSites (m : Module) (t : Transformer) : List Site :=
  [convSite (s "NO_INVERSE_TRANSFORMER") t.inverse m.transformerNames] ++ listSites t.inObjects m.objects ++
  listSites t.outObjects m.objects

/-- all covered reference sites of a module, in the order in which `check()` visits them. SUB_GROUP occurs twice:
    `check_group` and `check_group_structure` both diagnose a missing sub-group. -/
def sitesOf (m : Module) : List Site :=
  m.axisPts.flatMap (axisPtsSites m) ++
  m.typedefAxis.flatMap (typedefAxisSites m) ++
  m.characteristic.flatMap (characteristicSites m) ++
  m.typedefCharacteristic.flatMap (typedefCharacteristicSites m) ++
  m.compuMethod.flatMap (compuMethodSites m) ++
  m.function.flatMap (functionSites m) ++
  m.group.flatMap (groupSites m) ++
  m.group.flatMap (fun g => listSites g.subGroup m.groupNames) ++
  m.measurement.flatMap (measurementSites m) ++
  m.typedefMeasurement.flatMap (typedefMeasurementSites m) ++
  m.transformer.flatMap (transformerSites m) ++
  m.instance_.flatMap (fun i => [nameSite i.typeRef m.typedefs]) ++
  m.typedefStructure.flatMap (fun ts => ts.components.map fun sc => nameSite sc.2 m.typedefs)

@[simp] theorem xrefTargets_nil : xrefTargets [] = [] := rfl
@[simp] theorem xrefTargets_append (a b : List Report) : xrefTargets (a ++ b) = xrefTargets a ++ xrefTargets b :=
  List.filterMap_append
@[simp] theorem dangling_nil : dangling [] = [] := rfl
@[simp] theorem dangling_append (a b : List Site) : dangling (a ++ b) = dangling a ++ dangling b := by
  simp only [dangling, List.filter_append, List.map_append]

theorem mem_dangling {ss : List Site} {t : Name} :
    t ∈ dangling ss ↔ ∃ st ∈ ss, st.resolves = false ∧ st.target = t := by
  simp only [dangling, mem_map_filter, Bool.not_eq_true']

theorem dangling_cons_cons (a b : Site) (l : List Site) : dangling (a :: b :: l) = dangling [a] ++ dangling (b :: l) :=
  dangling_append [a] (b :: l)

theorem xrefTargets_flatMap {α} (f : α → List Report) (xs : List α) :
    xrefTargets (xs.flatMap f) = xs.flatMap fun x => xrefTargets (f x) :=
  List.filterMap_flatMap

theorem dangling_flatMap {α} (f : α → List Site) (xs : List α) :
    dangling (xs.flatMap f) = xs.flatMap fun x => dangling (f x) := by
  simp only [dangling, List.filter_flatMap, List.map_flatMap]

@[simp] theorem xt_conv (a b c reserved t : Name) (space : List Name) :
    xrefTargets (missingUnless reserved a b c t space) = dangling [convSite reserved t space] := by
  unfold missingUnless convSite bne
  cases t == reserved <;> cases space.contains t <;> rfl

@[simp] theorem xt_name (a b c t : Name) (space : List Name) :
    xrefTargets (missing a b c t space) = dangling [nameSite t space] := by
  unfold missing nameSite
  cases space.contains t <;> rfl

@[simp] theorem xt_content (a b c : Name) : xrefTargets [Report.content a b c] = [] := rfl

theorem xt_ite_nil (p : Prop) [Decidable p] (a b : List Report) (ha : xrefTargets a = []) (hb : xrefTargets b = []) :
    xrefTargets (if p then a else b) = [] := by
  split <;> assumption

@[simp] theorem xt_limitReport (carrier : Lim.Carrier) (m : Module) (conv : Name) (dt : Lim.DataType) (a b : Name)
    (lo hi : Rat) : xrefTargets (limitReport carrier m conv dt a b lo hi) = [] := by
  unfold limitReport
  split
  · rfl
  · exact xt_ite_nil _ _ _ rfl rfl

/-- the shape of every list check: the entries that fail the test, one cross-reference report each -/
theorem xt_unresolved {α} (l : List α) (p : α → Bool) (t : α → Name) (r : α → Report)
    (hr : ∀ x, xrefTarget (r x) = some (t x)) :
    xrefTargets ((l.filter fun x => !p x).map r) = dangling (l.map fun x => ⟨t x, p x⟩) := by
  -- both sides are `(l.filter fun x => !p x).map t`
  have : xrefTarget ∘ r = some ∘ t := funext hr
  rw [xrefTargets, dangling, List.filterMap_map, this, List.filterMap_eq_map, List.filter_map, List.map_map]
  rfl

@[simp] theorem xt_optList (a b : Name) (l : Option (List Name)) (space : List Name) :
    xrefTargets (optList a b l space) = dangling (listSites l space) := by
  cases l with
  | none => rfl
  | some l => exact xt_unresolved l (fun t => space.contains t) id _ fun _ => rfl

@[simp] theorem xt_optMissing (a b c : Name) (o : Option Name) (space : List Name) :
    xrefTargets (optMissing a b c o space) = dangling (optSite o space) := by
  cases o with
  | none => rfl
  | some t => exact xt_name _ _ _ _ _

@[simp] theorem xt_functionList (m : Module) (l : Option (List Name)) :
    xrefTargets (checkFunctionList m l) = dangling (listSites l m.functionNames) :=
  xt_optList _ _ l _

@[simp] theorem xt_memSeg (m : Module) (o : Option Name) :
    xrefTargets (checkRefMemorySegment m o) = dangling (memSegSite m o) := by
  cases o with
  | none => rfl
  | some n =>
    unfold checkRefMemorySegment memSegSite
    cases m.memorySegment with
    | none => rfl
    | some segs =>
      dsimp only
      cases segs.contains n <;> rfl

theorem xt_thisRef (idx : Nat) (parent target targetType : Name) (objects : List Name) (direct : Bool)
    (containing : List TypedefStructure) :
    xrefTargets (thisRefReports idx parent target targetType objects direct containing) =
      dangling [thisSite target objects direct containing] := by
  unfold thisRefReports thisSite
  cases (if !direct && !containing.isEmpty then stripPrefix? (s "THIS.") target else none) with
  | none => exact xt_name _ _ _ _ _
  | some comp =>
    dsimp only
    cases isValidStructureComponent comp containing <;> rfl

theorem xt_axisDescr (idx : Nat) (parent : Name) (ad : AxisDescr) (m : Module) (direct : Bool)
    (containing : List TypedefStructure) :
    xrefTargets (checkAxisDescr idx parent ad m m.objects ++
        axisDescrRefsReports idx parent ad m.objects direct containing) =
      dangling (axisDescrSites m direct containing ad) := by
  unfold checkAxisDescr axisDescrRefsReports axisDescrSites
  rw [xrefTargets_append, xrefTargets_append, xrefTargets_append, xt_conv, xt_conv,
    xt_ite_nil _ _ _ rfl (xt_ite_nil _ _ _ rfl rfl), List.append_nil, dangling_append, dangling_append, dangling_cons_cons]
  cases ad.axisPtsRef <;> cases ad.curveAxisRef <;>
    simp only [optThisSite, xt_thisRef, xrefTargets_append, xrefTargets_nil, dangling_nil, List.append_nil,
      List.nil_append, List.append_assoc]

theorem xt_axisLoop (parent : Name) (m : Module) (direct : Bool) (containing : List TypedefStructure) (idx : Nat)
    (ads : List AxisDescr) :
    xrefTargets (axisLoopReports parent m m.objects direct containing idx ads) =
      dangling (ads.flatMap (axisDescrSites m direct containing)) := by
  induction ads generalizing idx with
  | nil => rfl
  | cons ad rest ih => rw [axisLoopReports, List.flatMap_cons, xrefTargets_append, dangling_append, ih, xt_axisDescr]

theorem xt_stdAxisLoop (kind name rlName : Name) (m : Module) (rl : RecordLayout) (idx : Nat) (ads : List AxisDescr) :
    xrefTargets (stdAxisLoop kind name rlName m rl idx ads) = [] := by
  induction ads generalizing idx with
  | nil => rfl
  | cons ad rest ih =>
    rw [stdAxisLoop, xrefTargets_append, ih, List.append_nil]
    apply xt_ite_nil _ _ _ _ rfl
    split
    · exact xt_limitReport ..
    · rfl

/-- a record layout is found by `ItemList::get` exactly when its name is in the name space -/
theorem dangling_recordLayout (m : Module) (n : Name) :
    dangling [nameSite n m.recordLayoutNames] = if (m.getRecordLayout n).isSome then [] else [n] := by
  unfold nameSite Module.getRecordLayout Module.recordLayoutNames
  induction m.recordLayout with
  | nil => rfl
  | cons rl rest ih =>
    rw [List.map_cons, List.contains_cons, List.find?_cons, BEq.comm]
    cases rl.name == n
    · exact ih
    · rfl

theorem xt_charCommon (kind : Name) (c : Characteristic) (m : Module) (direct : Bool) (containing : List TypedefStructure) :
    xrefTargets (characteristicCommonReports kind c m m.objects direct containing) =
      dangling (charCommonSites m direct containing c) := by
  unfold characteristicCommonReports charCommonSites
  rw [xrefTargets_append, xrefTargets_append, xrefTargets_append, xt_conv, xt_axisLoop, xt_ite_nil _ _ _ rfl rfl,
    List.append_nil, dangling_append, dangling_append]
  congr 1
  rw [dangling_recordLayout]
  cases m.getRecordLayout c.recordLayout with
  | none => rfl
  | some rl =>
    show xrefTargets (_ ++ _) = []
    rw [xrefTargets_append, xt_stdAxisLoop, List.append_nil]
    split
    · exact xt_limitReport ..
    · rfl

theorem xt_characteristic (c : Characteristic) (m : Module) :
    xrefTargets (characteristicReports c m m.objects) = dangling (characteristicSites m c) := by
  unfold characteristicReports characteristicSites
  simp only [xrefTargets_append, dangling_append, xt_charCommon, xt_optList, xt_functionList, xt_memSeg, xt_optMissing]

theorem xt_axisPts (a : AxisPts) (m : Module) :
    xrefTargets (checkAxisPts a m m.objects) = dangling (axisPtsSites m a) := by
  unfold checkAxisPts axisPtsSites
  simp only [xrefTargets_append, dangling_append, xt_conv, xt_functionList, xt_memSeg, dangling_cons_cons,
    List.append_assoc]
  congr 3
  rw [dangling_recordLayout]
  cases m.getRecordLayout a.depositRecord with
  | none => rfl
  | some rl =>
    show xrefTargets (match rl.axisPtsX with | some _ => _ | none => _) = []
    split
    · exact xt_limitReport ..
    · rfl

theorem xt_typedefAxis (t : TypedefAxis) (m : Module) :
    xrefTargets (checkTypedefAxis t m m.objects) = dangling (typedefAxisSites m t) := by
  unfold checkTypedefAxis typedefAxisSites
  simp only [xrefTargets_append, xt_conv, xt_name, dangling_cons_cons, List.append_assoc]

theorem xt_compuMethod (cm : CompuMethod) (m : Module) :
    xrefTargets (checkCompuMethod cm m m.compuTabs) = dangling (compuMethodSites m cm) := by
  unfold checkCompuMethod compuMethodSites
  simp only [xrefTargets_append, dangling_append, xt_optMissing]

theorem xt_function (f : Function) (m : Module) :
    xrefTargets (checkFunction f m m.objects) = dangling (functionSites m f) := by
  unfold checkFunction functionSites
  simp only [xrefTargets_append, dangling_append, xt_optList]

theorem xt_group (g : Group) (m : Module) :
    xrefTargets (checkGroup g m m.objects) = dangling (groupSites m g) := by
  unfold checkGroup groupSites
  simp only [xrefTargets_append, dangling_append, xt_optList]

theorem xt_measurement (x : Measurement) (m : Module) :
    xrefTargets (checkMeasurement x m) = dangling (measurementSites m x) := by
  unfold checkMeasurement measurementSites
  simp only [xrefTargets_append, dangling_append, xt_conv, xt_limitReport, xt_functionList,
    xt_memSeg, List.append_nil]

theorem xt_typedefMeasurement (x : Measurement) (m : Module) :
    xrefTargets (checkTypedefMeasurement x m) = dangling (typedefMeasurementSites m x) := by
  unfold checkTypedefMeasurement typedefMeasurementSites
  simp only [xrefTargets_append, xt_conv, xt_limitReport, List.append_nil]

theorem xt_transformer (t : Transformer) (m : Module) :
    xrefTargets (checkTransformer t m m.objects) = dangling (transformerSites m t) := by
  unfold checkTransformer transformerSites
  simp only [xrefTargets_append, dangling_append, xt_optList, xt_conv]

theorem xt_typedefStructure (ts : TypedefStructure) (m : Module) :
    xrefTargets (checkTypedefStructure ts m.typedefs) = dangling (ts.components.map fun sc => nameSite sc.2 m.typedefs) :=
  xt_unresolved ts.components (fun sc => m.typedefs.contains sc.2) (·.2) _ fun _ => rfl

theorem xt_verdictFor (gs : List Group) (g : Group) : xrefTargets (verdictFor gs g) = [] := by
  unfold verdictFor
  cases rootOf gs g.name with
  | none => rfl
  | some r => exact xt_ite_nil _ _ _ rfl (xt_ite_nil _ _ _ rfl (xt_ite_nil _ _ _ rfl (xt_ite_nil _ _ _ rfl rfl)))

/-- the second loop tests the keys of the map, which it does not change: if they are the names of `space` on entry,
    the reports are those of a reference list against `space` -/
theorem groupLinkOne_reports (parent : Name) (l : List Name) (gm : GMap) (space : List Name)
    (h : ∀ t, (gm.get t).isSome = space.contains t) :
    xrefTargets (groupLinkOne parent l gm).2 = dangling (l.map fun t => nameSite t space) := by
  induction l generalizing gm with
  | nil => rfl
  | cons sg rest ih =>
    have hsg := h sg
    rw [groupLinkOne, GMap.pushParent_eq]
    show _ = dangling ([nameSite sg space] ++ rest.map fun t => nameSite t space)
    rw [dangling_append, nameSite, ← hsg]
    cases hg : gm.get sg with
    | some v =>
      refine (ih _ fun t => ?_).trans (List.nil_append _).symm
      rw [GMap.get_insert, ← h t]
      split
      · rename_i heq
        rw [← eq_of_beq heq, hg]
        rfl
      · rfl
    | none =>
      dsimp only [Option.map_none]
      rw [← ih gm h]
      rfl

theorem groupLink_reports (gs : List Group) (gm : GMap) (space : List Name)
    (h : ∀ t, (gm.get t).isSome = space.contains t) :
    xrefTargets (groupLink gs gm).2 = dangling (gs.flatMap fun g => listSites g.subGroup space) := by
  induction gs generalizing gm with
  | nil => rfl
  | cons g rest ih =>
    rw [groupLink, List.flatMap_cons, dangling_append]
    cases g.subGroup with
    | none => exact ih gm h
    | some l =>
      dsimp only
      rw [xrefTargets_append, groupLinkOne_reports g.name l gm space h,
        ih _ fun t => by rw [groupLinkOne_get, Option.isSome_map]; exact h t]
      rfl

theorem xt_groupStructure (m : Module) (r : List Report) (h : checkGroupStructure m.group = .ok r) :
    xrefTargets r = dangling (m.group.flatMap fun g => listSites g.subGroup m.groupNames) := by
  rw [checkGroupStructure_eq] at h
  cases h
  rw [xrefTargets_append, xrefTargets_flatMap, List.flatMap_eq_nil_iff.2 fun g _ => xt_verdictFor m.group g,
    List.append_nil]
  refine groupLink_reports m.group _ m.groupNames fun t => ?_
  rw [groupInit_get, Option.isSome_map, rootOf_isSome]
  rfl

def moduleReports (m : Module) : List Report :=
  m.axisPts.flatMap (fun a => checkAxisPts a m m.objects) ++
  m.typedefAxis.flatMap (fun t => checkTypedefAxis t m m.objects) ++
  m.characteristic.flatMap (fun c => characteristicReports c m m.objects) ++
  m.typedefCharacteristic.flatMap (fun t => typedefCharacteristicReports t m m.objects) ++
  m.compuMethod.flatMap (fun cm => checkCompuMethod cm m m.compuTabs) ++
  m.function.flatMap (fun f => checkFunction f m m.objects) ++
  m.group.flatMap (fun g => checkGroup g m m.objects) ++
  ((groupLink m.group (groupInit m.group)).2 ++ m.group.flatMap (verdictFor m.group)) ++
  m.measurement.flatMap (fun x => checkMeasurement x m) ++
  m.typedefMeasurement.flatMap (fun x => checkTypedefMeasurement x m) ++
  m.transformer.flatMap (fun t => checkTransformer t m m.objects) ++
  m.instance_.flatMap (fun i => checkInstance i m.typedefs) ++
  m.typedefStructure.flatMap (fun ts => checkTypedefStructure ts m.typedefs)

theorem checkModule_eq (m : Module) : checkModule m = .ok (moduleReports m) := by
  unfold checkModule
  simp only [forEachOut_eq_flatMap _ _ _ (fun c _ => checkCharacteristic_eq c m m.objects),
    forEachOut_eq_flatMap _ _ _ (fun t _ => checkTypedefCharacteristic_eq t m m.objects), checkGroupStructure_eq]
  rfl

theorem check_eq (ms : List Module) : check ms = .ok (ms.flatMap moduleReports) :=
  forEachOut_eq_flatMap _ _ _ fun m _ => checkModule_eq m

theorem xt_module (m : Module) : xrefTargets (moduleReports m) = dangling (sitesOf m) := by
  simp only [moduleReports, xrefTargets_append, xrefTargets_flatMap, xt_axisPts, xt_typedefAxis, xt_characteristic,
    typedefCharacteristicReports, xt_charCommon, xt_compuMethod, xt_function, xt_group, xt_measurement, xt_typedefMeasurement,
    xt_transformer, checkInstance, xt_name, xt_typedefStructure, xt_groupStructure m _ (checkGroupStructure_eq m.group)]
  simp only [sitesOf, typedefCharacteristicSites, dangling_append, dangling_flatMap]

end A2l.Chk
