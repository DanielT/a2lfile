import A2lVerif.Lemmas.TypedDefs
/-!
# Typed IF_DATA access: the typed load never panics, and every value that it returns is well-typed (`load_post`), by
# induction over the output types (`OTy.induct`, on which the later inductions over the typed load and store also run)
-/
namespace A2l.Typed
open A2l.Aml A2l.IfData

section induct
variable {P : OTy → Prop} {PL : List OTy → Prop} {PM : List (OTag OTy) → Prop}
  (hnone : P .none) (hint : ∀ w, P (.int w)) (hfloat : P .float) (hdouble : P .double) (hstr : P .str)
  (harray : ∀ of dim, P of → P (.array of dim)) (henum : ∀ names, P (.enum names))
  (hstruct : ∀ items, PL items → P (.struct items)) (hseq : ∀ of, P of → P (.seq of))
  (htagged : ∀ u ms, PM ms → P (.tagged u ms))
  (hnil : PL [])
  (hconsT : ∀ u ms rest, PM ms → PL rest → PL (.tagged u ms :: rest))
  (hconsI : ∀ t rest, isTagged t = false → P t → PL rest → PL (t :: rest))
  (hmnil : PM []) (hmcons : ∀ m rest, PL m.items → PM rest → PM (m :: rest))
include hnone hint hfloat hdouble hstr harray henum hstruct hseq htagged hnil hconsT hconsI hmnil hmcons

/-- Induction over `OTy`: `OTy.rec` with one motive per nested list type and `PL m.items` for a member. A tagged struct /
    union at the head of an item list, which becomes one field per member, is a case of its own; for it the motive of an
    item also carries `PM` of the members of a tagged type, and (so that the two list statements can be read off it)
    `PL` of the items of a struct. -/
theorem OTy.induct : (∀ t, P t) ∧ (∀ l, PL l) ∧ (∀ ms, PM ms) := by
  have h (t : OTy) : P t ∧ match t with | .struct l => PL l | .tagged _ ms => PM ms | _ => True :=
    OTy.rec (motive_2 := PL) (motive_3 := PM) (motive_4 := fun m => PL m.items)
      ⟨hnone, trivial⟩ (fun w => ⟨hint w, trivial⟩) ⟨hfloat, trivial⟩ ⟨hdouble, trivial⟩ ⟨hstr, trivial⟩
      (fun of dim ih => ⟨harray of dim ih.1, trivial⟩) (fun names => ⟨henum names, trivial⟩)
      (fun items ih => ⟨hstruct items ih, ih⟩) (fun of ih => ⟨hseq of ih.1, trivial⟩) (fun u ms ih => ⟨htagged u ms ih, ih⟩)
      hnil
      (fun t rest iht ihr => by
        cases t with
        | tagged u ms => exact hconsT u ms rest iht.2 ihr
        | _ => exact hconsI _ rest rfl iht.1 ihr)
      hmnil hmcons (fun _ _ _ _ ih => ih) t
  exact ⟨fun t => (h t).1, fun l => (h (.struct l)).2, fun ms => (h (.tagged false ms)).2⟩
end induct

theorem nodupB_iff : ∀ l : List (List Char), nodupB l = true ↔ l.Nodup
  | [] => ⟨fun _ => List.nodup_nil, fun _ => rfl⟩
  | x :: xs => by simp [nodupB, nodupB_iff xs]

theorem distinctL_cons_tagged {u : Bool} {ms : List (OTag OTy)} {rest : List OTy} (h : distinctL (.tagged u ms :: rest) = true) :
    (tagsOfM ms).Nodup ∧ distinctM ms = true ∧ distinctL rest = true := by
  have h : ((nodupB (tagsOfM ms) && distinctM ms) && distinctL rest) = true := h
  rw [Bool.and_eq_true, Bool.and_eq_true, nodupB_iff] at h
  exact ⟨h.1.1, h.1.2, h.2⟩

theorem distinctL_cons {t : OTy} {rest : List OTy} (h : distinctL (t :: rest) = true) :
    distinctTy t = true ∧ distinctL rest = true :=
  Bool.and_eq_true _ _ ▸ h

theorem distinctM_cons {m : OTag OTy} {rest : List (OTag OTy)} (h : distinctM (m :: rest) = true) :
    distinctL m.items = true ∧ distinctM rest = true :=
  Bool.and_eq_true _ _ ▸ h

theorem LRes.bind_def {α β : Type} (m : LRes α) (f : α → LRes β) :
    (m >>= f) = match m with | .ok a => f a | .err => .err | .panic => .panic := rfl

@[simp] theorem LRes.ok_bind {α β : Type} (a : α) (f : α → LRes β) : ((LRes.ok a : LRes α) >>= f) = f a := rfl
@[simp] theorem LRes.err_bind {α β : Type} (f : α → LRes β) : ((LRes.err : LRes α) >>= f) = .err := rfl
@[simp] theorem LRes.panic_bind {α β : Type} (f : α → LRes β) : ((LRes.panic : LRes α) >>= f) = .panic := rfl
@[simp] theorem LRes.pure_def {α : Type} (a : α) : (pure a : LRes α) = .ok a := rfl

def LPost {α : Type} (r : LRes α) (Q : α → Prop) : Prop :=
  match r with
  | .ok a => Q a
  | .err => True
  | .panic => False

theorem LPost.of_ok {α : Type} {r : LRes α} {Q : α → Prop} (h : LPost r Q) {a : α} (hr : r = .ok a) : Q a := by
  subst hr
  exact h

theorem LPost.np {α : Type} {r : LRes α} {Q : α → Prop} (h : LPost r Q) : r ≠ .panic := by
  intro hr
  subst hr
  exact h

theorem LPost.bind {α β : Type} {m : LRes α} {f : α → LRes β} {Q : α → Prop} {R : β → Prop} (hm : LPost m Q)
    (hf : ∀ a, Q a → LPost (f a) R) : LPost (m >>= f) R := by
  cases m with
  | ok a => exact hf a hm
  | err => trivial
  | panic => exact hm

theorem LPost.ite {α : Type} {c : Prop} [Decidable c] {a : α} {Q : α → Prop} (h : c → Q a) :
    LPost (if c then .ok a else .err) Q := by
  split
  · exact h ‹c›
  · trivial

def LOk {α : Type} (r : LRes α) (Q : α → Prop) : Prop := ∃ a, r = .ok a ∧ Q a

theorem LOk.bind {α β : Type} {m : LRes α} {f : α → LRes β} {Q : α → Prop} {R : β → Prop} (hm : LOk m Q)
    (hf : ∀ a, Q a → LOk (f a) R) : LOk (m >>= f) R := by
  obtain ⟨a, rfl, ha⟩ := hm
  exact hf a ha

theorem mapL_cons_ok {α β : Type} {f : α → LRes β} {x : α} {rest : List α} {b : β} {bs : List β} (hb : f x = .ok b)
    (hbs : mapL f rest = .ok bs) : mapL f (x :: rest) = .ok (b :: bs) := by
  rw [mapL, hb, hbs]
  rfl

theorem mapL_post {α β : Type} {f : α → LRes β} {P : β → Prop} : ∀ (l : List α), (∀ x ∈ l, LPost (f x) P) →
    LPost (mapL f l) (fun bs => ∀ b ∈ bs, P b)
  | [], _ => fun _ hb => nomatch hb
  | x :: rest, h =>
    (h x (List.mem_cons_self ..)).bind fun _ hb =>
      (mapL_post rest (fun y hy => h y (List.mem_cons_of_mem _ hy))).bind fun _ hbs => List.forall_mem_cons.2 ⟨hb, hbs⟩

theorem loadArr_post {β : Type} {f : Gen → LRes β} {P : β → Prop} (h : ∀ g, LPost (f g) P) : ∀ (n : Nat) (l : List Gen),
    LPost (loadArr f n l) (fun bs => bs.length = n ∧ ∀ b ∈ bs, P b)
  | 0, _ => ⟨rfl, fun _ hb => nomatch hb⟩
  | n + 1, l =>
    (h _).bind fun _ hb => (loadArr_post h n l.tail).bind fun _ hbs =>
      ⟨congrArg Nat.succ hbs.1, List.forall_mem_cons.2 ⟨hb, hbs.2⟩⟩

theorem loadArr_length {β : Type} (f : Gen → LRes β) : ∀ (l : List Gen), loadArr f l.length l = mapL f l
  | [] => rfl
  | x :: rest => by
    rw [List.length_cons, loadArr, mapL, List.headD_cons, List.tail_cons, loadArr_length f rest]

theorem isTagged_iff (t : OTy) : isTagged t = true ↔ ∃ u ms, t = .tagged u ms := by
  constructor
  · intro h
    cases t with
    | tagged u ms => exact ⟨u, ms, rfl⟩
    | _ => cases h
  · rintro ⟨u, ms, rfl⟩
    rfl

theorem tagItems_tagged (u : Bool) (its : List (TItem Gen)) :
    tagItems (if u then Gen.taggedUnion its else Gen.taggedStruct its) = .ok its := by cases u <;> rfl

theorem mem_itemsOf {items : List (TItem Gen)} {tag : List Char} {it : TItem Gen} (h : it ∈ itemsOf items tag) :
    it ∈ items ∧ it.tag = tag :=
  ⟨(List.mem_filter.1 h).1, of_decide_eq_true (List.mem_filter.1 h).2⟩

/-- the key is in the hash map iff the `Vec` under it is not empty: this is why `get_single_optitem` never reaches the
    `panic` case of `loadMember` -/
theorem hasTag_eq (items : List (TItem Gen)) (tag : List Char) : hasTag items tag = !(itemsOf items tag).isEmpty := by
  unfold hasTag itemsOf
  induction items with
  | nil => rfl
  | cons it rest ih =>
    simp only [List.any_cons, List.filter_cons]
    by_cases h : it.tag = tag
    · simp [h]
    · simp [h, ih]

section member
variable {lf : List Gen → LRes (List TVal × List Loc)} {tag : List Char} {items : List (TItem Gen)}

theorem loadMember_rep {vs : List TVal}
    (h : mapL (fun it => loadBlockWith lf it.data it.uid it.startOff it.endOff) (itemsOf items tag) = .ok vs) :
    loadMember lf tag true items = .ok (.multi vs) := by
  unfold loadMember
  rw [if_pos rfl, h]
  rfl

theorem loadMember_absent (h : itemsOf items tag = []) : loadMember lf tag false items = .ok (.opt none) := by
  unfold loadMember
  rw [hasTag_eq, h]
  rfl

theorem loadMember_first {it : TItem Gen} {tl : List (TItem Gen)} {v : TVal} (h : itemsOf items tag = it :: tl)
    (hv : loadBlockWith lf it.data it.uid it.startOff it.endOff = .ok v) : loadMember lf tag false items = .ok (.opt (some v)) := by
  unfold loadMember
  rw [hasTag_eq, h]
  simp only [Bool.false_eq_true, if_false, List.isEmpty_cons, Bool.not_false, if_true, hv, LRes.ok_bind, LRes.pure_def]

end member

theorem loadItem_none (g : Gen) : loadItem .none g = .err := rfl
theorem loadItem_tagged (u : Bool) (ms : List (OTag OTy)) (g : Gen) : loadItem (.tagged u ms) g = .err := rfl
theorem loadItem_int (w : Nat) (g : Gen) : loadItem (.int w) g =
    match g with
    | .int w' off v hex => if w' = w then .ok (.int v, .int off hex) else .err
    | _ => .err := rfl
theorem loadItem_float (g : Gen) : loadItem .float g =
    match g with
    | .float off txt => .ok (.float txt, .off off)
    | _ => .err := rfl
theorem loadItem_double (g : Gen) : loadItem .double g =
    match g with
    | .double off txt => .ok (.double txt, .off off)
    | _ => .err := rfl
theorem loadItem_str (g : Gen) : loadItem .str g =
    match g with
    | .str off s => .ok (.str s, .off off)
    | _ => .err := rfl
theorem loadItem_array (of : OTy) (dim : Nat) (g : Gen) : loadItem (.array of dim) g =
    match g with
    | .array items => loadArr (loadItem of) dim items >>= fun rs => pure (.array (rs.map (·.1)), .arr (rs.map (·.2)))
    | _ => .err := rfl
theorem loadItem_enum (names : List (List Char)) (g : Gen) : loadItem (.enum names) g =
    match g with
    | .enumItem off s => if names.contains s then .ok (.enum s, .off off) else .err
    | _ => .err := rfl
theorem loadItem_struct (items : List OTy) (g : Gen) : loadItem (.struct items) g =
    match g with
    | .struct line gs => loadFields items gs >>= fun r => pure (.struct ⟨line, 0, 0, 0, r.2⟩ r.1, .off line)
    | _ => .err := rfl
theorem loadItem_seq (of : OTy) (g : Gen) : loadItem (.seq of) g =
    match g with
    | .seq items => mapL (loadItem of) items >>= fun rs => pure (.seq (rs.map (·.1)), .seq (rs.map (·.2)))
    | _ => .err := rfl

theorem loadFields_cons_tagged (u : Bool) (ms : List (OTag OTy)) (rest : List OTy) (gs : List Gen) :
    loadFields (.tagged u ms :: rest) gs =
      (loadMembers ms (gs.headD .none) >>= fun fs => loadFields rest gs.tail >>= fun r => pure (fs ++ r.1, r.2)) := rfl

theorem loadFields_cons_item (t : OTy) (ht : isTagged t = false) (rest : List OTy) (gs : List Gen) :
    loadFields (t :: rest) gs =
      (loadItem t (gs.headD .none) >>= fun x => loadFields rest gs.tail >>= fun r => pure (x.1 :: r.1, x.2 :: r.2)) := by
  cases t with
  | tagged u ms => cases ht
  | _ => rfl

theorem loadMembers_cons (m : OTag OTy) (rest : List (OTag OTy)) (g : Gen) : loadMembers (m :: rest) g =
    (tagItems g >>= fun items => loadMember (loadFields m.items) m.tag m.rep items >>= fun v =>
      loadMembers rest g >>= fun vs => pure (v :: vs)) := rfl

theorem okItem_int (w : Nat) (v : TVal) (l : Loc) : okItem (.int w) v l =
    match v, l with
    | .int _, .int _ _ => true
    | _, _ => false := rfl
theorem okItem_float (v : TVal) (l : Loc) : okItem .float v l =
    match v, l with
    | .float _, .off _ => true
    | _, _ => false := rfl
theorem okItem_double (v : TVal) (l : Loc) : okItem .double v l =
    match v, l with
    | .double _, .off _ => true
    | _, _ => false := rfl
theorem okItem_str (v : TVal) (l : Loc) : okItem .str v l =
    match v, l with
    | .str _, .off _ => true
    | _, _ => false := rfl
theorem okItem_array (of : OTy) (dim : Nat) (v : TVal) (l : Loc) : okItem (.array of dim) v l =
    match v, l with
    | .array vs, .arr ls => vs.length == dim && all2 (okItem of) vs ls
    | _, _ => false := rfl
theorem okItem_enum (names : List (List Char)) (v : TVal) (l : Loc) : okItem (.enum names) v l =
    match v, l with
    | .enum s, .off _ => names.contains s
    | _, _ => false := rfl
theorem okItem_struct (items : List OTy) (v : TVal) (l : Loc) : okItem (.struct items) v l =
    match v, l with
    | .struct info fs, .off n =>
      n == info.line && info.uid == 0 && info.startOff == 0 && info.endOff == 0 && okFields items fs info.locs
    | _, _ => false := rfl
theorem okItem_seq (of : OTy) (v : TVal) (l : Loc) : okItem (.seq of) v l =
    match v, l with
    | .seq vs, .seq ls => all2 (okItem of) vs ls
    | _, _ => false := rfl

theorem okFields_nil (fs : List TVal) (locs : List Loc) : okFields [] fs locs = (fs.isEmpty && locs.isEmpty) := rfl

theorem okFields_cons_tagged (u : Bool) (ms : List (OTag OTy)) (rest : List OTy) (fs : List TVal) (locs : List Loc) :
    okFields (.tagged u ms :: rest) fs locs = (okMembers ms fs && okFields rest (fs.drop ms.length) locs) := rfl

theorem okFields_cons_item (t : OTy) (ht : isTagged t = false) (rest : List OTy) (fs : List TVal) (locs : List Loc) :
    okFields (t :: rest) fs locs =
      match fs, locs with
      | v :: fs', l :: locs' => okItem t v l && okFields rest fs' locs'
      | _, _ => false := by
  cases t with
  | tagged u ms => cases ht
  | _ => rfl

theorem okMembers_cons (m : OTag OTy) (rest : List (OTag OTy)) (fs : List TVal) : okMembers (m :: rest) fs =
    match fs with
    | f :: fs' => okMemberWith (okFields m.items) m.rep f && okMembers rest fs'
    | [] => false := rfl

/-- used instead of `beq_self_eq_true`, which would bring `Classical.choice` into `load_post` -/
theorem nat_beq_self (n : Nat) : (n == n) = true := beq_iff_eq.2 rfl

theorem all2_map {okf : TVal → Loc → Bool} : ∀ {rs : List (TVal × Loc)}, (∀ r ∈ rs, okf r.1 r.2 = true) →
    all2 okf (rs.map (·.1)) (rs.map (·.2)) = true
  | [], _ => rfl
  | r :: _, h => Bool.and_eq_true_iff.2 ⟨h r (List.mem_cons_self ..), all2_map fun r' hr' => h r' (List.mem_cons_of_mem _ hr')⟩

section members
variable {lf : List Gen → LRes (List TVal × List Loc)} {okf : List TVal → List Loc → Bool}
  (h : ∀ gs, LPost (lf gs) (fun r => okf r.1 r.2 = true))
include h

theorem loadBlockWith_post (g : Gen) (u so eo : Nat) : LPost (loadBlockWith lf g u so eo) (fun v => okBlockWith okf v = true) := by
  cases g with
  | block line gs => exact (h gs).bind fun _ hr => hr
  | _ => trivial

/-- the `panic` arm of `loadMember` is only reached when the key is present, and then the list is not empty -/
theorem loadMember_post (tag : List Char) (rep : Bool) (items : List (TItem Gen)) :
    LPost (loadMember lf tag rep items) (fun v => okMemberWith okf rep v = true) := by
  unfold loadMember
  rw [hasTag_eq]
  cases rep with
  | true =>
    exact (mapL_post _ (fun it _ => loadBlockWith_post h it.data it.uid it.startOff it.endOff)).bind fun _ hvs =>
      List.all_eq_true.2 hvs
  | false =>
    cases itemsOf items tag with
    | nil => exact rfl
    | cons it rest => exact (loadBlockWith_post h it.data it.uid it.startOff it.endOff).bind fun _ hv => hv

end members

theorem tagItems_post (g : Gen) : LPost (tagItems g) (fun _ => True) := by
  cases g <;> trivial

/-- the fields of the members are the first `ms.length` fields of the struct, the fields of the items after the tagged
    struct / union follow: hence `extra` -/
theorem load_post :
    (∀ t g, LPost (loadItem t g) (fun r => okItem t r.1 r.2 = true)) ∧
    (∀ ts gs, LPost (loadFields ts gs) (fun r => okFields ts r.1 r.2 = true)) ∧
    (∀ ms g, LPost (loadMembers ms g) (fun vs => vs.length = ms.length ∧ ∀ extra, okMembers ms (vs ++ extra) = true)) := by
  refine OTy.induct ?_ ?_ ?_ ?_ ?_ ?_ ?_ ?_ ?_ ?_ ?_ ?_ ?_ ?_ ?_
  · intro g; trivial
  · intro w g
    rw [loadItem_int]
    split
    · exact LPost.ite fun _ => rfl
    · trivial
  · intro g
    rw [loadItem_float]
    split
    · exact rfl
    · trivial
  · intro g
    rw [loadItem_double]
    split
    · exact rfl
    · trivial
  · intro g
    rw [loadItem_str]
    split
    · exact rfl
    · trivial
  · intro of dim ih g
    rw [loadItem_array]
    split
    · refine (loadArr_post ih dim _).bind fun rs hrs => ?_
      show okItem (.array of dim) (.array _) (.arr _) = true
      simp only [okItem_array, List.length_map, hrs.1, all2_map hrs.2, nat_beq_self, Bool.and_self]
    · trivial
  · intro names g
    rw [loadItem_enum]
    split
    · exact LPost.ite fun h => h
    · trivial
  · intro items ih g
    rw [loadItem_struct]
    split
    · refine (ih _).bind fun r hr => ?_
      show okItem (.struct items) (.struct _ _) (.off _) = true
      simp only [okItem_struct, hr, nat_beq_self, Bool.and_self]
    · trivial
  · intro of ih g
    rw [loadItem_seq]
    split
    · exact (mapL_post _ (fun x _ => ih x)).bind fun _ hrs => all2_map hrs
    · trivial
  · intro u ms _ g; trivial
  · intro gs; exact rfl
  · intro u ms rest ihm ihr gs
    rw [loadFields_cons_tagged]
    refine (ihm _).bind fun vs hvs => (ihr _).bind fun r hr => ?_
    show okFields (.tagged u ms :: rest) (vs ++ r.1) r.2 = true
    rw [okFields_cons_tagged, hvs.2, ← hvs.1, List.drop_left, hr]
    rfl
  · intro t rest ht iht ihr gs
    rw [loadFields_cons_item t ht]
    refine (iht _).bind fun x hx => (ihr _).bind fun r hr => ?_
    show okFields (t :: rest) (x.1 :: r.1) (x.2 :: r.2) = true
    simp only [okFields_cons_item t ht, hx, hr, Bool.and_self]
  · intro g; exact ⟨rfl, fun _ => rfl⟩
  · intro m rest ihm ihr g
    rw [loadMembers_cons]
    refine (tagItems_post g).bind fun items _ => (loadMember_post ihm m.tag m.rep items).bind fun v hv =>
      (ihr g).bind fun vs hvs => ⟨congrArg Nat.succ hvs.1, fun extra => ?_⟩
    show okMembers (m :: rest) (v :: (vs ++ extra)) = true
    simp only [okMembers_cons, hv, hvs.2, Bool.and_self]

end A2l.Typed
