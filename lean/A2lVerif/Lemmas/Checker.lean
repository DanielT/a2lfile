import A2lVerif.Model.Checker
/-! The per-kind functions of the structural checker model (`Model/Checker.lean`) that can panic, in closed form: each
    returns `.ok` of a report list given here as a plain function, so `strip_prefix(..).unwrap()` is never reached. -/
namespace A2l.Chk

theorem forEachOut_eq_flatMap {α} (f : α → Out (List Report)) (g : α → List Report) (xs : List α)
    (h : ∀ x ∈ xs, f x = .ok (g x)) : forEachOut f xs = .ok (xs.flatMap g) := by
  induction xs with
  | nil => rfl
  | cons x xs ih =>
    rw [forEachOut, h x (List.mem_cons_self ..), ih fun y hy => h y (List.mem_cons_of_mem _ hy)]
    rfl

/-- the value `check_axis_descr_refs` pushes for one `THIS.`-capable reference -/
def thisRefReports (idx : Nat) (parent target targetType : Name) (objects : List Name) (direct : Bool)
    (containing : List TypedefStructure) : List Report :=
  match (if !direct && !containing.isEmpty then stripPrefix? (s "THIS.") target else none) with
  | some comp =>
    if !isValidStructureComponent comp containing then [.xref (adSource idx) parent (s "STRUCTURE_COMPONENT") comp] else []
  | none => missing (adSource idx) parent targetType target objects

theorem checkThisRef_eq (idx : Nat) (parent target targetType : Name) (objects : List Name) (direct : Bool)
    (containing : List TypedefStructure) :
    checkThisRef idx parent target targetType objects direct containing =
      .ok (thisRefReports idx parent target targetType objects direct containing) := by
  unfold checkThisRef thisRefReports startsWith
  cases (!direct && !containing.isEmpty)
  · rfl
  · cases stripPrefix? (s "THIS.") target <;> rfl

def axisDescrRefsReports (idx : Nat) (parent : Name) (ad : AxisDescr) (objects : List Name) (direct : Bool)
    (containing : List TypedefStructure) : List Report :=
  (match ad.axisPtsRef with
   | none => []
   | some t => thisRefReports idx parent t (s "AXIS_PTS") objects direct containing) ++
  (match ad.curveAxisRef with
   | none => []
   | some t => thisRefReports idx parent t (s "CHARACTERISTIC") objects direct containing)

theorem checkAxisDescrRefs_eq (idx : Nat) (parent : Name) (ad : AxisDescr) (objects : List Name) (direct : Bool)
    (containing : List TypedefStructure) :
    checkAxisDescrRefs idx parent ad objects direct containing =
      .ok (axisDescrRefsReports idx parent ad objects direct containing) := by
  unfold checkAxisDescrRefs axisDescrRefsReports
  cases ad.axisPtsRef <;> cases ad.curveAxisRef <;> simp only [checkThisRef_eq, List.append_nil]

/-- the reports of the first loop of `check_characteristic_common` -/
def axisLoopReports (parent : Name) (m : Module) (objects : List Name) (direct : Bool)
    (containing : List TypedefStructure) : Nat → List AxisDescr → List Report
  | _, [] => []
  | idx, ad :: rest =>
    checkAxisDescr idx parent ad m objects ++ axisDescrRefsReports idx parent ad objects direct containing ++
      axisLoopReports parent m objects direct containing (idx + 1) rest

theorem axisLoop_eq (parent : Name) (m : Module) (objects : List Name) (direct : Bool)
    (containing : List TypedefStructure) (idx : Nat) (ads : List AxisDescr) :
    axisLoop parent m objects direct containing idx ads =
      .ok (axisLoopReports parent m objects direct containing idx ads) := by
  induction ads generalizing idx with
  | nil => rfl
  | cons ad rest ih =>
    rw [axisLoop, checkAxisDescrRefs_eq, ih]
    rfl

def characteristicCommonReports (kind : Name) (c : Characteristic) (m : Module) (objects : List Name) (direct : Bool)
    (containing : List TypedefStructure) : List Report :=
  missingUnless (s "NO_COMPU_METHOD") kind c.name (s "COMPU_METHOD") c.conversion m.compuMethodNames ++
    axisLoopReports c.name m objects direct containing 0 c.axisDescr ++
    (if c.axisDescr.length != expectedAxisCount c.ctype then
      [.content c.name kind (s "Expected " ++ idxText (expectedAxisCount c.ctype) ++ s " AXIS_DESCR for type " ++
        c.ctype ++ s ", found " ++ idxText c.axisDescr.length)] else []) ++
    (match m.getRecordLayout c.recordLayout with
     | some rl =>
       (match rl.fncValues with
        | some dt => limitReport .characteristic m c.conversion dt c.name kind c.lower c.upper
        | none => [.content c.name kind
            (s "Referenced RECORD_LAYOUT " ++ c.recordLayout ++ s " does not have FNC_VALUES.")]) ++
       stdAxisLoop kind c.name c.recordLayout m rl 0 c.axisDescr
     | none => [.xref kind c.name (s "RECORD_LAYOUT") c.recordLayout])

theorem checkCharacteristicCommon_eq (kind : Name) (c : Characteristic) (m : Module) (objects : List Name)
    (direct : Bool) (containing : List TypedefStructure) :
    checkCharacteristicCommon kind c m objects direct containing =
      .ok (characteristicCommonReports kind c m objects direct containing) := by
  unfold checkCharacteristicCommon
  rw [axisLoop_eq]
  rfl

def characteristicReports (c : Characteristic) (m : Module) (objects : List Name) : List Report :=
  characteristicCommonReports (s "CHARACTERISTIC") c m objects true [] ++
    optMissing (s "CHARACTERISTIC") c.name (s "MEASUREMENT") c.comparisonQuantity objects ++
    optList (s "DEPENDENT_CHARACTERISTIC") (s "CHARACTERISTIC") c.dependent objects ++
    optList (s "MAP_LIST") (s "CHARACTERISTIC") c.mapList objects ++
    optList (s "VIRTUAL_CHARACTERISTIC") (s "CHARACTERISTIC") c.virtualChar objects ++
    checkFunctionList m c.functionList ++
    checkRefMemorySegment m c.refMemorySegment

theorem checkCharacteristic_eq (c : Characteristic) (m : Module) (objects : List Name) :
    checkCharacteristic c m objects = .ok (characteristicReports c m objects) := by
  unfold checkCharacteristic
  rw [checkCharacteristicCommon_eq]
  rfl

def typedefCharacteristicReports (t : Characteristic) (m : Module) (objects : List Name) : List Report :=
  characteristicCommonReports (s "TYPEDEF_CHARACTERISTIC") t m objects (m.instance_.any fun i => i.typeRef == t.name)
    (m.typedefStructure.filter fun ts => ts.components.any fun sc => sc.2 == t.name)

theorem checkTypedefCharacteristic_eq (t : Characteristic) (m : Module) (objects : List Name) :
    checkTypedefCharacteristic t m objects = .ok (typedefCharacteristicReports t m objects) := by
  exact checkCharacteristicCommon_eq ..

end A2l.Chk
