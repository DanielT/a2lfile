import A2lVerif.Lemmas.RT.Fields
import A2lVerif.Lemmas.RT.Lists
/-! # C01: where a greedy sequence ends in a written token stream (the judgement `Fails`); reading back arrays, sequences
and whole parameter lists -/
namespace A2l.Tree
open A2l.G A2l.Sc

/-- `m` fails with an ordinary error (no panic, fuel left); ids may have been consumed, the version is unchanged -/
def Fails {α} (m : PM α) (e : Env) (s : PState) : Prop :=
  ∃ d s', m e s = .err d s' ∧ s.seqId ≤ s'.seqId ∧ s'.ver = s.ver

theorem Fails.bind {α β} {m : PM α} {f : α → PM β} {e : Env} {s : PState} (h : Fails m e s) : Fails (m >>= f) e s := by
  obtain ⟨d, s', h1, h2, h3⟩ := h
  exact ⟨d, s', by rw [bind_def, h1], h2, h3⟩

theorem Fails.after {α β} {m : PM α} {f : α → PM β} {e : Env} {s : PState} {a : α} {n : Nat}
    (h1 : Runs m e s a n) (h2 : ∀ s1, Adv s s1 n → Fails (f a) e s1) : Fails (m >>= f) e s := by
  obtain ⟨s1, e1, a1⟩ := h1
  obtain ⟨d, s2, e2, q1, q2⟩ := h2 s1 a1
  exact ⟨d, s2, by rw [bind_def, e1]; exact e2, Nat.le_trans a1.seq q1, by rw [q2, a1.ver]⟩

theorem Fails.env {β} {f : Env → PM β} {e : Env} {s : PState} (h : Fails (f e) e s) : Fails (getEnv >>= f) e s := h
theorem Fails.peek {β} {f : Option PTok → PM β} {e : Env} {s : PState} (h : Fails (f e.toks[s.pos]?) e s) :
    Fails (peekToken >>= f) e s := h

theorem nextNC_split : ∀ rest : List WTok, ∃ cs r, rest = cs ++ r ∧ (∀ w ∈ cs, w.ty = 6) ∧
    ((r = [] ∧ nextNC rest = none) ∨ ∃ t r', r = t :: r' ∧ t.ty ≠ 6 ∧ nextNC rest = some t)
  | [] => ⟨[], [], rfl, by simp, .inl ⟨rfl, rfl⟩⟩
  | w :: ws => by
    by_cases h6 : w.ty = 6
    · obtain ⟨cs, r, h1, h2, h3⟩ := nextNC_split ws
      refine ⟨w :: cs, r, by rw [h1]; rfl, ?_, ?_⟩
      · intro x hx; rcases List.mem_cons.1 hx with rfl | hx
        · exact h6
        · exact h2 x hx
      · simp only [nextNC, h6, if_true]; exact h3
    · exact ⟨[], w :: ws, rfl, by simp, .inr ⟨w, ws, rfl, h6, by simp [nextNC, h6]⟩⟩

section
variable {e : Env} {lx : LexEnv} {all : List WTok} (hT : Toks e lx all)
include hT

/-- on a written stream the move of `expect_token` over comments ends behind the comments `cs` at the cursor -/
theorem Toks.skipTo (r : List WTok) (hr : ∀ t r', r = t :: r' → t.ty ≠ 6) {s s2 : PState} (hk : SkipTo e s s2) :
    ∀ (cs pre : List WTok), (∀ w ∈ cs, w.ty = 6) → all = pre ++ (cs ++ r) → s.pos = pre.length →
      s2.pos = s.pos + cs.length ∧ s2.seqId = s.seqId ∧ s2.ver = s.ver := by
  induction hk with
  | stop hnc =>
    intro cs pre hc hs hp
    cases cs with
    | nil => exact ⟨rfl, rfl, rfl⟩
    | cons w cs => exact absurd (hc w List.mem_cons_self) (hnc _ (hT.at hs hp))
  | @cmt s s2 t ht h6 _ ih =>
    intro cs pre hc hs hp
    cases cs with
    | nil =>
      cases r with
      | nil => rw [hT.none (by rw [hs, hp]; simp)] at ht; cases ht
      | cons t0 r' => rw [hT.at hs hp] at ht; cases ht; exact absurd h6 (hr t0 r' rfl)
    | cons w cs =>
      obtain ⟨h1, h2, h3⟩ := ih cs (pre ++ [w]) (fun x hx => hc x (List.mem_cons_of_mem _ hx))
        (by rw [hs, List.append_assoc]; rfl) (by rw [List.length_append, ← hp]; rfl)
      exact ⟨by rw [h1, List.length_cons, Nat.add_assoc, Nat.add_comm 1], h2, h3⟩

/-- `expect_token` behind the comments `cs`: it looks at the head of `r` -/
theorem expect_behind (ctx : Ctx) (ty : Nat) {pre cs r : List WTok} (hs : all = pre ++ (cs ++ r))
    (hc : ∀ w ∈ cs, w.ty = 6) (hr : ∀ t r', r = t :: r' → t.ty ≠ 6) (s : PState) (hp : s.pos = pre.length) :
    ∃ s2, s2.pos = (pre ++ cs).length ∧ s2.seqId = s.seqId ∧ s2.ver = s.ver ∧
      expectToken ctx ty e s =
        match e.toks[s2.pos]? with
        | some t => if t.ty ≠ ty then .err ⟨.unexpectedTokenType, t.line⟩ (s2.step t) else .ok t (s2.step t)
        | none => .err ⟨.unexpectedEOF, s2.lastLine⟩ s2 := by
  obtain ⟨s2, hk, h⟩ := expectToken_run (e := e) ctx ty s
  obtain ⟨h1, h2, h3⟩ := Toks.skipTo hT r hr hk cs pre hc hs hp
  exact ⟨s2, by rw [h1, hp, List.length_append], h2, h3, h⟩

theorem expect_fails (ctx : Ctx) (ty : Nat) {pre rest : List WTok} (hs : all = pre ++ rest)
    (hn : match nextNC rest with | none => True | some t => t.ty ≠ ty) (s : PState) (hp : s.pos = pre.length) :
    Fails (expectToken ctx ty) e s := by
  obtain ⟨cs, r, h1, h2, h3⟩ := nextNC_split rest
  subst h1
  obtain ⟨s2, p2, q2, v2, h⟩ := expect_behind hT ctx ty hs h2
    (fun t r' hr => by rcases h3 with ⟨h3, _⟩ | ⟨t', r'', h3, h4, _⟩ <;> rw [h3] at hr <;> cases hr; exact h4) s hp
  rcases h3 with ⟨rfl, _⟩ | ⟨t, r', rfl, _, h5⟩
  · rw [hT.none (by rw [hs, p2]; simp)] at h
    exact ⟨_, _, h, Nat.le_of_eq q2.symm, v2⟩
  · rw [h5] at hn
    rw [hT.at (by rw [hs, List.append_assoc]) p2] at h
    exact ⟨_, _, h.trans (if_pos hn), Nat.le_of_eq q2.symm, v2⟩

/-- `expect_token` skips comments and then finds a token of the expected kind -/
theorem expect_skip (ctx : Ctx) (ty : Nat) (h6 : ty ≠ 6) {t : WTok} {cs pre r' : List WTok} (ht : t.ty = ty)
    (hc : ∀ w ∈ cs, w.ty = 6) (hs : all = pre ++ (cs ++ t :: r')) (s : PState) (hp : s.pos = pre.length) :
    ∃ s', expectToken ctx ty e s = .ok (t.toPTok lx (endLine 1 (pre ++ cs) + t.off)) s' ∧
      s'.pos = s.pos + cs.length + 1 ∧ s'.seqId = s.seqId ∧ s'.ver = s.ver := by
  obtain ⟨s2, p2, q2, v2, h⟩ := expect_behind hT ctx ty hs hc
    (fun t' _ hr => by cases hr; rw [ht]; exact h6) s hp
  rw [hT.at (by rw [hs, List.append_assoc]) p2] at h
  exact ⟨_, h.trans (if_neg (not_not_intro ht)), by show s2.pos + 1 = _; rw [p2, hp, List.length_append], q2, v2⟩

end

/-! ## a parameter parser in front of a token of the wrong kind -/

section
variable (c : RCfg) {all : List WTok} (hT : Toks c.e c.lx all)
include hT

/-- what `SeqStops` says when it is not the stop-tag case -/
def WrongKind (fty : Nat) (rest : List WTok) : Prop :=
  match nextNC rest with
  | none => True
  | some t => t.ty ≠ fty ∧ ¬ (fty = 4 ∧ t.ty = 0)

omit hT in
theorem WrongKind.expect {fty : Nat} {rest : List WTok} (h : WrongKind fty rest) :
    match nextNC rest with | none => True | some t => t.ty ≠ fty := by
  unfold WrongKind at h
  cases hn : nextNC rest with
  | none => trivial
  | some t => rw [hn] at h; exact h.1

omit hT in
/-- in front of a string parameter: the cursor does not stand on an identifier -/
theorem WrongKind.peek4 {rest : List WTok} (h : WrongKind 4 rest) : ∀ w r, rest = w :: r → w.ty ≠ 0 := by
  intro w r hr h0
  subst hr
  unfold WrongKind at h
  have hn : nextNC (w :: r) = some w := by simp [nextNC, h0]
  rw [hn] at h
  exact h.2 ⟨rfl, h0⟩

theorem getString_fails (ctx : Ctx) {pre rest : List WTok} (hs : all = pre ++ rest) (hw : WrongKind 4 rest)
    (s : PState) (hp : s.pos = pre.length) : Fails (getString ctx) c.e s := by
  unfold getString
  refine Fails.peek ?_
  cases rest with
  | nil =>
    rw [hT.none (by rw [hs, hp]; simp)]
    exact Fails.bind (expect_fails hT ctx 4 hs hw.expect s hp)
  | cons w r =>
    rw [hT.at hs hp]
    have h0 := hw.peek4 w r rfl
    unfold WTok.toPTok
    cases hty : w.ty with
    | zero => exact absurd hty h0
    | succ n => exact Fails.bind (expect_fails hT ctx 4 hs hw.expect s hp)

/-- a scalar parameter cannot start with the next token -/
theorem parseScalar_fails (ctx : Ctx) {it : ItemTy} (hty : ScalarTyOk c.e.table it) {pre rest : List WTok}
    (hs : all = pre ++ rest) (hw : WrongKind (firstTyS it) rest) (s : PState) (hp : s.pos = pre.length) (fuel : Nat) :
    Fails (parseItem (fuel + 1) ctx it) c.e s := by
  cases it <;> simp only [ScalarTyOk] at hty <;> rw [parseItem]
  case ident => exact Fails.bind (Fails.bind (expect_fails hT ctx 0 hs hw.expect s hp))
  case string => exact Fails.bind (getString_fails c hT ctx hs hw s hp)
  case strMax n => exact Fails.bind (Fails.bind (getString_fails c hT ctx hs hw s hp))
  case double => exact Fails.bind (Fails.bind (expect_fails hT ctx 5 hs hw.expect s hp))
  case float => exact Fails.bind (Fails.bind (expect_fails hT ctx 5 hs hw.expect s hp))
  case int w => exact Fails.bind (Fails.bind (expect_fails hT ctx 5 hs hw.expect s hp))
  case enumRef ty =>
    obtain ⟨items, hl⟩ := hty
    refine Fails.env ?_
    simp only [hl]
    exact Fails.bind (Fails.bind (Fails.bind (expect_fails hT ctx 0 hs hw.expect s hp)))

/-- an element (scalar or struct) cannot start with the next token -/
theorem parseElem_fails (ctx : Ctx) {it : ItemTy} (hty : ElemTyOk c.e.table it) {pre rest : List WTok}
    (hs : all = pre ++ rest) (hw : WrongKind (firstTy c.e.table it) rest) (s : PState) (hp : s.pos = pre.length)
    (fuel : Nat) : Fails (parseItem (fuel + 4) ctx it) c.e s := by
  revert hty hw
  fun_cases ElemTyOk c.e.table it <;> intro hty hw
  next ty =>
    obtain ⟨it1, its, hl, hsc⟩ := hty
    simp only [firstTy, hl] at hw
    rw [parseItem, parseType]
    refine Fails.env ?_
    simp only [hl]
    refine Fails.after (Runs.nextId c.e s) (fun s1 a1 => Fails.bind ?_)
    rw [parseItems]
    exact Fails.bind (parseScalar_fails c hT ctx hsc hs hw s1 (by rw [a1.pos, hp]; rfl) fuel)
  next hns =>
    have h2 : firstTy c.e.table it = firstTyS it := by
      cases it <;> first | rfl | exact absurd rfl (hns _)
    rw [h2] at hw
    exact parseScalar_fails c hT ctx hty hs hw s hp (fuel + 3)

end

theorem Runs.attempt_ok {α} {m : PM α} {e : Env} {s : PState} {a : α} {n : Nat} (h : Runs m e s a n) :
    Runs (attempt m) e s (.ok a) n := by
  obtain ⟨s', h1, h2⟩ := h
  exact ⟨s', by unfold attempt; rw [h1], h2⟩

theorem Fails.attempt {α} {m : PM α} {e : Env} {s : PState} (h : Fails m e s) :
    ∃ d s', attempt m e s = .ok (.error d) s' ∧ s.seqId ≤ s'.seqId ∧ s'.ver = s.ver := by
  obtain ⟨d, s', h1, h2, h3⟩ := h
  exact ⟨d, s', by unfold A2l.Tree.attempt; rw [h1], h2, h3⟩

/-- the stop test of the sequence loop -/
def isStopOf (stop : List Nat) (o : Option PTok) : Bool :=
  match stop, o with
  | [], _ => false
  | _, some t => stop.contains t.sym
  | _, none => false

/-- one turn of the sequence loop, by what the element's parser does: an error ends the sequence, a stop tag ends it,
    anything else is an element; the cursor is reset when the sequence ends -/
theorem parseSeq_turn (fuel : Nat) (ctx : Ctx) (of : ItemTy) (stop : List Nat) (acc : List Val) (e : Env) (s : PState) :
    parseSeq (fuel + 1) ctx of stop acc e s =
      match parseItem fuel ctx of e s with
      | .ok v s1 =>
        if isStopOf stop e.toks[s1.pos - 1]? = true then .ok acc.reverse { s1 with pos := s.pos }
        else parseSeq fuel ctx of stop (v :: acc) e s1
      | .err _ s1 => .ok acc.reverse { s1 with pos := s.pos }
      | .panic => .panic
      | .fuel => .fuel := by
  rw [parseSeq]
  simp only [getTokenpos_bind]
  rw [bind_def]
  unfold attempt
  cases parseItem fuel ctx of e s with
  | ok v s1 =>
    simp only [getEnv_bind, getState_bind]
    show (if isStopOf stop e.toks[s1.pos - 1]? = true then _ else _ : PM (List Val)) e s1 = _
    split <;> rfl
  | _ => rfl

section
variable (c : RCfg) {all : List WTok} (hT : Toks c.e c.lx all)
include hT

theorem parseElemsArr (ctx : Ctx) (ind : Nat) (rest : List WTok) (of : ItemTy) :
    ∀ (vs : List Val) (fuel : Nat), (∀ v ∈ vs, ElemOk c of v) →
      vs.length + (vs.flatMap (elemToks ind)).length + 4 ≤ fuel →
      Reads c all (parseArr fuel ctx of vs.length) (vs.flatMap (elemToks ind)) rest (·.map normElem = vs)
  | [], fuel, _, hf => by
    obtain ⟨f, rfl, -⟩ := fuel_add (k := 1) hf
    rw [List.length_nil, parseArr]; exact Reads.pure rfl
  | v :: vs, fuel, hok, hf => by
    obtain ⟨f, rfl, -⟩ := fuel_add (k := 1) hf
    simp only [List.flatMap_cons, List.length_append, List.length_cons] at hf ⊢
    obtain ⟨hfe, hfr⟩ := fuel_cons hf
    rw [parseArr]
    refine Reads.bind (parseElem c hT ctx ind _ (hok v List.mem_cons_self) f hfe) (fun v' hv' => ?_)
    exact Reads.map (parseElemsArr ctx ind rest of vs f (fun x hx => hok x (List.mem_cons_of_mem _ hx)) hfr)
      (fun vs' hvs => by rw [List.map_cons, hv', hvs])

/-- an identifier parser in front of (comments and) an identifier token: it fails (strict mode, malformed
    identifier) or reads that token -/
theorem parseIdent_next (ctx : Ctx) {pre cs r' : List WTok} {t : WTok} (hs : all = pre ++ (cs ++ t :: r'))
    (hc : ∀ w ∈ cs, w.ty = 6) (ht : t.ty = 0) (hne : t.text ≠ []) (s : PState) (hp : s.pos = pre.length) (fuel : Nat) :
    Fails (parseItem (fuel + 1) ctx .ident) c.e s ∨
    ∃ v s2, parseItem (fuel + 1) ctx .ident c.e s = .ok v s2 ∧ s2.pos = s.pos + cs.length + 1 ∧
      s.seqId ≤ s2.seqId ∧ s2.ver = s.ver := by
  obtain ⟨s1, h1, p1, q1, v1⟩ := expect_skip hT ctx 0 (by decide) ht hc hs s hp
  obtain ⟨ch, chs, htext⟩ := List.exists_cons_of_ne_nil hne
  have hall : all ≠ [] := by rw [hs]; simp
  rw [parseItem]
  unfold getIdentifier
  by_cases hbad : (isAsciiDigit ch || decide (utf8Len (ch :: chs) > 1024)) = true ∧ c.e.strict = true
  · left
    refine Fails.bind ⟨⟨.invalidIdentifier, s1.lastLine⟩, s1, ?_, by omega, v1⟩
    rw [bind_def, h1]
    simp only [WTok.toPTok_text, htext, if_pos hbad.1]
    rw [bind_def]
    rw [errorOrLog_eval, hbad.2]; rfl
  · right
    obtain ⟨s2, a2, e2⟩ := iteE_eq (p := (isAsciiDigit ch || decide (utf8Len (ch :: chs) > 1024)) = true)
      (k := .invalidIdentifier) (m := (Pure.pure (ch :: chs) : PM (List Char))) (e := c.e) (s := s1) (fun hb => by
        cases hst : c.e.strict with
        | false => rfl
        | true => exact absurd ⟨hb, hst⟩ hbad)
    obtain ⟨n2, hn2⟩ := lineOff_any hT hall s2
    refine ⟨.ident (ch :: chs) n2, s2, ?_, by rw [a2.pos, p1], by have := a2.seq; omega, by rw [a2.ver, v1]⟩
    rw [bind_def, bind_def, h1]
    simp only [WTok.toPTok_text, htext]
    rw [e2]
    simp only [bind_def, pure_def, hn2]

omit hT in
theorem SeqStops.cases {of : ItemTy} {stop : List Nat} {rest : List WTok} (h : SeqStops c of stop (nextNC rest)) :
    WrongKind (firstTy c.e.table of) rest ∨
    ∃ t, nextNC rest = some t ∧ of = .ident ∧ t.ty = 0 ∧ t.text ≠ [] ∧ stop.contains (c.lx.symOf t.text) = true := by
  unfold WrongKind
  cases hn : nextNC rest with
  | none => exact .inl trivial
  | some t =>
    rw [hn] at h
    rcases h with h | h
    · exact .inl h
    · exact .inr ⟨t, rfl, h⟩

/-- the greedy sequence loop ends in front of `rest` -/
theorem parseSeq_end (ctx : Ctx) (of : ItemTy) (stop : List Nat) (acc : List Val) (hty : ElemTyOk c.e.table of)
    {pre rest : List WTok} (hs : all = pre ++ rest) (hend : SeqStops c of stop (nextNC rest))
    (s : PState) (hp : s.pos = pre.length) (fuel : Nat) :
    Runs (parseSeq (fuel + 5) ctx of stop acc) c.e s acc.reverse 0 := by
  have fin : Fails (parseItem (fuel + 4) ctx of) c.e s → Runs (parseSeq (fuel + 5) ctx of stop acc) c.e s acc.reverse 0 := by
    intro ⟨d, s', h1, h2, h3⟩
    exact ⟨{ s' with pos := s.pos }, by rw [parseSeq_turn, h1], rfl, h2, h3⟩
  rcases hend.cases c with hw | ⟨t, hn, rfl, ht0, htne, hcont⟩
  · exact fin (parseElem_fails c hT ctx hty hs hw s hp fuel)
  · obtain ⟨cs, r, h1, h2, h3⟩ := nextNC_split rest
    rcases h3 with ⟨_, h3⟩ | ⟨t', r', rfl, _, h3⟩
    · rw [h3] at hn; cases hn
    · rw [h3] at hn; cases hn
      rcases parseIdent_next c hT ctx (by rw [hs, h1]) h2 ht0 htne s hp (fuel + 3) with hf | ⟨v, s2, e2, p2, q2, v2⟩
      · exact fin hf
      · refine ⟨{ s2 with pos := s.pos }, ?_, rfl, q2, v2⟩
        have hat := hT.at (pre := pre ++ cs) (rest := r') (w := t) (by rw [hs, h1]; simp) (n := s2.pos - 1)
          (by rw [p2, hp]; simp)
        have hstop : stop ≠ [] := by intro h; subst h; simp at hcont
        obtain ⟨x, xs, rfl⟩ := List.exists_cons_of_ne_nil hstop
        rw [parseSeq_turn, e2]
        simp only [hat, isStopOf, WTok.toPTok, ht0, if_true, hcont]

/-- the elements of a sequence, and its end -/
theorem parseElemsSeq (ctx : Ctx) (ind : Nat) (rest : List WTok) (hr : rest ≠ []) (of : ItemTy) (stop : List Nat)
    (hty : ElemTyOk c.e.table of) (hstop : stop ≠ [] → of = .ident) (hend : SeqStops c of stop (nextNC rest)) :
    ∀ (vs acc : List Val) (pre : List WTok) (s : PState) (fuel : Nat), (∀ v ∈ vs, ElemOk c of v) →
      (∀ v ∈ vs, elemStopFree c stop v) →
      all = pre ++ (vs.flatMap (elemToks ind) ++ rest) → s.pos = pre.length → s.ver = c.ver →
      vs.length + (vs.flatMap (elemToks ind)).length + 6 ≤ fuel →
      ∃ vs', Runs (parseSeq fuel ctx of stop acc) c.e s (acc.reverse ++ vs') (vs.flatMap (elemToks ind)).length ∧
        vs'.map normElem = vs
  | [], acc, pre, s, fuel, _, _, hs, hp, _, hf => by
    obtain ⟨f, rfl, -⟩ := fuel_add (k := 5) hf
    refine ⟨[], ?_, rfl⟩
    simp only [List.flatMap_nil, List.nil_append, List.append_nil, List.length_nil] at hs ⊢
    exact parseSeq_end c hT ctx of stop acc hty hs hend s hp f
  | v :: vs, acc, pre, s, fuel, hok, hfree, hs, hp, hv, hf => by
    obtain ⟨f, rfl, -⟩ := fuel_add (k := 1) hf
    simp only [List.flatMap_cons, List.length_append, List.length_cons, List.append_assoc] at hs hf ⊢
    have hr' : vs.flatMap (elemToks ind) ++ rest ≠ [] := List.append_ne_nil_of_right_ne_nil _ hr
    obtain ⟨hfe, hfr⟩ := fuel_cons hf
    obtain ⟨v', hv1, hv2⟩ := parseElem c hT ctx ind _ (hok v List.mem_cons_self) f
      (Nat.le_trans (Nat.add_le_add_left (by decide) _) hfe) hr' pre s hs hp hv
    obtain ⟨s1, e1, a1⟩ := hv1
    obtain ⟨vs', hvs1, hvs2⟩ := parseElemsSeq ctx ind rest hr of stop hty hstop hend vs (v' :: acc) (pre ++ elemToks ind v) s1 f
      (fun x hx => hok x (List.mem_cons_of_mem _ hx)) (fun x hx => hfree x (List.mem_cons_of_mem _ hx))
      (by rw [hs, List.append_assoc]) (by rw [a1.pos, hp, List.length_append]) (by rw [a1.ver, hv]) hfr
    refine ⟨v' :: vs', ?_, by rw [List.map_cons, hv2, hvs2]⟩
    obtain ⟨s3, e3, a3⟩ := hvs1
    refine ⟨s3, ?_, (a1.trans a3)⟩
    have hnostop : isStopOf stop c.e.toks[s1.pos - 1]? = false := by
      cases hst : stop with
      | nil => rfl
      | cons x xs =>
        have hof := hstop (by rw [hst]; exact List.cons_ne_nil x xs)
        subst hof
        obtain ⟨str, off, rfl⟩ : ∃ str off, v = .ident str off := by
          have hv := hok v List.mem_cons_self
          cases v <;> simp only [ElemOk, ScalarOk] at hv
          exact ⟨_, _, rfl⟩
        have hat := hT.at (pre := pre) (w := ⟨0, str, off, ind⟩) hs (n := s1.pos - 1)
          (by rw [a1.pos, hp]; simp [elemToks, scalarToks])
        have := hfree _ List.mem_cons_self
        simp only [elemStopFree, hst] at this
        rw [hat]
        simpa [isStopOf, WTok.toPTok] using this
    rw [parseSeq_turn, e1]
    simp only [hnostop, Bool.false_eq_true, if_false, e3]
    simp

/-- number of elements of an array / sequence value (fuel bookkeeping) -/
def vlen : Val → Nat
  | .arr vs => vs.length
  | .seq vs => vs.length
  | _ => 0

omit hT in
theorem scalarsOk_isScalar (its : List ItemTy) (vs : List Val) (h : ScalarsOk c its vs) :
    ∀ v ∈ vs, Val.isScalar v = true := by
  revert h
  fun_induction ScalarsOk c its vs with
  | case1 => simp
  | case2 it its v vs ih => exact fun h => List.forall_mem_cons.2 ⟨scalarOk_isScalar c h.1, ih h.2⟩
  | case3 => exact fun h => h.elim

omit hT in
theorem elemOk_shape {it : ItemTy} {v : Val} (h : ElemOk c it v) : ElemShape v := by
  revert h
  fun_cases ElemOk c it v <;> intro h
  · obtain ⟨-, -, -, -, sits, -, -, hsc⟩ := h
    exact scalarsOk_isScalar c sits _ hsc
  · exact h.elim
  · exact ElemShape.of_isScalar (scalarOk_isScalar c h)

omit hT in
theorem normField_of_elem {it : ItemTy} {v v' : Val} (hok : ElemOk c it v) (h : normElem v' = v) : normField v' = v := by
  subst h; exact (ElemShape.of_norm (elemOk_shape c hok)).asField.1

omit hT in
theorem fieldToks_of_elem {it : ItemTy} {v : Val} (hok : ElemOk c it v) (ind : Nat) : fieldToks ind v = elemToks ind v :=
  (elemOk_shape c hok).asField.2 ind

theorem parseField (ctx : Ctx) (ind : Nat) (rest : List WTok) {it : ItemTy} {fv : Val}
    (hok : FieldOk c it fv rest) (fuel : Nat) (hf : vlen fv + (fieldToks ind fv).length + 8 ≤ fuel) :
    Reads c all (parseItem fuel ctx it) (fieldToks ind fv) rest (normField · = fv) := by
  obtain ⟨f, rfl, hf'⟩ := fuel_add (k := 1) hf
  revert hok
  fun_cases FieldOk c it fv rest <;> intro hok
  next of n vs =>
    obtain ⟨rfl, hel⟩ := hok
    simp only [fieldToks, vlen] at hf' ⊢
    rw [parseItem]
    exact Reads.map (parseElemsArr c hT ctx ind rest of vs f hel (Nat.le_trans (Nat.add_le_add_left (by decide) _) hf'))
      (fun vs' h => by simp [normField, h])
  next => exact hok.elim
  next of stop vs =>
    obtain ⟨hel, hty, hstop, hfree, hend⟩ := hok
    simp only [fieldToks, vlen] at hf' ⊢
    rw [parseItem]
    refine Reads.map (Q1 := (·.map normElem = vs)) (fun hr pre s hs hp hv => ?_) (fun vs' h => by simp [normField, h])
    exact parseElemsSeq c hT ctx ind rest hr of stop hty hstop hend vs [] pre s f hel hfree hs hp hv
      (Nat.le_trans (Nat.add_le_add_left (by decide) _) hf')
  next => exact hok.elim
  next =>
    rw [fieldToks_of_elem c hok] at hf ⊢
    exact (parseElem c hT ctx ind rest hok (f + 1) (by omega)).weaken (fun v' h => normField_of_elem c hok h)

omit hT in
/-- fuel that certainly suffices for a parameter list -/
def fieldsNeed (ind : Nat) (fs : List Val) : Nat := fs.length + (fs.map vlen).sum + (fieldsToks ind fs).length + 9

theorem parseFields (ctx : Ctx) (ind : Nat) (rest : List WTok) (its : List ItemTy) (fs : List Val) (fuel : Nat)
    (hok : FieldsOk c ind its fs rest) (hf : fieldsNeed ind fs ≤ fuel) :
    Reads c all (parseItems fuel ctx its) (fieldsToks ind fs) rest (·.map normField = fs) := by
  revert hok
  fun_induction FieldsOk c ind its fs rest generalizing fuel with
  | case1 =>
    obtain ⟨f, rfl, -⟩ := fuel_add (k := 1) hf
    rw [parseItems]; exact fun _ => Reads.pure rfl
  | case2 it its fv fs rest ih =>
    intro hok
    obtain ⟨f, rfl, -⟩ := fuel_add (k := 1) hf
    simp only [fieldsNeed, fieldsToks, List.flatMap_cons, List.length_append, List.length_cons, List.map_cons,
      List.sum_cons] at hf ⊢
    rw [parseItems]
    refine Reads.bind (parseField c hT ctx ind _ hok.1 f (by omega)) (fun v' hv' => ?_)
    exact Reads.map (ih f (by simp only [fieldsNeed, fieldsToks]; omega) hok.2)
      (fun fs' hfs => by rw [List.map_cons, hv', hfs])
  | case3 => exact fun h => h.elim

end

end A2l.Tree
