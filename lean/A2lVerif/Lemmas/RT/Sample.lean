import A2lVerif.Lemmas.RT.LexVals
import A2lVerif.Lemmas.TreeRoundTrip
/-! # C01: a concrete instance of the hypotheses (a root keyword, a version keyword, a block with an identifier, a
    string and an enum parameter, a comment and a repeating child keyword with a hex parameter) -/
namespace A2l.Tree.Sample
open A2l.G A2l.Sc A2l.Lex

def tbl : Table :=
  [⟨0, .block false [] [⟨0, 1, false, false, false, 0, 0⟩, ⟨1, 2, true, false, true, 0, 0⟩] true⟩,
   ⟨1, .block false [.int 5, .int 5] [] false⟩,
   ⟨2, .block true [.ident, .string, .enumRef 4] [⟨2, 3, false, true, false, 0, 0⟩] true⟩,
   ⟨3, .block false [.int 6] [] false⟩,
   ⟨4, .enum [⟨3, 0, 0⟩, ⟨4, 0, 0⟩]⟩]

def syms : Array String := #["V", "P", "C", "ON", "OFF"]

def symOf : List Char → Nat
  | ['V'] => 0 | ['P'] => 1 | ['C'] => 2 | ['O', 'N'] => 3 | ['O', 'F', 'F'] => 4 | _ => noSym

def lx : LexEnv := ⟨symOf, fun s => some s⟩

/-- environment of the first load (tokens irrelevant) -/
def e0 : Env := { toks := #[], strict := true, table := tbl, code := [], known := ⟨0, 1, 0⟩, symbols := syms }

def rarms : List Arm := [⟨0, 1, false, false, false, 0, 0⟩, ⟨1, 2, true, false, true, 0, 0⟩]
def parms : List Arm := [⟨2, 3, false, true, false, 0, 0⟩]

def cmtText : List Char := " /* c */".toList

def verFields : List Val := [.int 1 false 0 5, .int 71 false 0 5]
def projFields : List Val := [.ident ['p'] 0, .str ['h', 'i'] 0, .enum ['O', 'N'] 0]
def childFields : List Val := [.int 5 true 0 6]

def childV : Val := .block 3 ⟨4, 6, 1, 0, 0⟩ childFields [] []
def projV : Val := .block 2 ⟨2, 4, 1, 1, 0⟩ projFields [[childV]] [⟨cmtText, 2, 5, 1, false⟩]
def verV : Val := .block 1 ⟨1, 3, 0, 0, 0⟩ verFields [] []
/-- the loaded file: `V 1 71` / `/begin P p "hi" ON` / ` /* c */` / `C 0x5` / `/end P` -/
def fileV : Val := .block 0 ⟨1, 2, 0, 0, 0⟩ [] [[verV], [projV]] []

def childO : OT := .node 0 ['C'] false 3 1 0 childFields []
def projItems : List OT := [.cmt cmtText 1, childO]
def projO : OT := .node 1 ['P'] true 2 1 1 projFields projItems
def verO : OT := .node 0 ['V'] false 1 0 0 verFields []
def items : List OT := [verO, projO]

/-- the sample is what the tagged loop builds: its accumulators after the items of `P` have been read (`LoopInv`), from which
    `Canon` and `InOrder` are read off together -/
theorem loop_proj : LoopInv ⟨e0, lx, 6⟩ parms projItems [[childV]] [[[]]] [⟨cmtText, 2, 5, 1, false⟩]
    [⟨5, 2, .cmt cmtText 1⟩, ⟨6, 4, childO⟩] 6 :=
  ((LoopInv.init ⟨e0, lx, 6⟩ parms 4).cmtStep cmtText 2 1).childStep (i := 0) rfl
    (show Canon e0 childV [] from Canon.leaf (its := [.int 6]) (arms := []) rfl _ (fieldShape_of_scalars (by decide)))
    (show InOrder e0 childV [] from InOrder.leaf (its := [.int 6]) (arms := []) rfl rfl _) (by decide) (by decide)

theorem canon_proj : Canon e0 projV projItems :=
  loop_proj.toCanon (its := [.ident, .string, .enumRef 4]) rfl List.Pairwise.nil _ _ (fieldShape_of_scalars (by decide))

theorem inorder_proj : InOrder e0 projV projItems :=
  loop_proj.toInOrder (its := [.ident, .string, .enumRef 4]) rfl _ rfl _

theorem loop_file : LoopInv ⟨e0, lx, 6⟩ rarms items [[verV], [projV]] [[[]], [projItems]] []
    [⟨3, 1, verO⟩, ⟨4, 2, projO⟩] 4 :=
  ((LoopInv.init ⟨e0, lx, 6⟩ rarms 2).childStep (i := 0) rfl
    (show Canon e0 verV [] from Canon.leaf (its := [.int 5, .int 5]) (arms := []) rfl _ (fieldShape_of_scalars (by decide)))
    (show InOrder e0 verV [] from InOrder.leaf (its := [.int 5, .int 5]) (arms := []) rfl rfl _) (by decide)
    (Nat.le_refl 3)).childStep (i := 1) rfl canon_proj inorder_proj (by decide) (by decide)

theorem canon_file : Canon e0 fileV items :=
  loop_file.toCanon (its := []) rfl List.Pairwise.nil _ _ (fun _ hf => nomatch hf)

theorem inorder_file : InOrder e0 fileV items := loop_file.toInOrder (its := []) rfl _ rfl _

theorem fix_items : OT.fixL false items = items := by
  simp [items, verO, projO, projItems, childO, OT.fixL, bumpOff, OT.fixEo]

/-- the written token stream -/
def stream : List WTok :=
  [⟨0, ['V'], 0, 0⟩, ⟨5, ['1'], 0, 1⟩, ⟨5, ['7', '1'], 0, 1⟩,
   ⟨1, beginText, 1, 0⟩, ⟨0, ['P'], 0, 0⟩, ⟨0, ['p'], 0, 1⟩, ⟨4, ['"', 'h', 'i', '"'], 0, 1⟩, ⟨0, ['O', 'N'], 0, 1⟩,
   ⟨6, cmtText, 1, 1⟩, ⟨0, ['C'], 1, 1⟩, ⟨5, ['0', 'x', '5'], 0, 2⟩,
   ⟨2, endText, 1, 0⟩, ⟨0, ['P'], 0, 0⟩]

theorem toksL_items : OT.toksL 0 items = stream := by decide +kernel

/-- the written text -/
theorem text_items : renderToks stream =
    " V 1 71\n/begin P p \"hi\" ON\n /* c */\n  C 0x5\n/end P".toList := by
  -- the literal becomes `String.ofList [..]` by unification: the kernel need not decode it
  refine Eq.trans ?_ String.toList_ofList.symm
  decide +kernel

theorem cmt_lex : CommentText cmtText := by
  unfold CommentText
  have hl : isLineCmt cmtText = false := by decide +kernel
  rw [if_neg (by simp [hl])]
  have hcore : encL (cmtRest cmtText) = [47, 42, 32, 99, 32, 42, 47] := by decide +kernel
  rw [hcore]
  refine ⟨by decide, by decide, by decide, by decide, ?_⟩
  intro j h1 h2
  have : j = 3 ∨ j = 4 ∨ j = 5 := by simp at h2; omega
  rcases this with rfl | rfl | rfl <;> decide

/-- environment of the second load -/
def e1 : Env := { e0 with toks := (mkToks lx (OT.toksL 0 (OT.fixL false items))).toArray }

def cfg (ver : Nat) : RCfg := ⟨e1, lx, ver⟩

theorem ok_child (ver : Nat) (rest : List WTok) (hr : rest ≠ []) : OT.ok (cfg ver) 1 parms true childO rest := by
  unfold childO
  rw [OT.ok]
  refine ⟨⟨2, 3, false, true, false, 0, 0⟩, [.int 6], [], false, rfl, rfl, show _ = symText syms 2 from by decide,
    rfl, rfl, ?_, fun _ => ⟨rfl, hr, rfl⟩,
    ⟨'C', [], rfl, (by intro _; decide)⟩, rfl, rfl, ?_, (fun _ => rfl), trivial, ?_, List.Pairwise.nil⟩
  · intro h; exact absurd h.1 (by decide)
  · exact ⟨⟨rfl, by decide⟩, trivial⟩
  · exact fun j a ha => nomatch ha

theorem ok_ver (ver : Nat) (rest : List WTok) (hr : rest ≠ []) : OT.ok (cfg ver) 0 rarms false verO rest := by
  unfold verO
  rw [OT.ok]
  refine ⟨⟨0, 1, false, false, false, 0, 0⟩, [.int 5, .int 5], [], false, rfl, rfl,
    show _ = symText syms 0 from by decide, rfl, rfl, ?_,
    fun _ => ⟨rfl, hr, rfl⟩, ⟨'V', [], rfl, (by intro _; decide)⟩, rfl, rfl, ?_, (fun _ => rfl), trivial, ?_,
    List.Pairwise.nil⟩
  · intro h; exact absurd h.1 (by decide)
  · exact ⟨⟨rfl, by decide⟩, ⟨rfl, by decide⟩, trivial⟩
  · exact fun j a ha => nomatch ha

theorem ok_proj (ver : Nat) : OT.ok (cfg ver) 0 rarms false projO [] := by
  unfold projO
  rw [OT.ok]
  refine ⟨⟨1, 2, true, false, true, 0, 0⟩, [.ident, .string, .enumRef 4], parms, true, rfl, rfl,
    show _ = symText syms 1 from by decide, rfl, rfl, ?_,
    (fun h => nomatch h), ⟨'P', [], rfl, (by intro _; decide)⟩, rfl, rfl, ?_, (fun h => nomatch h), ?_, ?_, ?_⟩
  · intro h; exact absurd h.1 (by decide)
  · refine ⟨⟨'p', [], rfl, (by intro _; decide)⟩, trivial, ?_, trivial⟩
    exact ⟨[⟨3, 0, 0⟩, ⟨4, 0, 0⟩], ⟨3, 0, 0⟩, rfl, ⟨'O', ['N'], rfl, (by intro _; decide)⟩, rfl,
      (by intro h; exact absurd rfl h.1)⟩
  · simp only [projItems, OT.okL, OT.ok, and_true, true_and]
    exact ok_child ver _ (by simp [closeToks])
  · intro j a ha
    match j with
    | 0 =>
      simp [parms] at ha; subst ha
      exact ⟨(fun h => nomatch h), (fun h => nomatch h)⟩
    | n + 1 => simp [parms] at ha
  · simp [PosSorted, projItems, childO, OT.pos, posRestrict, codeLookup, e1, e0, cfg]

theorem writable : Writable (cfg 6) rarms (OT.fixL false items) := by
  rw [fix_items]
  refine ⟨rfl, ?_, ?_, ?_, ?_⟩
  · intro ver _
    simp only [items, OT.okL, and_true]
    exact ⟨ok_ver ver _ (by simp [OT.toksL, OT.toks, projO, headToks]), ok_proj ver⟩
  · intro j a ha
    match j with
    | 0 =>
      simp [rarms] at ha; subst ha
      exact ⟨(fun _ => by simp [items, verO, projO, OT.isArm]), (fun h => nomatch h)⟩
    | 1 =>
      simp [rarms] at ha; subst ha
      refine ⟨(fun _ => by simp [items, verO, projO, OT.isArm]), fun _ h => ?_⟩
      simp [items, verO, projO, OT.isArm] at h
    | n + 2 => simp [rarms] at ha
  · simp [PosSorted, items, verO, projO, OT.pos, posRestrict, codeLookup, e1, e0, cfg]
  · show HeadOk (cfg 6) (verO :: [projO])
    unfold verO
    simp only [HeadOk]
    have hst : (cfg 6).e.strict = true := rfl
    rw [if_pos hst]
    exact ⟨1, 71, ⟨0, ['V'], 0, false, 0, 5, false, 0, 5, rfl, rfl⟩, rfl⟩

theorem identText1 (c : Char) (h1 : IsAscii c ∧ isIdentChar (asciiB c) = true)
    (h2 : (isAlpha (asciiB c) || asciiB c == 95) = true) : IdentText [c] :=
  ⟨c, [], rfl, by intro x hx; simp at hx; subst hx; exact h1, h2⟩

/-- a keyword without sub-elements -/
theorem lexW_kw (arm : Nat) (tag : List Char) (ty so : Nat) (fields : List Val) (htag : IdentText tag)
    (hf : ∀ f ∈ fields, FieldLex f) : OT.lexW (.node arm tag false ty so 0 fields []) := by
  rw [OT.lexW]
  exact ⟨htag, (by intro h; cases h), hf, (by rw [OT.lexWL]; trivial), (fun _ => rfl)⟩

theorem lexW_items : OT.lexWL items := by
  unfold items verO projO projItems childO
  rw [OT.lexWL, OT.lexWL, OT.lexWL]
  refine ⟨lexW_kw _ _ _ _ _ (identText1 'V' (by decide) (by decide)) ?_, ?_, trivial⟩
  · intro f hf; simp [verFields] at hf; rcases hf with rfl | rfl <;> trivial
  · rw [OT.lexW]
    refine ⟨identText1 'P' (by decide) (by decide), (by intro _; decide), ?_, ?_, (by intro h; cases h)⟩
    · intro f hf
      simp [projFields] at hf
      rcases hf with rfl | rfl | rfl
      · exact identText1 'p' (by decide) (by decide)
      · trivial
      · exact ⟨'O', ['N'], rfl, by decide, by decide⟩
    · rw [OT.lexWL, OT.lexWL, OT.lexWL]
      refine ⟨by rw [OT.lexW]; exact cmt_lex, lexW_kw _ _ _ _ _ (identText1 'C' (by decide) (by decide)) ?_, trivial⟩
      intro f hf; simp [childFields] at hf; subst hf; trivial

theorem lexable : StreamLex none (OT.toksL 0 (OT.fixL false items)) :=
  streamLex_of_lexW items lexW_items

theorem stream_lex : StreamLex none stream := by
  have := lexable
  rwa [fix_items, toksL_items] at this

end A2l.Tree.Sample
