import A2lVerif.Lemmas.RT.Node
/-! # C01: `parse_file` on a written token stream -/
namespace A2l.Tree
open A2l.G A2l.Sc

theorem normField_eq_int {v : Val} {a : Int} {b : Bool} {o w : Nat} (h : normField v = .int a b o w) : v = .int a b o w := by
  cases v <;> simp [normField, normElem] at h ⊢
  exact h

theorem FieldOk_int_indep (c c' : RCfg) {it : ItemTy} {v : Int} {h : Bool} {o w : Nat} {r r' : List WTok}
    (hf : FieldOk c it (.int v h o w) r) : FieldOk c' it (.int v h o w) r' := by
  cases it <;> simp [FieldOk, ElemOk, ScalarOk] at hf ⊢
  exact hf

/-- the context `parse_file` starts with -/
def rootCtx (e : Env) : Ctx := ⟨"A2L_FILE".toList, 0, match e.toks[0]? with | some t => t.line | none => 1⟩

theorem parseFile_unfold (fuel : Nat) (e : Env) (s : PState) :
    parseFile fuel e s = (do
      let ver ← parseVersion fuel (rootCtx e)
      modifyState fun s => { s with ver := ver }
      let file ← parseType fuel e.known.tyA2lFile (rootCtx e) 0
      match (← peekToken) with
      | some _ => errorOrLog .additionalTokensError
      | none => pure ()
      pure file : PM Val) e s := rfl

/-- the shape of the first item of a strict-mode file: `ASAP2_VERSION major minor` -/
def IsVersionItem (c : RCfg) (o : OT) (major minor : Int) : Prop :=
  ∃ vi vtag vso h1 o1 w1 h2 o2 w2,
    o = .node vi vtag false c.e.known.tyAsap2Version vso 0 [.int major h1 o1 w1, .int minor h2 o2 w2] [] ∧
    c.lx.symOf vtag = c.e.known.tagAsap2Version

/-- `parse_file` succeeds with a root value whose ordered form is `items`, standing in written order -/
def Reloads (c : RCfg) (fuel : Nat) (s0 : PState) (items : List OT) : Prop :=
  ∃ info ch' cm' s', parseFile fuel c.e s0 = .ok (.block c.e.known.tyA2lFile info [] ch' cm') s' ∧
    info.startOff = 0 ∧ info.endOff = 0 ∧
    Canon c.e (.block c.e.known.tyA2lFile info [] ch' cm') items ∧
    InOrder c.e (.block c.e.known.tyA2lFile info [] ch' cm') items

section
variable (c : RCfg) {all : List WTok} (hT : Toks c.e c.lx all)
include hT

/-- `parse_version` on a stream that starts with the version keyword -/
theorem parseVersion_strict (rarms : List Arm) (o : OT) (more : List OT) (major minor : Int)
    (hv : IsVersionItem c o major minor) (hok : OT.ok c 0 rarms false o (OT.toksL 0 more))
    (hall : all = OT.toksL 0 (o :: more)) (hns : versionOf major minor = none → c.e.strict = false)
    (ctx : Ctx) (s : PState) (hp : s.pos = 0) (fuel : Nat) (hf : 20 ≤ fuel) :
    ∃ s', parseVersion fuel ctx c.e s = .ok ((versionOf major minor).getD 6) s' ∧ s'.pos = 0 := by
  obtain ⟨vi, vtag, vso, h1, o1, w1, h2, o2, w2, rfl, hsym⟩ := hv
  obtain ⟨f, rfl, -⟩ := fuel_add (k := 1) hf
  simp only [OT.ok] at hok
  obtain ⟨a, cits, carms, cht, harm, hty, htag, hblk, hl, -, hkw, hid, hidx, hnorm, hfields, hht, -, -, -⟩ := hok
  obtain ⟨-, hrest, rfl⟩ := hkw trivial
  simp only [OT.toksL, OT.toks, headToks, closeToks, Bool.false_eq_true, if_false, fieldsToks, List.flatMap_cons,
    List.flatMap_nil, fieldToks, elemToks, scalarToks, List.append_nil, List.cons_append, List.nil_append] at hall hfields
  -- the two parameters are integers of the declared widths, whatever the version in the state
  let cS : RCfg := { c with ver := s.ver }
  have hf' : FieldsOk cS 1 cits [Val.int major h1 o1 w1, Val.int minor h2 o2 w2] (OT.toksL 0 more) := by
    match cits, hfields with
    | [it1, it2], hfields =>
      simp only [FieldsOk] at hfields ⊢
      exact ⟨FieldOk_int_indep c cS hfields.1, FieldOk_int_indep c cS hfields.2.1, trivial⟩
    | [], hfields => simp [FieldsOk] at hfields
    | [_], hfields => simp [FieldsOk] at hfields
    | _ :: _ :: _ :: _, hfields => simp [FieldsOk] at hfields
  have hT' : Toks cS.e cS.lx all := hT
  have hs1 : all = [⟨0, vtag, vso, 0⟩] ++ (fieldsToks 1 [Val.int major h1 o1 w1, Val.int minor h2 o2 w2] ++ OT.toksL 0 more) := by
    rw [hall]; rfl
  have hat0 := hT.at (pre := []) (by rw [hall]; rfl) (n := s.pos) (by rw [hp]; rfl)
  obtain ⟨s1, e1, a1⟩ := Runs.getIdentifier hT (pre := []) (by rw [hall]; rfl) ctx rfl hid s (by rw [hp]; rfl)
  obtain ⟨fields', ⟨s2, e2, a2⟩, hn2⟩ := parseFields cS hT' ⟨[], 0, endLine 1 [] + vso⟩ 1 (OT.toksL 0 more) cits _ f hf'
    (by simp [fieldsNeed, fieldsToks, fieldToks, elemToks, scalarToks, vlen]; omega) hrest
    [⟨0, vtag, vso, 0⟩] { s1 with seqId := s1.seqId + 1 } hs1 (by show s1.pos = 1; rw [a1.pos, hp]) (by show s1.ver = s.ver; exact a1.ver)
  obtain ⟨x1, x2, rfl⟩ : ∃ x1 x2, fields' = [x1, x2] := by
    match fields', hn2 with
    | [x1, x2], _ => exact ⟨x1, x2, rfl⟩
    | [], h => simp at h
    | [_], h => simp at h
    | _ :: _ :: _ :: _, h => simp at h
  simp only [List.map_cons, List.map_nil, List.cons.injEq, and_true] at hn2
  have hx1 := normField_eq_int hn2.1
  have hx2 := normField_eq_int hn2.2
  subst hx1; subst hx2
  have hunf : parseVersion (f + 1) ctx c.e s =
      (match versionOf major minor with
        | some v => (pure v : PM Nat)
        | none => do errorOrLogNoLine .invalidVersion; pure 6) c.e { s2 with pos := 0 } := by
    have hat1 : c.e.toks[s1.pos - 1]? = c.e.toks[s.pos]? := by rw [a1.pos]; rfl
    unfold parseVersion
    simp only [getEnv_bind, peekToken_bind, hat0]
    rw [bind_def]
    unfold attempt
    rw [e1]
    simp only [getState_bind, hat1, hat0, WTok.toPTok, if_true, hsym, beq_self_eq_true]
    rw [bind_def, parseType_block_unfold f _ _ 0 c.e s1 hl]
    unfold typeBody
    rw [bind_def, e2]
    simp only [Bool.false_eq_true, if_false, pure_bind_eval, List.zip_nil_right, List.foldlM_nil, setTokenpos_bind,
      pure_def]
    rfl
  rw [hunf]
  cases hvo : versionOf major minor with
  | some v => exact ⟨_, rfl, rfl⟩
  | none =>
    refine ⟨{ s2 with pos := 0, log := ⟨.invalidVersion, 0⟩ :: s2.log }, ?_, rfl⟩
    simp only []
    rw [bind_def, errorOrLogNoLine_eval, hns hvo]
    rfl

/-- `parse_version` outside strict mode, on a stream that does not start with the version tag: version 1.51 is
    assumed (and `MissingVersionInfo` logged) -/
theorem parseVersion_other (rarms : List Arm) (i : Nat) (tag : List Char) (blk : Bool) (ty so eo : Nat)
    (fields : List Val) (its : List OT) (more : List OT) (hns : c.e.strict = false)
    (hok : OT.ok c 0 rarms false (.node i tag blk ty so eo fields its) (OT.toksL 0 more))
    (hall : all = OT.toksL 0 (.node i tag blk ty so eo fields its :: more))
    (hnv : c.lx.symOf tag ≠ c.e.known.tagAsap2Version)
    (ctx : Ctx) (s : PState) (hp : s.pos = 0) (fuel : Nat) :
    ∃ s', parseVersion fuel ctx c.e s = .ok 2 s' ∧ s'.pos = 0 := by
  simp only [OT.ok] at hok
  obtain ⟨a, cits, carms, cht, -, -, -, -, -, -, -, hid, -⟩ := hok
  cases blk with
  | true =>
    have hs0 : all = [] ++ (⟨1, beginText, so, 0⟩ : WTok) :: (⟨0, tag, 0, 0⟩ :: (OT.bodyToks 0 (.node i tag true ty so eo fields its) ++ OT.toksL 0 more)) := by
      rw [hall]; simp [OT.toksL, OT.toks, OT.bodyToks, headToks]
    have hat0 := hT.at hs0 (n := s.pos) (by rw [hp]; rfl)
    have hf : Fails (getIdentifier ctx) c.e s := by
      unfold getIdentifier
      exact Fails.bind (expect_fails hT ctx 0 (pre := []) hs0 (by simp [nextNC]) s (by rw [hp]; rfl))
    obtain ⟨d, s1, h1, -, -⟩ := hf.attempt
    refine ⟨{ s1 with pos := 0, log := ⟨.missingVersionInfo, 0⟩ :: s1.log }, ?_, rfl⟩
    unfold parseVersion
    simp only [getEnv_bind, peekToken_bind, hat0]
    rw [bind_def, h1]
    simp only [getState_bind, Bool.false_eq_true, if_false, setTokenpos_bind]
    rw [bind_def, errorOrLogNoLine_eval, hns]
    rfl
  | false =>
    have hs0 : all = [] ++ (⟨0, tag, so, 0⟩ : WTok) :: (OT.bodyToks 0 (.node i tag false ty so eo fields its) ++ OT.toksL 0 more) := by
      rw [hall]; simp [OT.toksL, OT.toks, OT.bodyToks, headToks]
    have hat0 := hT.at hs0 (n := s.pos) (by rw [hp]; rfl)
    obtain ⟨s1, e1, a1⟩ := Runs.getIdentifier hT hs0 ctx rfl hid s (by rw [hp]; rfl)
    refine ⟨{ s1 with pos := 0, log := ⟨.missingVersionInfo, 0⟩ :: s1.log }, ?_, rfl⟩
    have hsym : (c.lx.symOf tag == c.e.known.tagAsap2Version) = false := by simpa using hnv
    unfold parseVersion
    simp only [getEnv_bind, peekToken_bind, hat0]
    rw [bind_def]
    have hat1 : c.e.toks[s1.pos - 1]? = c.e.toks[s.pos]? := by rw [a1.pos]; rfl
    unfold attempt
    rw [e1]
    simp only [getState_bind, hat1, hat0, WTok.toPTok, if_true, hsym, Bool.false_eq_true, if_false, setTokenpos_bind]
    rw [bind_def, errorOrLogNoLine_eval, hns]
    rfl

end
end A2l.Tree
