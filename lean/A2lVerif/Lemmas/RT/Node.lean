import A2lVerif.Lemmas.RT.FieldsAll
import A2lVerif.Lemmas.RT.LoopInv
import A2lVerif.Lemmas.TreeDev
/-! # C01: one turn of the tagged loop on a written token stream (what `get_next_tag_or_comment` finds); a written element
is read back (`reparse_body`, `reparse_items`) -/
namespace A2l.Tree
open A2l.G A2l.Sc

section
variable {e : Env} {lx : LexEnv} {all : List WTok} (hT : Toks e lx all)
include hT

theorem nextTag_comment (ctx : Ctx) {pre rest : List WTok} {text : List Char} {off ind : Nat}
    (hs : all = pre ++ (⟨6, text, off, ind⟩ : WTok) :: rest) (hr : rest ≠ []) (s : PState) (hp : s.pos = pre.length) :
    ∃ l, getNextTagOrComment ctx e s = .ok (.comment ((⟨6, text, off, ind⟩ : WTok).toPTok lx l) off)
      { s with pos := s.pos + 1 } := by
  have hat := hT.at hs hp
  refine ⟨endLine 1 pre + off, ?_⟩
  unfold getNextTagOrComment
  simp only [getTokenpos_bind, peekToken_bind, hat, WTok.toPTok, modifyState_bind]
  rw [bind_def, lineOff hT hs hr { s with pos := s.pos + 1 } (by simp [hp])]
  rfl

/-- the head of a sub-element in front of the cursor: `/begin TAG` or `TAG` -/
theorem nextTag_head (ctx : Ctx) (ind : Nat) (tag : List Char) (blk : Bool) (so : Nat) {pre rest : List WTok}
    (hs : all = pre ++ (headToks ind tag blk so ++ rest)) (hr : blk = false → rest ≠ []) (s : PState)
    (hp : s.pos = pre.length) :
    ∃ tok, Runs (getNextTagOrComment ctx) e s (.block tok blk so) (headToks ind tag blk so).length ∧
      tok.text = tag ∧ tok.fileid = 0 ∧ tok.sym = lx.symOf tag := by
  unfold getNextTagOrComment
  cases blk with
  | true =>
    simp only [headToks, if_true, List.cons_append, List.nil_append] at hs ⊢
    have hs2 : all = (pre ++ [⟨1, beginText, so, ind⟩]) ++ (⟨0, tag, 0, ind⟩ : WTok) :: rest := by rw [hs, List.append_assoc]; rfl
    refine ⟨(⟨0, tag, 0, ind⟩ : WTok).toPTok lx (endLine 1 (pre ++ [⟨1, beginText, so, ind⟩]) + 0),
      Runs.tokenpos (Runs.peek ?_), rfl, rfl, rfl⟩
    simp only [hT.at hs hp, WTok.toPTok]
    refine Runs.bind' (Runs.getToken hT hs ctx s hp) (fun s1 a1 => ?_) (k := 1) rfl
    refine Runs.bind' (Runs.lineOff hT hs (List.cons_ne_nil _ _) s1 (by rw [a1.pos, hp])) (fun s2 a2 => ?_) (Nat.zero_add 1)
    exact Runs.bind' (Runs.expect hT hs2 ctx 0 rfl (by decide) s2 (by rw [a2.pos, a1.pos, hp]; simp)).attempt_ok
      (fun s3 a3 => Runs.pure _ _ _) (Nat.add_zero 1)
  | false =>
    simp only [headToks, Bool.false_eq_true, if_false, List.cons_append, List.nil_append] at hs ⊢
    refine ⟨(⟨0, tag, so, ind⟩ : WTok).toPTok lx (endLine 1 pre + so), Runs.tokenpos (Runs.peek ?_), rfl, rfl, rfl⟩
    simp only [hT.at hs hp, WTok.toPTok]
    refine Runs.bind' (Runs.expect hT hs ctx 0 rfl (by decide) s hp).attempt_ok (fun s1 a1 => ?_) (k := 0) rfl
    exact Runs.bind' (Runs.lineOff hT hs (hr rfl) s1 (by rw [a1.pos, hp])) (fun s2 a2 => Runs.pure _ _ _) rfl

/-- `/end` or the end of the file in front of the cursor: the loop is over, the cursor stays -/
theorem nextTag_none (ctx : Ctx) {pre tail : List WTok} (hs : all = pre ++ tail) (hne : all ≠ [])
    (ht : tail = [] ∨ ∃ w r, tail = w :: r ∧ w.ty = 2) (s : PState) (hp : s.pos = pre.length) :
    ∃ s', getNextTagOrComment ctx e s = .ok .none s' ∧ Adv s s' 0 := by
  have hf : Fails (expectToken ctx 0) e s := by
    apply expect_fails hT ctx 0 hs _ s hp
    rcases ht with rfl | ⟨w, r, rfl, hw⟩
    · trivial
    · simp [nextNC, hw]
  obtain ⟨d, s1, h1, q1, v1⟩ := hf
  obtain ⟨n, hn⟩ := lineOff_any hT hne s1
  refine ⟨{ s1 with pos := s.pos }, ?_, rfl, q1, v1⟩
  have key : (do
      let r ← attempt (expectToken ctx 0)
      let off ← getLineOffset
      match r with
      | .ok tok => pure (.block tok false off)
      | .error _ => do setTokenpos s.pos; pure .none : PM BlockContent) e s =
      .ok .none { s1 with pos := s.pos } := by
    rw [bind_def]
    unfold attempt
    rw [h1]
    simp only []
    rw [bind_def, hn]
    rfl
  unfold getNextTagOrComment
  simp only [getTokenpos_bind, peekToken_bind]
  rcases ht with rfl | ⟨w, r, rfl, hw⟩
  · rw [hT.none (by rw [hs, hp]; simp)]
    exact key
  · rw [hT.at hs hp]
    unfold WTok.toPTok
    rw [hw]
    exact key

end

theorem setAt_congr {α} (l : List (List α)) (i : Nat) (f g : List α → List α) (h : ∀ x, l[i]? = some x → f x = g x) :
    setAt l i f = setAt l i g := by
  apply List.ext_getElem?
  intro j
  rw [setAt_getElem?, setAt_getElem?]
  cases hx : l[j]? with
  | none => rfl
  | some x =>
    by_cases hji : j = i
    · subst hji; simp [h x hx]
    · simp [hji]

/-- the multiplicity checks behind the tagged loop pass (or only log) -/
theorem multCheck_runs (e : Env) : ∀ (zs : List (Arm × List Val)) (s : PState),
    (∀ z ∈ zs, z.1.required = true → z.2.isEmpty = true → z.1.repeat_ = true ∧ e.strict = false) →
    Runs (zs.foldlM (fun (_ : Unit) (ac : Arm × List Val) =>
        if ac.1.required ∧ ac.2.isEmpty then
          (if ac.1.repeat_ then errorOrLog .invalidMultiplicityNotPresent else fail .invalidMultiplicityNotPresent)
        else (pure () : PM Unit)) ()) e s () 0
  | [], s, _ => Runs.pure () e s
  | z :: zs, s, h => by
    rw [List.foldlM_cons]
    refine Runs.bind' (n := 0) (k := 0) (a := ()) ?_ (fun s1 _ => multCheck_runs e zs s1
      (fun z' hz' => h z' (List.mem_cons_of_mem _ hz'))) rfl
    by_cases hc : z.1.required = true ∧ z.2.isEmpty = true
    · rw [if_pos hc]
      obtain ⟨hr, hs⟩ := h z List.mem_cons_self hc.1 hc.2
      rw [if_pos hr]
      exact Runs.errorOrLog _ e s hs
    · rw [if_neg hc]; exact Runs.pure () e s

theorem fieldOk_shape (c : RCfg) {it : ItemTy} {v : Val} {rest : List WTok} (h : FieldOk c it v rest) : FieldShape v := by
  revert h
  fun_cases FieldOk c it v rest <;> intro h
  · exact fun x hx => elemOk_shape c (h.2 x hx)
  · exact h.elim
  · exact fun x hx => elemOk_shape c (h.1 x hx)
  · exact h.elim
  · exact FieldShape.of_elem (elemOk_shape c h)

theorem fieldsOk_shape (c : RCfg) (ind : Nat) (its : List ItemTy) (fs : List Val) (rest : List WTok)
    (h : FieldsOk c ind its fs rest) : ∀ f ∈ fs, FieldShape f := by
  revert h
  fun_induction FieldsOk c ind its fs rest with
  | case1 => simp
  | case2 it its f fs rest ih => exact fun h => List.forall_mem_cons.2 ⟨fieldOk_shape c h.1, ih h.2⟩
  | case3 => exact fun h => h.elim

theorem shape_of_norm {fs' fs : List Val} (hn : fs'.map normField = fs) (h : ∀ f ∈ fs, FieldShape f) :
    ∀ f ∈ fs', FieldShape f := by
  intro f hf
  have hf' : FieldShape (normField f) := h _ (by rw [← hn]; exact List.mem_map_of_mem hf)
  cases f with
  | arr vs | seq vs => exact fun x hx => ElemShape.of_norm (hf' _ (List.mem_map_of_mem hx))
  | _ => exact hf'

/-- one turn of the tagged loop on a recognised sub-element whose arm was empty so far (or repeats): the version checks
    only touch the log, the element's own parser runs, its value is appended to the list of the arm -/
theorem parseTagged_child {e : Env} {s s1 : PState} {ctx : Ctx} {arms : List Arm} {pib : Bool} {ch : List (List Val)}
    {cm : List Cmt} {tok : PTok} {isBlock : Bool} {off i : Nat} {arm : Arm} (fuel : Nat)
    (hget : getNextTagOrComment ctx e s = .ok (.block tok isBlock off) s1)
    (hidx : arms.findIdx? (·.tag == tok.sym) = some i) (harm : arms[i]? = some arm) (hform : arm.block = isBlock)
    (hver : arm.vlo ≠ 0 ∧ s1.ver < arm.vlo → e.strict = false)
    (hempty : arm.repeat_ = false → ∀ cs, ch[i]? = some cs → cs = []) :
    ∃ s2, Adv s1 s2 0 ∧ ∀ v s3, parseType fuel arm.ty ⟨tok.text, tok.fileid, tok.line⟩ off e s2 = .ok v s3 →
      parseTagged (fuel + 1) ctx arms pib ch cm e s = parseTagged fuel ctx arms pib (setAt ch i (· ++ [v])) cm e s3 := by
  rw [parseTagged_arm e s s1 ctx arms pib ch cm fuel tok isBlock off i arm hget hidx harm, if_pos hform]
  unfold taggedArmBody
  simp only [getState_bind]
  obtain ⟨sa, aa, ea⟩ := iteE_eq (k := .blockRefTooNew) (e := e) (s := s1) hver
  rw [ea]
  simp only [getState_bind]
  obtain ⟨sb, ab, eb⟩ := iteW_eq (p := arm.vhi ≠ 0 ∧ sa.ver > arm.vhi) (k := .blockRefDeprecated) (e := e) (s := sa)
  rw [eb]
  refine ⟨sb, aa.trans ab, fun v s3 h3 => ?_⟩
  rw [bind_def, h3]
  cases hr : arm.repeat_ with
  | true => simp
  | false =>
    have hcs := hempty hr
    simp only [Bool.false_eq_true, if_false]
    rw [setAt_congr ch i (fun _ => [v]) (· ++ [v]) (fun x hx => by rw [hcs x hx]; rfl)]
    cases hx : ch[i]? with
    | none => rfl
    | some cs => rw [hcs cs hx]; rfl

/-- `T::parse` behind the table lookup and `get_next_id` -/
def typeBody (fuel ty : Nat) (ctx : Ctx) (startOff : Nat) (isBlock : Bool) (items : List ItemTy) (arms : List Arm)
    (hasTagged : Bool) (uid : Nat) : PM Val := do
  let fields ← parseItems fuel ctx items
  let (children, comments) ←
    if hasTagged then parseTagged fuel ctx arms isBlock (arms.map fun _ => []) []
    else pure ([], [])
  let _ ← (arms.zip children).foldlM (fun (_ : Unit) (ac : Arm × List Val) =>
    if ac.1.required ∧ ac.2.isEmpty then
      (if ac.1.repeat_ then errorOrLog .invalidMultiplicityNotPresent else fail .invalidMultiplicityNotPresent)
    else pure ()) ()
  if isBlock then do
    let _ ← expectToken ctx 2
    let endOff ← getLineOffset
    let ident ← getIdentifier ctx
    if ident ≠ ctx.element then errorOrLog .incorrectEndTag
    pure (.block ty ⟨ctx.line, uid, startOff, endOff, ctx.fileid⟩ fields children comments)
  else
    pure (.block ty ⟨ctx.line, uid, startOff, 0, ctx.fileid⟩ fields children comments)

theorem parseType_block_unfold (fuel ty : Nat) (ctx : Ctx) (startOff : Nat) (e : Env) (s : PState) {isB : Bool}
    {items : List ItemTy} {arms : List Arm} {ht : Bool} (hl : e.table.lookup ty = some (.block isB items arms ht)) :
    parseType (fuel + 1) ty ctx startOff e s =
      typeBody fuel ty ctx startOff isB items arms ht (s.seqId + 1) e { s with seqId := s.seqId + 1 } := by
  rw [parseType]
  simp only [getEnv_bind, hl, getNextId_bind]
  rfl

mutual
/-- parser fuel that certainly suffices to read an element / a list of items back -/
def OT.need (ind : Nat) : OT → Nat
  | .node _ _ _ _ _ _ fields items => max (fieldsNeed (ind + 1) fields) (OT.needL (ind + 1) items) + 2
  | .cmt _ _ => 0
def OT.needL (ind : Nat) : List OT → Nat
  | [] => 1
  | x :: xs => max (x.need ind) (OT.needL ind xs) + 1
end

/-- fuel for a list of items: one unit for the turn of the loop, the rest for the first item and for the others -/
theorem OT.needL_cons_le {ind : Nat} {x : OT} {xs : List OT} {fuel : Nat} (h : OT.needL ind (x :: xs) ≤ fuel) :
    ∃ f, fuel = f + 1 ∧ x.need ind ≤ f ∧ OT.needL ind xs ≤ f := by
  rw [OT.needL] at h
  obtain ⟨f, rfl, h'⟩ := fuel_add h
  exact ⟨f, rfl, Nat.le_trans (Nat.le_max_left _ _) h', Nat.le_trans (Nat.le_max_right _ _) h'⟩

/-- the tagged loop reads the items `xs` (and stops in front of `tail`) -/
def ItemsGoal (c : RCfg) (all : List WTok) (ctx : Ctx) (ind : Nat) (arms : List Arm) (pib : Bool) (tail : List WTok)
    (xs : List OT) : Prop :=
  ∀ (P : List OT) (pre : List WTok) (s : PState) (ch : List (List Val)) (sub : List (List (List OT))) (cm : List Cmt)
    (R : List GE), OT.okL c ind arms pib xs tail → MultOk c.e.strict arms (P ++ xs) →
    LoopInv c arms P ch sub cm R s.seqId → all = pre ++ (OT.toksL ind xs ++ tail) → s.pos = pre.length → s.ver = c.ver →
    ∀ fuel, OT.needL ind xs ≤ fuel → ∃ ch' sub' cm' R' s',
      parseTagged fuel ctx arms pib ch cm c.e s = .ok (ch', cm'.reverse) s' ∧ Adv s s' (OT.toksL ind xs).length ∧
      LoopInv c arms (P ++ xs) ch' sub' cm' R' s'.seqId

/-- `T::parse` reads the parameters, sub-elements and end tag of the element `o` -/
def BodyGoal (c : RCfg) (all : List WTok) (ind : Nat) (parms : List Arm) (pib : Bool) : OT → Prop
  | .node arm tag blk ty so eo fields items =>
    ∀ (ctx : Ctx) (startOff : Nat) (pre rest : List WTok) (s : PState),
      OT.ok c ind parms pib (.node arm tag blk ty so eo fields items) rest →
      all = pre ++ ((OT.node arm tag blk ty so eo fields items).bodyToks ind ++ rest) → s.pos = pre.length →
      s.ver = c.ver → (blk = true → ctx.element = tag) → ctx.fileid = 0 →
      ∀ fuel, (OT.node arm tag blk ty so eo fields items).need ind ≤ fuel → ∃ fields' ch' cm' s',
        parseType fuel ty ctx startOff c.e s =
          .ok (.block ty ⟨ctx.line, s.seqId + 1, startOff, eo, 0⟩ fields' ch' cm') s' ∧
        Adv s s' ((OT.node arm tag blk ty so eo fields items).bodyToks ind).length ∧ s.seqId + 1 ≤ s'.seqId ∧
        fields'.map normField = fields ∧
        Canon c.e (.block ty ⟨ctx.line, s.seqId + 1, startOff, eo, 0⟩ fields' ch' cm') items ∧
        InOrder c.e (.block ty ⟨ctx.line, s.seqId + 1, startOff, eo, 0⟩ fields' ch' cm') items
  | .cmt _ _ => True

section
variable (c : RCfg) {all : List WTok} (hT : Toks c.e c.lx all) (hne : all ≠ [])
include hT hne

theorem items_nil (ctx : Ctx) (ind : Nat) (arms : List Arm) (pib : Bool) (tail : List WTok)
    (htail : tail = [] ∨ ∃ w r, tail = w :: r ∧ w.ty = 2) : ItemsGoal c all ctx ind arms pib tail [] := by
  intro P pre s ch sub cm R _ _ hinv hs hp _ fuel hf
  obtain ⟨f, rfl⟩ : ∃ f, fuel = f + 1 := ⟨fuel - 1, (Nat.sub_add_cancel hf).symm⟩
  simp only [OT.toksL, List.nil_append] at hs
  obtain ⟨s', h1, a1⟩ := nextTag_none hT ctx hs hne htail s hp
  refine ⟨ch, sub, cm, R, s', ?_, a1, ?_⟩
  · rw [parseTagged, bind_def, h1]; rfl
  · rw [List.append_nil]; exact hinv.mono a1.seq

omit hne in
theorem items_cmt (ctx : Ctx) (ind : Nat) (arms : List Arm) (pib : Bool) (tail : List WTok)
    (hpt : pib = true → tail ≠ []) (text : List Char) (off : Nat) (xs : List OT)
    (ih : ItemsGoal c all ctx ind arms pib tail xs) :
    ItemsGoal c all ctx ind arms pib tail (.cmt text off :: xs) := by
  intro P pre s ch sub cm R hok hmult hinv hs hp hv fuel hf
  obtain ⟨hpib, hokr⟩ := hok
  simp only [OT.ok] at hpib
  simp only [OT.toksL, OT.toks, List.cons_append, List.nil_append] at hs
  have hr : OT.toksL ind xs ++ tail ≠ [] := by
    intro h; exact hpt hpib (List.append_eq_nil_iff.1 h).2
  obtain ⟨l, h1⟩ := nextTag_comment hT ctx hs hr s hp
  have hinv' := hinv.cmtStep text ctx.line off
  obtain ⟨f, rfl, -, hf2⟩ := OT.needL_cons_le hf
  obtain ⟨ch', sub', cm', R', s', h2, a2, i2⟩ := ih (P ++ [.cmt text off]) (pre ++ [⟨6, text, off, ind⟩])
    { s with pos := s.pos + 1, seqId := s.seqId + 1 } ch sub _ _ hokr
    (by rw [List.append_assoc]; exact hmult) hinv' (by rw [hs, List.append_assoc]; rfl)
    (by rw [List.length_append, ← hp]; rfl) hv f hf2
  rw [List.append_assoc] at i2
  refine ⟨ch', sub', cm', R', s', ?_, ⟨?_, Nat.le_trans (Nat.le_succ _) a2.seq, a2.ver⟩, i2⟩
  · rw [parseTagged, bind_def, h1]
    simp only [hpib, if_true, getNextId_bind, WTok.toPTok_text]
    rw [hpib] at h2
    exact h2
  · show s'.pos = s.pos + ((OT.toksL ind xs).length + 1)
    rw [a2.pos, Nat.add_assoc, Nat.add_comm 1]

omit hne in
theorem items_node (ctx : Ctx) (ind : Nat) (arms : List Arm) (pib : Bool) (tail : List WTok)
    (i : Nat) (tag : List Char) (blk : Bool) (ty so eo : Nat) (fields : List Val) (its : List OT) (xs : List OT)
    (ihb : BodyGoal c all ind arms pib (.node i tag blk ty so eo fields its))
    (ih : ItemsGoal c all ctx ind arms pib tail xs) :
    ItemsGoal c all ctx ind arms pib tail (.node i tag blk ty so eo fields its :: xs) := by
  intro P pre s ch sub cm R hok hmult hinv hs hp hv fuel hf
  obtain ⟨f, rfl, hf1, hf2⟩ := OT.needL_cons_le hf
  obtain ⟨hokx, hokr⟩ := hok
  have hokx' := hokx
  simp only [OT.ok] at hokx'
  obtain ⟨a, cits, carms, cht, harm, hty, htag, hblk, hl, hver, hkw, hid, hidx, hnorm, -⟩ := hokx'
  have htoks : (OT.node i tag blk ty so eo fields its).toks ind =
      headToks ind tag blk so ++ (OT.node i tag blk ty so eo fields its).bodyToks ind := by
    simp only [OT.toks, OT.bodyToks]
  simp only [OT.toksL] at hs ⊢
  rw [htoks] at hs ⊢
  simp only [List.append_assoc] at hs
  have hrest : blk = false → (OT.node i tag blk ty so eo fields its).bodyToks ind ++ (OT.toksL ind xs ++ tail) ≠ [] := by
    intro hb h
    exact (hkw hb).2.1 (List.append_eq_nil_iff.1 h).2
  obtain ⟨tok, ⟨s1, h1, a1⟩, htext, hfid, hsym⟩ := nextTag_head hT ctx ind tag blk so hs hrest s hp
  -- multiplicity: a non-repeating arm is still empty
  have hempty : a.repeat_ = false → ∀ cs, ch[i]? = some cs → cs = [] := by
    intro hrep cs hcs
    have h1 := (hmult i a harm).1 hrep
    have h2 := hinv.cnt i cs hcs
    rw [List.filter_append, List.length_append, List.filter_cons] at h1
    simp only [OT.isArm, beq_self_eq_true, if_true, List.length_cons] at h1
    rw [← h2] at h1
    exact List.eq_nil_of_length_eq_zero
      (Nat.eq_zero_of_le_zero (Nat.le_trans (Nat.le_add_right _ _) (Nat.le_of_succ_le_succ h1)))
  obtain ⟨s2, a2, h2⟩ := parseTagged_child (pib := pib) (cm := cm) f h1 (by rw [hsym]; exact hidx) harm hblk.symm
    (by rw [a1.ver, hv]; exact hver) hempty
  obtain ⟨fields', ch1, cm1, s3, h3, a3, q3, hn3, hc3, ho3⟩ := ihb ⟨tok.text, tok.fileid, tok.line⟩ so
    (pre ++ headToks ind tag blk so) (OT.toksL ind xs ++ tail) s2
    hokx (by rw [hs, List.append_assoc]) (by rw [(a1.trans a2).pos, hp, List.length_append]; rfl)
    (by rw [(a1.trans a2).ver, hv]) (fun _ => htext) hfid f hf1
  have a13 := (a1.trans a2).trans a3
  have hinv' := hinv.childStep (q' := s3.seqId) harm hc3 ho3
    (by show s.seqId < s2.seqId + 1; exact Nat.lt_succ_of_le (a1.trans a2).seq) (by show s2.seqId + 1 ≤ s3.seqId; exact q3)
  rw [hn3, ← htag, ← hblk] at hinv'
  obtain ⟨ch', sub', cm', R', s', h4, a4, i4⟩ := ih (P ++ [.node i tag blk ty so eo fields its])
    (pre ++ (headToks ind tag blk so ++ (OT.node i tag blk ty so eo fields its).bodyToks ind)) s3 _ _ cm _ hokr
    (by rw [List.append_assoc]; exact hmult) hinv' (by rw [hs, List.append_assoc, List.append_assoc])
    (by rw [a13.pos, hp, List.length_append, List.length_append, Nat.add_zero])
    (a13.ver.trans hv) f hf2
  rw [List.append_assoc] at i4
  refine ⟨ch', sub', cm', R', s', ?_, (a13.trans a4).cast (by rw [Nat.add_zero, List.length_append, List.length_append]), i4⟩
  rw [h2 _ _ (by rw [hty]; exact h3)]
  exact h4

omit hne in
/-- `T::parse` behind the parameters (`e1`) and the tagged part (`e2`): the multiplicity checks pass, a block ends with
    `/end TAG`, a keyword with its content -/
theorem typeBody_runs {fuel ty : Nat} {ctx : Ctx} {startOff uid : Nat} {blk cht : Bool} {cits : List ItemTy}
    {carms : List Arm} {s s1 s2 : PState} {fields : List Val} {ch : List (List Val)} {cm : List Cmt} {n1 n2 : Nat}
    (e1 : parseItems fuel ctx cits c.e s = .ok fields s1) (a1 : Adv s s1 n1)
    (e2 : (if cht then parseTagged fuel ctx carms blk (carms.map fun _ => []) [] else pure ([], [])) c.e s1 = .ok (ch, cm) s2)
    (a2 : Adv s1 s2 n2)
    (hreq : ∀ z ∈ carms.zip ch, z.1.required = true → z.2.isEmpty = true → z.1.repeat_ = true ∧ c.e.strict = false)
    (hfid : ctx.fileid = 0) (ind : Nat) (tag : List Char) (eo : Nat) {pre rest : List WTok}
    (hs : all = pre ++ (closeToks ind tag blk eo ++ rest)) (hp : s2.pos = pre.length)
    (hb : blk = true → IdentOk c.e.strict tag ∧ ctx.element = tag) (hk : blk = false → eo = 0) :
    Runs (typeBody fuel ty ctx startOff blk cits carms cht uid) c.e s
      (.block ty ⟨ctx.line, uid, startOff, eo, 0⟩ fields ch cm) (n1 + (n2 + (closeToks ind tag blk eo).length)) := by
  unfold typeBody
  refine Runs.bindAt e1 a1 ?_ rfl
  dsimp only
  rw [ite_bind_eq]
  refine Runs.bindAt e2 a2 ?_ rfl
  dsimp only
  refine Runs.bind' (multCheck_runs c.e _ s2 hreq) (fun s3 a3 => ?_) (Nat.zero_add _)
  have hp3 : s3.pos = pre.length := by rw [a3.pos, hp]; rfl
  simp only [hfid]
  cases blk with
  | false => rw [hk rfl]; exact Runs.pure _ _ _
  | true =>
    obtain ⟨hid, hel⟩ := hb rfl
    simp only [closeToks, if_true, List.cons_append, List.nil_append] at hs ⊢
    have hs2 : all = (pre ++ [⟨2, endText, eo, ind⟩]) ++ (⟨0, tag, 0, ind⟩ : WTok) :: rest := by rw [hs]; simp
    refine Runs.bind' (Runs.expect hT hs ctx 2 rfl (by decide) s3 hp3) (fun s4 a4 => ?_) (k := 1) rfl
    refine Runs.bind' (Runs.lineOff hT hs (List.cons_ne_nil _ _) s4 (by rw [a4.pos, hp3])) (fun s5 a5 => ?_) (Nat.zero_add 1)
    refine Runs.bind' (Runs.getIdentifier hT hs2 ctx rfl hid s5 (by rw [a5.pos, a4.pos, hp3]; simp)) (fun s6 a6 => ?_)
      (Nat.add_zero 1)
    rw [if_neg (by simp [hel])]
    exact Runs.pure _ _ _

omit hne in
theorem body_node (ind : Nat) (parms : List Arm) (pib : Bool) (arm : Nat) (tag : List Char) (blk : Bool)
    (ty so eo : Nat) (fields : List Val) (items : List OT)
    (ih : ∀ (ctx : Ctx) (carms : List Arm) (tail : List WTok), (∃ w r, tail = w :: r ∧ w.ty = 2) →
      ItemsGoal c all ctx (ind + 1) carms true tail items) :
    BodyGoal c all ind parms pib (.node arm tag blk ty so eo fields items) := by
  intro ctx startOff pre rest s hok hs hp hv hel hfid fuel hf
  rw [OT.need] at hf
  obtain ⟨f, rfl, hf'⟩ := fuel_add (k := 1) hf
  simp only [OT.ok] at hok
  obtain ⟨a, cits, carms, cht, -, -, -, -, hl, -, hkw, hid, -, -, hfields, hht, hokits, hmult, hps⟩ := hok
  simp only [OT.bodyToks, List.append_assoc] at hs ⊢
  have hrest : OT.toksL (ind + 1) items ++ (closeToks ind tag blk eo ++ rest) ≠ [] := by
    cases hb : blk with
    | true => exact List.append_ne_nil_of_right_ne_nil _ (List.cons_ne_nil _ _)
    | false => exact List.append_ne_nil_of_right_ne_nil _ (List.append_ne_nil_of_right_ne_nil _ (hkw hb).2.1)
  obtain ⟨fields', ⟨s1, e1, a1⟩, hn1⟩ := parseFields c hT ctx (ind + 1) _ cits fields f hfields
    (Nat.le_trans (Nat.le_max_left _ _) (Nat.le_of_succ_le hf')) hrest pre { s with seqId := s.seqId + 1 } hs hp hv
  have hshape : ∀ f ∈ fields', FieldShape f := shape_of_norm hn1 (fieldsOk_shape c (ind + 1) cits fields _ hfields)
  obtain ⟨ch', cm', s2, e2, a2, hreq, hco⟩ : ∃ ch' cm' s2,
      (if cht then parseTagged f ctx carms blk (carms.map fun _ => []) [] else pure ([], [])) c.e s1 = .ok (ch', cm') s2 ∧
      Adv s1 s2 (OT.toksL (ind + 1) items).length ∧
      (∀ z ∈ carms.zip ch', z.1.required = true → z.2.isEmpty = true → z.1.repeat_ = true ∧ c.e.strict = false) ∧
      ∀ info : Info, info.fileid = 0 → Canon c.e (.block ty info fields' ch' cm') items ∧
        InOrder c.e (.block ty info fields' ch' cm') items := by
    cases cht with
    | false =>
      rw [hht rfl]
      exact ⟨[], [], s1, rfl, Adv.refl s1, fun z hz => by simp at hz,
        fun info hi => ⟨Canon.leaf hl info hshape, InOrder.leaf hl hi _⟩⟩
    | true =>
      have hb : blk = true := by
        cases hb : blk with
        | true => rfl
        | false => exact (hkw hb).2.2.symm
      subst hb
      obtain ⟨ch', sub', cm', R', s2, h2, a2, inv2⟩ := ih ctx carms (closeToks ind tag true eo ++ rest)
        ⟨⟨2, endText, eo, ind⟩, ⟨0, tag, 0, ind⟩ :: rest, rfl, rfl⟩ [] (pre ++ fieldsToks (ind + 1) fields) s1 _ _ [] []
        hokits hmult (LoopInv.init c carms s1.seqId) (by rw [hs, List.append_assoc])
        (by rw [a1.pos, List.length_append, ← hp]) (a1.ver.trans hv) f
        (Nat.le_trans (Nat.le_max_right _ _) (Nat.le_of_succ_le hf'))
      rw [List.nil_append] at inv2
      exact ⟨ch', cm'.reverse, s2, h2, a2, inv2.required hmult,
        fun info hi => ⟨inv2.toCanon hl hps info _ hshape, inv2.toInOrder hl info hi _⟩⟩
  obtain ⟨s', h1, a'⟩ := typeBody_runs c hT (ty := ty) (startOff := startOff) (uid := s.seqId + 1) e1 a1 e2 a2 hreq hfid
    ind tag eo (pre := pre ++ fieldsToks (ind + 1) fields ++ OT.toksL (ind + 1) items) (rest := rest)
    (by rw [hs, List.append_assoc, List.append_assoc])
    (by rw [a2.pos, a1.pos, List.length_append, List.length_append]; exact congrArg (· + _ + _) hp)
    (fun hb => ⟨hid, hel hb⟩) (fun hb => (hkw hb).1)
  obtain ⟨hc, ho⟩ := hco ⟨ctx.line, s.seqId + 1, startOff, eo, 0⟩ rfl
  exact ⟨fields', ch', cm', s', by rw [parseType_block_unfold f ty ctx startOff c.e s hl]; exact h1,
    ⟨by rw [a'.pos]; simp only [List.length_append], Nat.le_trans (Nat.le_succ _) a'.seq, a'.ver⟩, a'.seq, hn1, hc, ho⟩

mutual
/-- **an element of a written file is read back** -/
theorem reparse_body : ∀ (o : OT) (ind : Nat) (parms : List Arm) (pib : Bool), BodyGoal c all ind parms pib o
  | .node arm tag blk ty so eo fields items, ind, parms, pib =>
    body_node c hT ind parms pib arm tag blk ty so eo fields items (fun ctx carms tail htail =>
      reparse_items items ctx (ind + 1) carms true tail (.inr htail)
        (fun _ => by obtain ⟨w, r, h, _⟩ := htail; rw [h]; exact List.cons_ne_nil _ _))
  | .cmt _ _, _, _, _ => trivial
/-- **the items of a written tagged part are read back**, in order -/
theorem reparse_items : ∀ (xs : List OT) (ctx : Ctx) (ind : Nat) (arms : List Arm) (pib : Bool) (tail : List WTok),
    (tail = [] ∨ ∃ w r, tail = w :: r ∧ w.ty = 2) → (pib = true → tail ≠ []) →
    ItemsGoal c all ctx ind arms pib tail xs
  | [], ctx, ind, arms, pib, tail, htail, _ => items_nil c hT hne ctx ind arms pib tail htail
  | .cmt text off :: xs, ctx, ind, arms, pib, tail, htail, hpt =>
    items_cmt c hT ctx ind arms pib tail hpt text off xs (reparse_items xs ctx ind arms pib tail htail hpt)
  | .node i tag blk ty so eo fields its :: xs, ctx, ind, arms, pib, tail, htail, hpt =>
    items_node c hT ctx ind arms pib tail i tag blk ty so eo fields its xs
      (reparse_body (.node i tag blk ty so eo fields its) ind arms pib)
      (reparse_items xs ctx ind arms pib tail htail hpt)
end

/-- **the root element** (a keyword without parameters whose tagged part runs to the end of the file) is read back -/
theorem root_parse (ty : Nat) (rarms : List Arm) (items : List OT)
    (hl : c.e.table.lookup ty = some (.block false [] rarms true))
    (hok : OT.okL c 0 rarms false items []) (hmult : MultOk c.e.strict rarms items) (hps : PosSorted c.e.code items)
    (hall : all = OT.toksL 0 items) (ctx : Ctx) (hfid : ctx.fileid = 0) (s : PState) (hp : s.pos = 0) (hv : s.ver = c.ver)
    (fuel : Nat) (hf : OT.needL 0 items + 2 ≤ fuel) :
    ∃ ch' cm' s', parseType fuel ty ctx 0 c.e s = .ok (.block ty ⟨ctx.line, s.seqId + 1, 0, 0, 0⟩ [] ch' cm') s' ∧
      s'.pos = all.length ∧ s'.ver = c.ver ∧ Canon c.e (.block ty ⟨ctx.line, s.seqId + 1, 0, 0, 0⟩ [] ch' cm') items ∧
      InOrder c.e (.block ty ⟨ctx.line, s.seqId + 1, 0, 0, 0⟩ [] ch' cm') items := by
  obtain ⟨f, rfl, hf'⟩ := fuel_add (k := 2) hf
  obtain ⟨ch', sub', cm', R', s2, h2, a2, inv2⟩ := reparse_items c hT hne items ctx 0 rarms false [] (.inl rfl)
    nofun [] [] { s with seqId := s.seqId + 1 } _ _ [] [] hok hmult
    (LoopInv.init c rarms (s.seqId + 1)) (by rw [hall, List.append_nil]; rfl) hp hv (f + 1) (Nat.le_succ_of_le hf')
  rw [List.nil_append] at inv2
  obtain ⟨s', h1, a'⟩ := typeBody_runs c hT (fuel := f + 1) (ty := ty) (startOff := 0) (uid := s.seqId + 1) (blk := false)
    (cht := true) (cits := []) (s := { s with seqId := s.seqId + 1 }) (by rw [parseItems]; rfl) (Adv.refl _) h2 a2
    (inv2.required hmult) hfid 0 [] 0 (pre := all) (rest := []) (by simp [closeToks])
    (by rw [a2.pos, hall]; show s.pos + _ = _; rw [hp, Nat.zero_add]) nofun (fun _ => rfl)
  refine ⟨ch', cm'.reverse, s', by rw [parseType_block_unfold (f + 1) ty ctx 0 c.e s hl]; exact h1, ?_, a'.ver.trans hv,
    inv2.toCanon hl hps _ _ (fun f hf => nomatch hf), inv2.toInOrder hl _ rfl _⟩
  rw [a'.pos, hall]; show s.pos + _ = _; rw [hp]; simp [closeToks]

end

end A2l.Tree
