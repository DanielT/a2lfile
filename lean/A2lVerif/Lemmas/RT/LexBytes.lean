import A2lVerif.Lemmas.Lex
/-! # C01: the tokenizer's scanning loops, and one iteration of its main loop, on a text whose bytes are known

The text `m` that the iteration is to consume stands at the scan position: `matchAt b s.bytepos m`; what follows it is the byte
`b[s.bytepos + m.length]?`, what stands in front of it `prevByte`. -/
namespace A2l.Lex

theorem matchAt_cons {b : Bytes} {pos : Nat} {c : UInt8} {cs : List UInt8} :
    matchAt b pos (c :: cs) = true ↔ b[pos]? = some c ∧ matchAt b (pos + 1) cs = true := by
  rw [matchAt, Bool.and_eq_true, beq_iff_eq]

theorem matchAt_append {b : Bytes} : ∀ {l l' : List UInt8} {pos : Nat},
    matchAt b pos (l ++ l') = true ↔ matchAt b pos l = true ∧ matchAt b (pos + l.length) l' = true
  | [], _, _ => ⟨fun h => ⟨rfl, h⟩, fun h => h.2⟩
  | c :: l, l', pos => by
    rw [List.cons_append, matchAt_cons, matchAt_cons, matchAt_append (l := l), List.length_cons, Nat.add_comm l.length,
      Nat.add_assoc, and_assoc]

theorem get_of_get? {b : Bytes} {i : Nat} {c : UInt8} (h : b[i]? = some c) (hi : i < b.size) : b[i] = c := by
  rw [Array.getElem?_eq_getElem hi] at h; exact Option.some.inj h

theorem matchAt_toArray : ∀ (m pre : List UInt8), matchAt (pre ++ m).toArray pre.length m = true
  | [], _ => rfl
  | c :: cs, pre => by
    have := matchAt_toArray cs (pre ++ [c])
    rw [List.length_append, List.append_assoc] at this
    exact matchAt_cons.2 ⟨by simp, this⟩

theorem extract_matchAt {b : Bytes} {p : Nat} {m : List UInt8} (h : matchAt b p m = true) (hp : p ≤ b.size) :
    b.extract p (p + m.length) = m.toArray := by
  refine Array.ext_getElem? fun i => ?_
  rw [Array.getElem?_extract, Nat.min_eq_left (matchAt_len b p m hp h), Nat.add_sub_cancel_left]
  split
  · rename_i hi; rw [matchAt_getElem? h i hi]; simp [hi]
  · rename_i hi; simp [Nat.le_of_not_lt hi]

theorem countNewlines_matchAt {b : Bytes} {p : Nat} {m : List UInt8} (h : matchAt b p m = true) (hp : p ≤ b.size) :
    countNewlines b p (p + m.length) = .ok (nlB m) := by
  rw [countNewlines_eq (Nat.le_add_right _ _) (matchAt_len b p m hp h), nlCount_eq_nlB, extract_matchAt h hp]

theorem slice_matchAt {b : Bytes} {p : Nat} {m : List UInt8} (h : matchAt b p m = true) (hp : p ≤ b.size) :
    slice b p (p + m.length) = .ok m.toArray := by
  rw [slice, if_pos ⟨Nat.le_add_right _ _, matchAt_len b p m hp h⟩, extract_matchAt h hp]

/-- a condition on the byte `next` behind a text, if there is one, read at its position -/
theorem stop_of {next x : Option UInt8} {P : UInt8 → Prop} (h : match next with | none => True | some c => P c)
    (hx : x = next) (c : UInt8) (hc : x = some c) : P c := by
  subst hx; rw [hc] at h; exact h

theorem skipWhile_matchAt {b : Bytes} (p : UInt8 → Bool) {l : List UInt8} {pos : Nat} (hm : matchAt b pos l = true)
    (hall : ∀ c ∈ l, p c = true) (hstop : ∀ c, b[pos + l.length]? = some c → p c = false) :
    skipWhile b p pos = pos + l.length := by
  refine skipWhile_eq ⟨Nat.le_add_right _ _, fun q h1 h2 => ?_, ?_⟩
  · obtain ⟨i, rfl⟩ := Nat.exists_eq_add_of_le h1
    have hi := Nat.lt_of_add_lt_add_left h2
    exact ⟨l[i], matchAt_getElem? hm i hi, hall _ (List.getElem_mem hi)⟩
  · cases hc : b[pos + l.length]? with
    | none => exact .inl (Array.getElem?_eq_none_iff.1 hc)
    | some c => exact .inr ⟨c, rfl, hstop c hc⟩

/-- the body of a written string literal (bytes): plain bytes other than quote, backslash and newline, or a backslash
    followed by one byte other than newline -/
inductive StrBody : List UInt8 → Prop
  | nil : StrBody []
  | plain (c : UInt8) (rest : List UInt8) (h : c ≠ 34 ∧ c ≠ 92 ∧ c ≠ 10) : StrBody rest → StrBody (c :: rest)
  | esc (x : UInt8) (rest : List UInt8) (h : x ≠ 10) : StrBody rest → StrBody (92 :: x :: rest)

theorem StrBody.nlB_zero {l : List UInt8} (h : StrBody l) : nlB l = 0 := by
  induction h with
  | nil => rfl
  | plain c rest hc _ ih => simp [nlB_cons, hc.2.2, ih]
  | esc x rest hx _ ih => simp [nlB_cons, hx, ih]

/-- `find_string_end`'s loop: whatever byte follows a backslash, it is passed over -/
theorem stringLoop_escaped {b : Bytes} {pos : Nat} (hlt : pos < b.size) :
    stringLoop b pos false false true = stringLoop b (pos + 1) false false false := by
  rw [stringLoop, dif_pos ⟨hlt, rfl⟩]
  by_cases h34 : b[pos] = 34
  · rw [if_pos (by rw [h34]; rfl)]; rfl
  · rw [if_neg (mt beq_iff_eq.1 h34), if_neg Bool.false_ne_true]
    by_cases h92 : b[pos] = 92
    · rw [if_pos (by rw [h92]; rfl), if_pos rfl]
    · rw [if_neg (mt beq_iff_eq.1 h92)]

/-- `find_string_end`'s loop runs over the body of a string literal without leaving the "inside" state -/
theorem stringLoop_body {b : Bytes} {body : List UInt8} (hbody : StrBody body) : ∀ (pos : Nat),
    matchAt b pos body = true →
      stringLoop b pos false false false = stringLoop b (pos + body.length) false false false := by
  induction hbody with
  | nil => intro pos _; rfl
  | plain c rest hc _ ih =>
    intro pos h
    obtain ⟨h0, h⟩ := matchAt_cons.1 h
    have hlt := getElem?_some_lt h0
    rw [stringLoop, dif_pos ⟨hlt, rfl⟩, get_of_get? h0 hlt, if_neg (mt beq_iff_eq.1 hc.1), if_neg Bool.false_ne_true,
      if_neg (mt beq_iff_eq.1 hc.2.1), ih _ h, List.length_cons, Nat.add_assoc, Nat.add_comm 1]
  | esc x rest _ _ ih =>
    intro pos h
    obtain ⟨h0, h⟩ := matchAt_cons.1 h
    obtain ⟨h1, h⟩ := matchAt_cons.1 h
    have hlt := getElem?_some_lt h0
    rw [stringLoop, dif_pos ⟨hlt, rfl⟩, get_of_get? h0 hlt, if_neg (by decide), if_neg Bool.false_ne_true,
      if_pos (by decide), if_neg Bool.false_ne_true, stringLoop_escaped (getElem?_some_lt h1), ih _ h,
      List.length_cons, List.length_cons, show pos + 1 + 1 + rest.length = pos + (rest.length + 1 + 1) by omega]

/-- `find_string_end`, called behind the opening quote of a written string literal that is not followed by a quote -/
theorem findStringEnd_body {b : Bytes} {body : List UInt8} (hbody : StrBody body) (pos : Nat)
    (hm : matchAt b pos (body ++ [34]) = true) (hstop : ∀ c, b[pos + body.length + 1]? = some c → c ≠ 34) :
    findStringEnd b pos = .ok (pos + body.length + 1) := by
  obtain ⟨hm1, hm2⟩ := matchAt_append.1 hm
  have hq := (matchAt_cons.1 hm2).1
  have hqlt := getElem?_some_lt hq
  rw [findStringEnd, stringLoop_body hbody pos hm1, stringLoop, dif_pos ⟨hqlt, rfl⟩, get_of_get? hq hqlt,
    if_pos (by decide)]
  cases hc : b[pos + body.length + 1]? with
  | none =>
    -- the closing quote is the last byte of the text
    have hge : ¬ pos + body.length + 1 < b.size := fun h => by rw [Array.getElem?_eq_getElem h] at hc; cases hc
    rw [stringLoop, dif_neg (fun h => hge h.1)]
    exact (if_pos ⟨Nat.le_antisymm hqlt (Nat.le_of_not_lt hge), rfl⟩).trans (if_pos rfl)
  | some c =>
    have hlt := getElem?_some_lt hc
    rw [stringLoop, dif_pos ⟨hlt, rfl⟩, get_of_get? hc hlt, if_neg (mt beq_iff_eq.1 (hstop c hc)), if_pos (by decide), stringLoop,
      dif_neg (fun h' => Bool.noConfusion h'.2)]
    simp only [Bool.true_eq_false, and_false, if_false, Nat.add_sub_cancel, Nat.add_one_ne_zero]

theorem commentStart_run (b : Bytes) (p : Nat) (hstop : p = 0 ∨ ∃ c, b[p - 1]? = some c ∧ c ≠ 32) : ∀ (k : Nat),
    (∀ i, i < k → b[p + i]? = some 32) → commentStart b (p + k) = .ok p
  | 0, _ => by
    cases p with
    | zero => rfl
    | succ q =>
      rcases hstop with h | ⟨c, hc, hne⟩
      · cases h
      · rw [Nat.add_sub_cancel] at hc
        rw [Nat.add_zero, commentStart, hc]
        simp [hne]
  | k + 1, h => by
    rw [← Nat.add_assoc, commentStart, h k (Nat.lt_succ_self k)]
    simp only [beq_self_eq_true, if_true]
    exact commentStart_run b p hstop k (fun i hi => h i (Nat.lt_succ_of_lt hi))

def prevByte (b : Bytes) (p : Nat) : Option UInt8 := if p = 0 then none else b[p - 1]?

theorem prevByte_stop {b : Bytes} {p : Nat} (hp : p ≤ b.size) (h : prevByte b p ≠ some 32) :
    p = 0 ∨ ∃ c, b[p - 1]? = some c ∧ c ≠ 32 := by
  unfold prevByte at h
  by_cases h0 : p = 0
  · exact .inl h0
  · rw [if_neg h0, Array.getElem?_eq_getElem (by omega)] at h
    exact .inr ⟨_, Array.getElem?_eq_getElem (by omega), fun e => h (by rw [e])⟩

theorem prevByte_add {b : Bytes} {p : Nat} {m : List UInt8} (hm : matchAt b p m = true) (hne : m ≠ []) :
    prevByte b (p + m.length) = m.getLast? := by
  have hpos := List.length_pos_iff.2 hne
  rw [prevByte, if_neg (by omega), Nat.add_sub_assoc hpos, matchAt_getElem? hm _ (Nat.sub_lt hpos Nat.one_pos),
    List.getLast?_eq_getElem?, List.getElem?_eq_getElem]

/-- the bytes of a block comment: `/*`, then no `*/` before the final one -/
structure BlockCore (core : List UInt8) : Prop where
  len : 4 ≤ core.length
  h0 : core[0]? = some 47
  h1 : core[1]? = some 42
  hend : core[core.length - 2]? = some 42 ∧ core[core.length - 1]? = some 47
  hfirst : ∀ j, 3 ≤ j → j < core.length - 1 → ¬ (core[j - 1]? = some 42 ∧ core[j]? = some 47)

/-- what follows the `/*` of a block comment: the first `*/` is at the very end. `star` = the byte in front is a `*`
    that may belong to the closing `*/` (the `*` of the opening `/*` may not). -/
inductive CmtTail : Bool → List UInt8 → Prop
  | stop : CmtTail true [47]
  | step (star : Bool) (c : UInt8) (rest : List UInt8) : ¬ (star = true ∧ c = 47) → CmtTail (c == 42) rest →
      CmtTail star (c :: rest)

theorem BlockCore.tailFrom {core : List UInt8} (h : BlockCore core) : ∀ (d j : Nat) (star : Bool),
    j + d + 1 = core.length → 2 ≤ j → (star = true ↔ 3 ≤ j ∧ core[j - 1]? = some 42) → CmtTail star (core.drop j)
  | 0, j, star, hj, _, hs => by
    have hlt : j < core.length := hj ▸ Nat.lt_succ_self j
    have h3 : 3 ≤ j := by have := h.len; rw [← hj] at this; exact Nat.le_of_succ_le_succ this
    have hend := h.hend
    rw [← hj] at hend
    have hx : core[j]? = some 47 := hend.2
    rw [List.getElem?_eq_getElem hlt] at hx
    rw [List.drop_eq_getElem_cons hlt, Option.some.inj hx, hs.2 ⟨h3, hend.1⟩, List.drop_eq_nil_of_le (Nat.le_of_eq hj.symm)]
    exact .stop
  | d + 1, j, star, hj, h2, hs => by
    have hlt : j < core.length := hj ▸ Nat.lt_succ_of_le (Nat.le_add_right j (d + 1))
    have hget : core[j]? = some core[j] := List.getElem?_eq_getElem hlt
    rw [List.drop_eq_getElem_cons hlt]
    refine .step _ _ _ (fun hc => ?_) (h.tailFrom d (j + 1) _ (by rw [Nat.add_right_comm j 1 d]; exact hj)
      (Nat.le_succ_of_le h2) ?_)
    · exact h.hfirst j (hs.1 hc.1).1 (by rw [← hj]; exact Nat.lt_add_of_pos_right (Nat.succ_pos d))
        ⟨(hs.1 hc.1).2, by rw [hget, hc.2]⟩
    · rw [Nat.add_sub_cancel, hget, beq_iff_eq, Option.some.injEq]
      exact ⟨fun e => ⟨Nat.succ_le_succ h2, e⟩, fun e => e.2⟩

theorem BlockCore.tail {core : List UInt8} (h : BlockCore core) : ∃ rest, core = 47 :: 42 :: rest ∧ CmtTail false rest := by
  have hlen := h.len
  refine ⟨core.drop 2, ?_, h.tailFrom (core.length - 3) 2 false (by omega) (Nat.le_refl 2) (by simp)⟩
  have e0 := h.h0
  have e1 := h.h1
  rw [List.getElem?_eq_getElem (by omega)] at e0 e1
  rw [← Option.some.inj e0, ← Option.some.inj e1]
  conv => lhs; rw [← List.drop_zero (l := core)]
  rw [List.drop_eq_getElem_cons (by omega), List.drop_eq_getElem_cons (by omega)]

/-- the scan of `find_block_comment_end` stops at the last byte `e` of the comment; `p` = the byte in front of `pos` -/
theorem commentLoop_tail {b : Bytes} {star : Bool} {rest : List UInt8} (h : CmtTail star rest) : ∀ (pos : Nat) (p : UInt8)
    (e : Nat), b[pos - 1]? = some p → 1 ≤ pos → (p == 42) = star → matchAt b pos rest = true →
      pos + rest.length = e + 1 → commentLoop b pos = .ok e ∧ e < b.size := by
  induction h with
  | stop =>
    intro pos p e hp hpos hst hm he
    obtain rfl : pos = e := Nat.succ.inj he
    have h0 := (matchAt_cons.1 hm).1
    have hlt := getElem?_some_lt h0
    rw [commentLoop, dif_pos hlt, if_neg (Nat.ne_of_gt hpos), hp]
    simp only [hst, get_of_get? h0 hlt]
    exact ⟨rfl, hlt⟩
  | step star c rest hn _ ih =>
    intro pos p e hp hpos hst hm he
    obtain ⟨h0, hm⟩ := matchAt_cons.1 hm
    have hlt := getElem?_some_lt h0
    have hno : (p == 42 && b[pos] == 47) = false := by
      rw [hst, get_of_get? h0 hlt]
      cases hs : star with
      | false => rfl
      | true => exact beq_false_of_ne (fun e => hn ⟨hs, e⟩)
    rw [commentLoop, dif_pos hlt, if_neg (Nat.ne_of_gt hpos), hp]
    simp only [hno, Bool.false_eq_true, if_false]
    exact ih (pos + 1) c e h0 (Nat.succ_pos pos) rfl hm (by rw [Nat.add_right_comm]; exact he)

theorem findBlockCommentEnd_tail {b : Bytes} {rest : List UInt8} (h : CmtTail false rest) (pos : Nat)
    (hm : matchAt b pos rest = true) : findBlockCommentEnd b pos = .ok (pos + rest.length) := by
  cases h with
  | step _ c2 rest' _ h' =>
    obtain ⟨h2, hm⟩ := matchAt_cons.1 hm
    obtain ⟨hloop, hlt⟩ := commentLoop_tail h' (pos + 1) c2 (pos + rest'.length) h2 (Nat.succ_pos pos) rfl hm
      (Nat.add_right_comm pos 1 _)
    rw [findBlockCommentEnd, hloop]
    simp only []
    rw [if_neg (Nat.not_le_of_lt hlt)]
    rfl

/-- behind an `/include` token `step` reads a file path (`stepPath`) where it would read an identifier or a number -/
def NoInclude (s : State) : Prop := ∀ t, s.tokens.back? = some t → t.ttype ≠ .include

theorem NoInclude.pathStart {s : State} (h : NoInclude s) (c : UInt8) : pathStart s c = false := by
  unfold Lex.pathStart
  cases hb : s.tokens.back? with
  | none => rfl
  | some t => rw [Option.any_some, decide_eq_false (h t hb)]; rfl

theorem not_special_of_start {c : UInt8} (h : (isAlpha c || c == 95) = true ∨ (c == 45 || isNumChar c) = true) :
    isWs c = false ∧ c ≠ 47 ∧ c ≠ 34 := by
  refine ⟨?_, ?_, ?_⟩
  · cases hw : isWs c with
    | false => rfl
    | true =>
      simp only [isWs, Bool.or_eq_true, beq_iff_eq] at hw
      rcases hw with (((rfl | rfl) | rfl) | rfl) | rfl <;> revert h <;> decide
  · rintro rfl; revert h; decide
  · rintro rfl; revert h; decide

theorem step_of_slash {b : Bytes} {s : State} (hc : b[s.bytepos]? = some 47) (hlt : s.bytepos + 1 < b.size) :
    step b s = stepSlash b s := by
  rw [step_eq hc, if_neg (by decide), if_pos (by simpa using hlt)]

theorem step_ws {b : Bytes} {m : List UInt8} (s : State) (hm : matchAt b s.bytepos m = true) (hne : m ≠ [])
    (hall : ∀ c ∈ m, isWs c = true) (hstop : ∀ c, b[s.bytepos + m.length]? = some c → isWs c = false) :
    step b s = .cont { s with bytepos := s.bytepos + m.length, separated := true, line := s.line + nlB m } := by
  obtain ⟨c, cs, rfl⟩ := List.exists_cons_of_ne_nil hne
  have hc := (matchAt_cons.1 hm).1
  rw [step_eq hc, if_pos (hall c List.mem_cons_self), skipWhile_matchAt isWs hm hall hstop,
    countNewlines_matchAt hm (Nat.le_of_lt (getElem?_some_lt hc))]

theorem toArray_beq_false {l l' : List UInt8} (h : l ≠ l') : (l.toArray == l'.toArray) = false :=
  (List.beq_toArray l l').trans (beq_false_of_ne h)

/-- `handle_a2ml` does nothing behind an identifier that is not the tag of an A2ML block -/
theorem handleA2ml_noop {b : Bytes} {m : List UInt8} (line : Nat) (tokens : Array Token) (tok : Token)
    (hm : matchAt b tok.startpos m = true) (hs : tok.startpos ≤ b.size) (he : tok.endpos = tok.startpos + m.length)
    (hA : ∀ t2, tokens.back? = some t2 → t2.ttype = .begin → m ≠ tagA2ml.toList) :
    handleA2ml b tok.endpos line (tokens.push tok) = .ok (tok.endpos, line, tokens.push tok) := by
  rw [handleA2ml_push]
  by_cases hbeg : tokens.back?.any (fun t => t.ttype = .begin) = true
  · obtain ⟨t2, ht2, hty⟩ := (Option.any_eq_true _ _).1 hbeg
    have hne : (m.toArray == tagA2ml) = false :=
      beq_false_of_ne fun h => hA t2 ht2 (of_decide_eq_true hty) (by rw [← h])
    rw [if_pos hbeg, he, slice_matchAt hm hs]
    simp only [hne, Bool.false_eq_true, if_false, Nat.lt_irrefl, gt_iff_lt]
  · rw [if_neg hbeg]

theorem step_ident {b : Bytes} {m : List UInt8} (s : State) (hm : matchAt b s.bytepos m = true)
    (hsep : s.separated = true) (hni : NoInclude s)
    (hne : m ≠ []) (hall : ∀ c ∈ m, isIdentChar c = true)
    (hfirst : ∀ c cs, m = c :: cs → (isAlpha c || c == 95) = true)
    (hstop : ∀ c, b[s.bytepos + m.length]? = some c → isIdentChar c = false)
    (hA : ∀ t2, s.tokens.back? = some t2 → t2.ttype = .begin → m ≠ tagA2ml.toList) :
    step b s = .cont ⟨s.tokens.push ⟨.identifier, s.bytepos, s.bytepos + m.length, s.line⟩,
      s.bytepos + m.length, false, s.line⟩ := by
  obtain ⟨c, cs, hmc⟩ := List.exists_cons_of_ne_nil hne
  have hc : b[s.bytepos]? = some c := (matchAt_cons.1 (hmc ▸ hm)).1
  obtain ⟨h1, h2, h3⟩ := not_special_of_start (.inl (hfirst c cs hmc))
  rw [step_eq hc, if_neg (by rw [h1]; decide), if_neg (by rw [beq_false_of_ne h2]; exact Bool.false_ne_true), if_neg (mt beq_iff_eq.1 h3),
    hni.pathStart c, if_neg Bool.false_ne_true, if_pos (hfirst c cs hmc)]
  unfold stepIdent
  simp only [hsep, Bool.true_eq_false, if_false, skipWhile_matchAt isIdentChar hm hall hstop]
  rw [handleA2ml_noop s.line s.tokens ⟨.identifier, s.bytepos, s.bytepos + m.length, s.line⟩ hm
    (Nat.le_of_lt (getElem?_some_lt hc)) rfl hA]
  simp

theorem step_keyword {b : Bytes} {m : List UInt8} (s : State) (hm : matchAt b s.bytepos m = true)
    (hsep : s.separated = true) (kw : List UInt8) (tt : TokType) (hmk : m = 47 :: kw)
    (hkw : (kw = kwBegin ∧ tt = .begin) ∨ (kw = kwEnd ∧ tt = .end_)) :
    step b s = .cont ⟨s.tokens.push ⟨tt, s.bytepos, s.bytepos + m.length, s.line⟩, s.bytepos + m.length, false, s.line⟩ := by
  obtain ⟨hc, hmatch⟩ := matchAt_cons.1 (hmk ▸ hm)
  have hle := Nat.succ_le_of_lt (getElem?_some_lt hc)
  obtain ⟨c1, h1⟩ : ∃ c1, b[s.bytepos + 1]? = some c1 := by
    rcases hkw with ⟨rfl, -⟩ | ⟨rfl, -⟩ <;> exact ⟨_, (matchAt_cons.1 hmatch).1⟩
  rw [step_of_slash hc (getElem?_some_lt h1)]
  unfold stepSlash
  rcases hkw with ⟨rfl, rfl⟩ | ⟨rfl, rfl⟩
  · obtain rfl : c1 = 98 := Option.some.inj (h1.symm.trans (matchAt_cons.1 hmatch).1)
    simp only [h1]
    rw [if_neg (by decide), if_neg (by decide), startsWith_eq hle, hmatch]
    simp only [stepKeyword, hsep, Bool.true_eq_false, if_false, hmk]
    rfl
  · -- `/end` is tried after `/begin`
    obtain rfl : c1 = 101 := Option.some.inj (h1.symm.trans (matchAt_cons.1 hmatch).1)
    have hnb : matchAt b (s.bytepos + 1) kwBegin = false := by rw [kwBegin, matchAt, h1]; rfl
    simp only [h1]
    rw [if_neg (by decide), if_neg (by decide), startsWith_eq hle, hnb]
    simp only [startsWith_eq hle, hmatch, stepKeyword, hsep, Bool.true_eq_false, if_false, hmk]
    rfl

theorem step_number {b : Bytes} {m : List UInt8} (s : State) (hm : matchAt b s.bytepos m = true)
    (hsep : s.separated = true) (hni : NoInclude s)
    (c0 : UInt8) (rest : List UInt8) (hmc : m = c0 :: rest)
    (hf1 : (isAlpha c0 || c0 == 95) = false) (hf2 : (c0 == 45 || isNumChar c0) = true)
    (hrest : ∀ c ∈ rest, isNumChar c = true)
    (hstop : ∀ c, b[s.bytepos + m.length]? = some c → isNumChar c = false ∧ isIdentChar c = false)
    (hnot : m ≠ [45] ∧ m ≠ [46] ∧ m ≠ [48, 120]) :
    step b s = .cont ⟨s.tokens.push ⟨.number, s.bytepos, s.bytepos + m.length, s.line⟩,
      s.bytepos + m.length, false, s.line⟩ := by
  obtain ⟨hc, hmatch⟩ := matchAt_cons.1 (hmc ▸ hm)
  have hle := Nat.le_of_lt (getElem?_some_lt hc)
  have hlen : s.bytepos + 1 + rest.length = s.bytepos + m.length := by
    rw [hmc, List.length_cons, Nat.add_assoc, Nat.add_comm 1]
  have hskip : skipWhile b isNumChar (s.bytepos + 1) = s.bytepos + m.length := by
    rw [skipWhile_matchAt isNumChar hmatch hrest (by rw [hlen]; exact fun c hc => (hstop c hc).1), hlen]
  have hgo : stepNumberTok b s (s.bytepos + m.length) = .cont ⟨s.tokens.push ⟨.number, s.bytepos, s.bytepos + m.length, s.line⟩,
      s.bytepos + m.length, false, s.line⟩ := by
    unfold stepNumberTok
    simp only [slice_matchAt hm hle, toArray_beq_false hnot.1, toArray_beq_false hnot.2.1, toArray_beq_false hnot.2.2,
      Bool.or_self, Bool.false_eq_true, if_false]
  obtain ⟨h1, h2, h3⟩ := not_special_of_start (.inr hf2)
  rw [step_eq hc, if_neg (by rw [h1]; decide), if_neg (by rw [beq_false_of_ne h2]; exact Bool.false_ne_true),
    if_neg (mt beq_iff_eq.1 h3), hni.pathStart c0, if_neg Bool.false_ne_true, if_neg (by rw [hf1]; decide), if_pos hf2]
  unfold stepNumber
  simp only [hsep, Bool.true_eq_false, if_false, hskip]
  -- what follows the digits is not an identifier character: a numerical constant
  cases hx : b[s.bytepos + m.length]? with
  | none => rw [if_pos (Nat.le_antisymm (matchAt_len b _ m hle hm) (Array.getElem?_eq_none_iff.1 hx))]; exact hgo
  | some c => simp only [(hstop c hx).2, Bool.not_false, ite_self]; exact hgo

theorem step_string {b : Bytes} {m : List UInt8} (s : State) (hm : matchAt b s.bytepos m = true)
    (hsep : s.separated = true) (body : List UInt8) (hbody : StrBody body) (hmb : m = 34 :: (body ++ [34]))
    (hstop : ∀ c, b[s.bytepos + m.length]? = some c → c ≠ 34) :
    step b s = .cont ⟨s.tokens.push ⟨.string, s.bytepos, s.bytepos + m.length, s.line⟩,
      s.bytepos + m.length, false, s.line⟩ := by
  obtain ⟨hc, hmatch⟩ := matchAt_cons.1 (hmb ▸ hm)
  have hlen : s.bytepos + 1 + body.length + 1 = s.bytepos + m.length := by
    rw [hmb, List.length_cons, List.length_append, List.length_singleton]; omega
  have hfind : findStringEnd b (s.bytepos + 1) = .ok (s.bytepos + m.length) := by
    rw [findStringEnd_body hbody _ hmatch (by rw [hlen]; exact hstop), hlen]
  have hnl : nlB m = 0 := by
    rw [hmb]
    simp only [nlB_cons, nlB_append, hbody.nlB_zero]
    decide
  rw [step_eq hc, if_neg (by decide), if_neg (by simp), if_pos (by decide)]
  unfold stepString
  simp only [hsep, Bool.true_eq_false, if_false, hfind, countNewlines_matchAt hm (Nat.le_of_lt (getElem?_some_lt hc)), hnl]
  rfl

/-- a block comment at `p + k`: the `k` blanks in front of it belong to the token -/
theorem step_blockComment {b : Bytes} {core : List UInt8} (p k : Nat) (s : State) (hp : s.bytepos = p + k)
    (hpl : prevByte b p ≠ some 32) (hbl : ∀ i, i < k → b[p + i]? = some 32)
    (hm : matchAt b (p + k) core = true) (hcore : BlockCore core) :
    step b s = .cont ⟨s.tokens.push ⟨.comment, p, p + k + core.length, s.line⟩,
      p + k + core.length, true, s.line + nlB core⟩ := by
  obtain ⟨rest, hrest, htail⟩ := hcore.tail
  obtain ⟨h0, hmatch⟩ := matchAt_cons.1 (hrest ▸ hm)
  obtain ⟨h1, hmatch⟩ := matchAt_cons.1 hmatch
  have hle := Nat.le_of_lt (getElem?_some_lt h0)
  have hfind := findBlockCommentEnd_tail htail _ hmatch
  rw [show p + k + 1 + 1 + rest.length = p + k + core.length by
    rw [hrest, List.length_cons, List.length_cons]; omega] at hfind
  have hcs := commentStart_run b p (prevByte_stop (Nat.le_trans (Nat.le_add_right p k) hle) hpl) k hbl
  rw [step_of_slash (hp ▸ h0) (by rw [hp]; exact getElem?_some_lt h1)]
  unfold stepSlash
  simp only [hp, h1]
  rw [if_pos (by decide), hfind]
  simp only [hcs, countNewlines_matchAt hm hle]

/-- a line comment at `p + k`: the `k` blanks in front of it belong to the token; it has to be followed by a line break or
    the end of the text -/
theorem step_lineComment {b : Bytes} {rest : List UInt8} (p k : Nat) (s : State) (hp : s.bytepos = p + k)
    (hpl : prevByte b p ≠ some 32) (hbl : ∀ i, i < k → b[p + i]? = some 32)
    (hm : matchAt b (p + k) (47 :: 47 :: rest) = true) (hrest : ∀ c ∈ rest, c ≠ 10)
    (hstop : ∀ c, b[p + k + (rest.length + 2)]? = some c → c = 10) :
    step b s = .cont ⟨s.tokens.push ⟨.comment, p, p + k + (rest.length + 2), s.line⟩,
      p + k + (rest.length + 2), true, s.line⟩ := by
  obtain ⟨h0, hm⟩ := matchAt_cons.1 hm
  have h1 := (matchAt_cons.1 hm).1
  have hcs := commentStart_run b p
    (prevByte_stop (Nat.le_trans (Nat.le_add_right p k) (Nat.le_of_lt (getElem?_some_lt h0))) hpl) k hbl
  -- the scan for the end of the line starts at the second `/`
  have hlen : p + k + 1 + (47 :: rest).length = p + k + (rest.length + 2) := by
    rw [List.length_cons]; omega
  have hskip : skipWhile b notNewline (p + k + 1) = p + k + (rest.length + 2) := by
    rw [skipWhile_matchAt notNewline hm ?_ (by rw [hlen]; exact fun c hc => by rw [hstop c hc]; rfl), hlen]
    intro c hc
    rcases List.mem_cons.1 hc with rfl | hc
    · rfl
    · exact bne_iff_ne.2 (hrest c hc)
  rw [step_of_slash (hp ▸ h0) (by rw [hp]; exact getElem?_some_lt h1)]
  unfold stepSlash
  simp only [hp, h1]
  rw [if_neg (by decide), if_pos (by decide)]
  simp only [hcs, hskip]

end A2l.Lex
