import A2lVerif.Lemmas.Encoding
import A2lVerif.Lemmas.RT.Canon
import A2lVerif.Lemmas.RT.LexSegs
import A2lVerif.Lemmas.Scalars
import A2lVerif.Lemmas.TreeWriter
/-! # C01: the tokenizer on the text of a written token stream (characters → bytes → segments), and the writer's
`ends_in_line_comment` on that text -/
namespace A2l.Tree
open A2l.Lex A2l.Sc

def encL (cs : List Char) : List UInt8 := cs.flatMap String.utf8EncodeChar

theorem encL_append (a b : List Char) : encL (a ++ b) = encL a ++ encL b := by simp [encL]
theorem encL_nil : encL [] = [] := rfl
theorem encL_cons (c : Char) (cs : List Char) : encL (c :: cs) = String.utf8EncodeChar c ++ encL cs := by simp [encL]

/-- the text of a token is the `str` slice `&data[startpos..endpos]` (`get_token_text`), here the bytes of the span
    decoded; a span that is not UTF-8 (the slice would panic) cannot occur for tokens of a text that was a `String` -/
def decodeL (l : List UInt8) : List Char :=
  match l.toByteArray.utf8Decode? with
  | some a => a.toList
  | none => []

theorem decodeL_encL (t : List Char) : decodeL (encL t) = t := by
  unfold decodeL
  have : (encL t).toByteArray = t.utf8Encode := rfl
  rw [this, List.utf8Decode?_utf8Encode]

/-- a text is determined by its bytes (core's UTF-8 round trip); for ASCII text `asciiB_inj` -/
theorem encL_inj {a b : List Char} (h : encL a = encL b) : a = b := by
  rw [← decodeL_encL a, h, decodeL_encL]

def IsAscii (c : Char) : Prop := c.val ≤ 127
instance (c : Char) : Decidable (IsAscii c) := by unfold IsAscii; infer_instance

def asciiB (c : Char) : UInt8 := c.val.toUInt8

theorem enc_ascii {c : Char} (h : IsAscii c) : String.utf8EncodeChar c = [asciiB c] :=
  String.utf8EncodeChar_eq_singleton (Char.utf8Size_eq_one_iff.2 h)

theorem encL_ascii : ∀ (cs : List Char), (∀ c ∈ cs, IsAscii c) → encL cs = cs.map asciiB
  | [], _ => rfl
  | c :: cs, h => by
    rw [encL_cons, enc_ascii (h c List.mem_cons_self), encL_ascii cs (fun x hx => h x (List.mem_cons_of_mem _ hx))]
    rfl

theorem encL_replicate (k : Nat) (c : Char) (h : IsAscii c) : encL (List.replicate k c) = List.replicate k (asciiB c) := by
  rw [encL_ascii _ (fun x hx => by rw [List.eq_of_mem_replicate hx]; exact h)]
  simp

theorem enc_nonascii {c : Char} (h : ¬ IsAscii c) : ∀ x ∈ String.utf8EncodeChar c, 128 ≤ x := by
  rcases Enc.utf8EncodeChar_shape c with ⟨h1, -⟩ | ⟨hd, tl, e, -, hh, ht⟩
  · exact absurd (UInt32.le_iff_toNat_le.2 (show c.val.toNat ≤ (127 : UInt32).toNat from h1)) h
  · rw [e]
    exact List.forall_mem_cons.2 ⟨UInt8.le_iff_toNat_le.2 (Nat.le_trans (by decide) hh.1),
      fun x hx => UInt8.le_iff_toNat_le.2 (ht x hx).1⟩

theorem asciiB_inj {a b : Char} (ha : IsAscii a) (hb : IsAscii b) (h : asciiB a = asciiB b) : a = b :=
  List.singleton_inj.1 (encL_inj (by rw [encL_cons, encL_cons, enc_ascii ha, enc_ascii hb, h]))

theorem asciiB_eq_iff {c a : Char} {n : UInt8} (hc : IsAscii c) (ha : IsAscii a) (hn : asciiB a = n) :
    asciiB c = n ↔ c = a :=
  ⟨fun h => asciiB_inj hc ha (h.trans hn.symm), fun h => h ▸ hn⟩

theorem enc_ne {c a : Char} {n : UInt8} (ha : IsAscii a) (hn : asciiB a = n) (hlt : n < 128) (h : c ≠ a) :
    ∀ x ∈ String.utf8EncodeChar c, x ≠ n := by
  intro x hx
  by_cases hc : IsAscii c
  · rw [enc_ascii hc, List.mem_singleton] at hx
    rw [hx]; exact fun he => h (asciiB_inj hc ha (he.trans hn.symm))
  · intro e
    have := enc_nonascii hc x hx
    rw [e] at this
    exact absurd (UInt8.lt_of_lt_of_le hlt this) (UInt8.lt_irrefl _)

theorem encL_eq_cons_ascii {t : List Char} {x : UInt8} {rest : List UInt8} (h : encL t = x :: rest) (hx : x < 128) :
    ∃ c cs, t = c :: cs ∧ IsAscii c ∧ asciiB c = x ∧ encL cs = rest := by
  cases t with
  | nil => simp [encL] at h
  | cons c cs =>
    rw [encL_cons] at h
    by_cases ha : IsAscii c
    · rw [enc_ascii ha] at h
      simp only [List.cons_append, List.nil_append, List.cons.injEq] at h
      exact ⟨c, cs, rfl, ha, h.1, h.2⟩
    · have h128 := enc_nonascii ha
      cases hc : String.utf8EncodeChar c with
      | nil => exact absurd hc (by simp)
      | cons y ys =>
        rw [hc] at h h128
        simp only [List.cons_append, List.cons.injEq] at h
        have := h128 y List.mem_cons_self
        rw [h.1] at this
        exact absurd this (by simp [UInt8.le_iff_toNat_le, UInt8.lt_iff_toNat_lt] at hx ⊢; omega)

theorem StrBody.plain_append : ∀ (l rest : List UInt8), (∀ x ∈ l, x ≠ 34 ∧ x ≠ 92 ∧ x ≠ 10) → StrBody rest →
    StrBody (l ++ rest)
  | [], _, _, h => h
  | x :: l, rest, hl, h =>
    StrBody.plain x (l ++ rest) (hl x List.mem_cons_self)
      (StrBody.plain_append l rest (fun y hy => hl y (List.mem_cons_of_mem _ hy)) h)

theorem strBody_escape : ∀ (str : List Char), StrBody (encL (escape str))
  | [] => StrBody.nil
  | c :: cs => by
    have ih := strBody_escape cs
    rw [escape_cons, encL_append]
    rcases escChar_cases c with ⟨d, hm, hd, -⟩ | ⟨hp, hd⟩
    · have hasc : IsAscii d ∧ asciiB d ≠ 10 :=
        (by decide : ∀ d ∈ ['\'', '"', '\\', 'r', 'n', 't'], IsAscii d ∧ asciiB d ≠ 10) d hm
      rw [hd, encL_cons, encL_cons, encL_nil, enc_ascii hasc.1]
      exact StrBody.esc _ _ hasc.2 ih
    · rw [hd, encL_cons, encL_nil, List.append_nil]
      exact StrBody.plain_append _ _ (fun x hx => ⟨enc_ne (by decide) (by decide) (by decide) hp.2.1 x hx,
        enc_ne (by decide) (by decide) (by decide) hp.2.2.1 x hx, enc_ne (by decide) (by decide) (by decide) hp.2.2.2.2.1 x hx⟩) ih

/-- text of an identifier token: ASCII identifier characters, the first one a letter or `_` -/
def IdentText (t : List Char) : Prop :=
  ∃ c cs, t = c :: cs ∧ (∀ x ∈ t, IsAscii x ∧ isIdentChar (asciiB x) = true) ∧ (isAlpha (asciiB c) || asciiB c == 95) = true

/-- text of a number token: ASCII, starts with a digit, sign or dot, continues with "number characters" -/
def NumText (t : List Char) : Prop :=
  ∃ c cs, t = c :: cs ∧ (∀ x ∈ t, IsAscii x) ∧ (isAlpha (asciiB c) || asciiB c == 95) = false ∧
    (asciiB c == 45 || isNumChar (asciiB c)) = true ∧ (∀ x ∈ cs, isNumChar (asciiB x) = true) ∧
    t ≠ ['-'] ∧ t ≠ ['.'] ∧ t ≠ ['0', 'x']

/-- the part of a comment token behind its leading blanks -/
def cmtRest (t : List Char) : List Char := t.dropWhile (· = ' ')
def cmtBlanks (t : List Char) : Nat := (t.takeWhile (· = ' ')).length

def isLineCmt (t : List Char) : Bool :=
  match cmtRest t with
  | '/' :: '/' :: _ => true
  | _ => false

/-- text of a comment token: blanks, then `//` up to (not including) a line break, or `/* … */` -/
def CommentText (t : List Char) : Prop :=
  if isLineCmt t then ∃ r, cmtRest t = '/' :: '/' :: r ∧ ∀ c ∈ r, c ≠ '\n'
  else BlockCore (encL (cmtRest t))

/-- a written token that the tokenizer reads back as one token of the same kind and text -/
def TokLex (w : WTok) : Prop :=
  match w.ty with
  | 0 => IdentText w.text
  | 1 => w.text = beginText
  | 2 => w.text = endText
  | 4 => ∃ str, w.text = '"' :: (escape str ++ ['"'])
  | 5 => NumText w.text
  | 6 => CommentText w.text
  | _ => False

/-- is this token a `//` comment? -/
def WTok.isLC (w : WTok) : Bool := w.ty == 6 && isLineCmt w.text

theorem isLC_of_ty {w : WTok} (h : w.ty ≠ 6) : w.isLC = false := by
  unfold WTok.isLC
  have : (w.ty == 6) = false := by simpa using h
  rw [this, Bool.false_and]

/-- the kind of the segment of a written token that is not a comment -/
def plainKind (w : WTok) : SKind :=
  match w.ty with
  | 0 => .ident | 1 => .kbegin | 2 => .kend | 4 => .str (encL (w.text.tail.dropLast)) | _ => .num

def toSeg (w : WTok) : Seg :=
  if w.ty = 6 then
    ⟨List.replicate w.off 10, cmtBlanks w.text, encL (cmtRest w.text), if isLineCmt w.text then .line else .block⟩
  else
    ⟨encL (addWhitespace w.ind w.off), 0, encL w.text, plainKind w⟩

theorem toSeg_cmt {w : WTok} (h : w.ty = 6) : toSeg w =
    ⟨List.replicate w.off 10, cmtBlanks w.text, encL (cmtRest w.text), if isLineCmt w.text then .line else .block⟩ :=
  if_pos h

theorem toSeg_plain {w : WTok} (h : w.ty ≠ 6) : toSeg w = ⟨encL (addWhitespace w.ind w.off), 0, encL w.text, plainKind w⟩ :=
  if_neg h

theorem plainKind_isComment (w : WTok) : (plainKind w).isComment = false := by
  unfold plainKind; split <;> rfl

theorem toSeg_isLine (w : WTok) : (toSeg w).isLine = w.isLC := by
  unfold WTok.isLC
  by_cases h6 : w.ty = 6
  · rw [toSeg_cmt h6, h6]
    unfold Seg.isLine
    cases isLineCmt w.text <;> rfl
  · rw [toSeg_plain h6, beq_false_of_ne h6, Bool.false_and]
    have := plainKind_isComment w
    unfold Seg.isLine
    generalize plainKind w = kd at this ⊢
    cases kd <;> first | rfl | cases this

theorem takeWhile_blank : ∀ (t : List Char), t.takeWhile (· = ' ') = List.replicate (cmtBlanks t) ' '
  | [] => rfl
  | c :: cs => by
    unfold cmtBlanks
    by_cases h : c = ' '
    · subst h
      have ih := takeWhile_blank cs
      unfold cmtBlanks at ih
      rw [List.takeWhile_cons_of_pos (by simp), List.length_cons, List.replicate_succ, ← ih]
    · rw [List.takeWhile_cons_of_neg (by simp [h])]; rfl

theorem cmt_split (t : List Char) : t = List.replicate (cmtBlanks t) ' ' ++ cmtRest t := by
  rw [← takeWhile_blank, cmtRest, List.takeWhile_append_dropWhile]

theorem asciiB_space : asciiB ' ' = 32 := by decide
theorem asciiB_nl : asciiB '\n' = 10 := by decide

theorem enc_cmt_split (t : List Char) : encL t = List.replicate (cmtBlanks t) 32 ++ encL (cmtRest t) := by
  conv => lhs; rw [cmt_split t, encL_append, encL_replicate _ _ (by decide), asciiB_space]

theorem toSeg_bytes (w : WTok) : (toSeg w).bytes = encL (renderTok w) := by
  unfold renderTok
  by_cases h6 : w.ty = 6
  · rw [toSeg_cmt h6, if_pos h6, Seg.bytes, encL_append, encL_replicate _ _ (by decide), asciiB_nl, enc_cmt_split w.text]
  · rw [toSeg_plain h6, if_neg h6, Seg.bytes, encL_append]; rfl

theorem encL_renderToks_cons (w : WTok) (rest : List WTok) :
    encL (renderToks (w :: rest)) = (toSeg w).bytes ++ encL (renderToks rest) := by
  rw [toSeg_bytes, ← encL_append]; rfl

theorem encWs_isWs (ind off : Nat) : ∀ x ∈ encL (addWhitespace ind off), isWs x = true := by
  rw [encL_ascii _ (fun c hc => by rcases mem_addWhitespace hc with rfl | rfl <;> decide)]
  intro x hx
  obtain ⟨c, hc, rfl⟩ := List.mem_map.1 hx
  rcases mem_addWhitespace hc with rfl | rfl <;> decide

theorem encWs_head (ind off : Nat) :
    ∃ rest, encL (addWhitespace ind off) = (if off = 0 then 32 else 10) :: rest := by
  cases off with
  | zero => exact ⟨[], rfl⟩
  | succ n => exact ⟨_, by rw [addWhitespace_of_ne_zero ind (Nat.succ_ne_zero n), encL_cons]; rfl⟩

theorem encWs_ne_nil (ind off : Nat) : encL (addWhitespace ind off) ≠ [] := by
  obtain ⟨rest, h⟩ := encWs_head ind off
  rw [h]; exact List.cons_ne_nil _ _

theorem commentText_core_head {t : List Char} (h : CommentText t) : (encL (cmtRest t)).head? = some 47 := by
  unfold CommentText at h
  split at h
  · obtain ⟨r, hr, _⟩ := h
    rw [hr, encL_cons]; rfl
  · rw [List.head?_eq_getElem?]; exact h.h0

def OptAll (next : Option UInt8) (P : UInt8 → Prop) : Prop :=
  match next with
  | none => True
  | some c => P c

theorem OptAll.mono {next : Option UInt8} {P Q : UInt8 → Prop} (h : OptAll next P) (hpq : ∀ x, P x → Q x) : OptAll next Q := by
  cases next with
  | none => trivial
  | some x => exact hpq x h

theorem TokLex.cases {w : WTok} (hw : TokLex w) :
    (w.ty = 0 ∧ IdentText w.text) ∨ (w.ty = 1 ∧ w.text = beginText) ∨ (w.ty = 2 ∧ w.text = endText) ∨
      (w.ty = 4 ∧ ∃ str, w.text = '"' :: (escape str ++ ['"'])) ∨ (w.ty = 5 ∧ NumText w.text) ∨
      (w.ty = 6 ∧ CommentText w.text) := by
  unfold TokLex at hw
  split at hw
  · exact .inl ⟨‹_›, hw⟩
  · exact .inr (.inl ⟨‹_›, hw⟩)
  · exact .inr (.inr (.inl ⟨‹_›, hw⟩))
  · exact .inr (.inr (.inr (.inl ⟨‹_›, hw⟩)))
  · exact .inr (.inr (.inr (.inr (.inl ⟨‹_›, hw⟩))))
  · exact .inr (.inr (.inr (.inr (.inr ⟨‹_›, hw⟩))))
  · exact hw.elim

theorem encL_beginText : encL beginText = 47 :: kwBegin := by decide
theorem encL_endText : encL endText = 47 :: kwEnd := by decide

theorem toSeg_ok (w : WTok) (hw : TokLex w) (pl : Option UInt8) (pt : Option TokType) (next : Option UInt8)
    (hnext : OptAll next (fun x => x = 32 ∨ x = 10 ∨ x = 47))
    (hline : w.ty = 6 → isLineCmt w.text = true → OptAll next (· = 10))
    (hA : w.ty = 0 → pt = some .begin → w.text ≠ "A2ML".toList)
    (hpl : w.ty = 6 → w.off = 0 → pl ≠ some 32) :
    (toSeg w).ok pl pt next := by
  have hwsall := encWs_isWs w.ind w.off
  have hinj : ∀ (t : List Char), (∀ x ∈ t, IsAscii x) → encL w.text = t.map asciiB → w.text = t :=
    fun t h2 he => encL_inj (he.trans (encL_ascii t h2).symm)
  rcases hw.cases with ⟨hty, c, cs, ht, hall, hfirst⟩ | ⟨hty, ht⟩ | ⟨hty, ht⟩ | ⟨hty, str, ht⟩ |
    ⟨hty, c, cs, ht, hall, hf1, hf2, hrest, hne1, hne2, hne3⟩ | ⟨hty, hc⟩
  · have hasc : ∀ x ∈ w.text, IsAscii x := fun x hx => (hall x hx).1
    have henc : encL w.text = w.text.map asciiB := encL_ascii _ hasc
    rw [toSeg_plain (by omega), plainKind, hty]
    refine ⟨hwsall, by rw [henc, ht]; exact List.cons_ne_nil _ _, rfl, encWs_ne_nil _ _, ?_, ?_, hnext.mono (by rintro x (rfl | rfl | rfl) <;> decide), ?_⟩
    · intro x hx
      rw [henc] at hx
      obtain ⟨ch, hch, rfl⟩ := List.mem_map.1 hx
      exact (hall ch hch).2
    · intro x xs hxs
      rw [henc, ht, List.map_cons] at hxs
      rw [← (List.cons.inj hxs).1]; exact hfirst
    · exact fun hbeg heq => hA hty hbeg (hinj _ (by decide) heq)
  · rw [toSeg_plain (by omega), plainKind, hty, ht, encL_beginText]
    exact ⟨hwsall, List.cons_ne_nil _ _, rfl, encWs_ne_nil _ _, rfl⟩
  · rw [toSeg_plain (by omega), plainKind, hty, ht, encL_endText]
    exact ⟨hwsall, List.cons_ne_nil _ _, rfl, encWs_ne_nil _ _, rfl⟩
  · rw [toSeg_plain (by omega), plainKind, hty, ht, List.tail_cons, List.dropLast_concat, encL_cons, encL_append]
    exact ⟨hwsall, List.cons_ne_nil _ _, rfl, encWs_ne_nil _ _, strBody_escape str, rfl, hnext.mono (by rintro x (rfl | rfl | rfl) <;> decide)⟩
  · have henc : encL w.text = w.text.map asciiB := encL_ascii _ hall
    rw [toSeg_plain (by omega), plainKind, hty]
    refine ⟨hwsall, by rw [henc, ht]; exact List.cons_ne_nil _ _, rfl, encWs_ne_nil _ _,
      ⟨asciiB c, cs.map asciiB, by rw [henc, ht]; rfl, hf1, hf2, ?_⟩, hnext.mono (by rintro x (rfl | rfl | rfl) <;> decide),
      fun heq => hne1 (hinj _ (by decide) heq), fun heq => hne2 (hinj _ (by decide) heq),
      fun heq => hne3 (hinj _ (by decide) heq)⟩
    intro x hx
    obtain ⟨ch, hch, rfl⟩ := List.mem_map.1 hx
    exact hrest ch hch
  · have hcne : encL (cmtRest w.text) ≠ [] := by
      intro h; have hh := commentText_core_head hc; rw [h] at hh; cases hh
    have hnlws : ∀ c ∈ List.replicate w.off (10 : UInt8), isWs c = true ∧ c ≠ 32 := by
      intro c hc; rw [List.eq_of_mem_replicate hc]; decide
    have hplc : List.replicate w.off (10 : UInt8) = [] → pl ≠ some 32 := by
      intro h; apply hpl hty
      cases hoff : w.off with
      | zero => rfl
      | succ n => rw [hoff] at h; cases h
    rw [toSeg_cmt hty]
    unfold CommentText at hc
    by_cases hl : isLineCmt w.text = true
    · rw [if_pos hl] at hc ⊢
      obtain ⟨r, hr, hrn⟩ := hc
      exact ⟨fun c h => (hnlws c h).1, hcne, ⟨encL r, by rw [hr, encL_cons, encL_cons]; rfl, fun x hx => by
          obtain ⟨c, hc, hx⟩ := List.mem_flatMap.1 hx
          exact enc_ne (by decide) asciiB_nl (by decide) (hrn c hc) x hx⟩,
        fun c h => (hnlws c h).2, hplc, hline hty hl⟩
    · rw [if_neg hl] at hc ⊢
      exact ⟨fun c h => (hnlws c h).1, hcne, hc, fun c h => (hnlws c h).2, hplc⟩

/-- `toSeg_ok` with nothing around the token: enough for what does not depend on its neighbours -/
theorem toSeg_ok_alone {w : WTok} (hw : TokLex w) : (toSeg w).ok none none none :=
  toSeg_ok w hw none none none trivial (fun _ _ => trivial) (fun _ h => by cases h) (fun _ _ => by simp)

theorem toSeg_tt (w : WTok) (hw : TokLex w) : tokCode (toSeg w).kind.tt = w.ty := by
  by_cases h6 : w.ty = 6
  · rw [toSeg_cmt h6, h6]; split <;> rfl
  · rw [toSeg_plain h6, plainKind]
    rcases hw.cases with ⟨hty, -⟩ | ⟨hty, -⟩ | ⟨hty, -⟩ | ⟨hty, -⟩ | ⟨hty, -⟩ | ⟨hty, -⟩
    all_goals first | exact absurd hty h6 | (rw [hty]; rfl)

/-- the first byte of a written token with the white space in front of it: a blank, a line break, or the `/` of a
    comment that directly follows its predecessor -/
theorem toSeg_head (w : WTok) (hw : TokLex w) :
    ∃ x, (toSeg w).bytes.head? = some x ∧ (x = 32 ∨ x = 10 ∨ x = 47) ∧ (1 ≤ w.off → x = 10) := by
  by_cases h6 : w.ty = 6
  · rw [toSeg_cmt h6, Seg.bytes]
    have hc : CommentText w.text := by unfold TokLex at hw; rw [h6] at hw; exact hw
    have hh := commentText_core_head hc
    cases w.off with
    | succ n => exact ⟨10, rfl, .inr (.inl rfl), fun _ => rfl⟩
    | zero =>
      cases cmtBlanks w.text with
      | succ n => exact ⟨32, rfl, .inl rfl, fun h => absurd h (by decide)⟩
      | zero => exact ⟨47, hh, .inr (.inr rfl), fun h => absurd h (by decide)⟩
  · obtain ⟨rest, hrest⟩ := encWs_head w.ind w.off
    rw [toSeg_plain h6, Seg.bytes, hrest]
    refine ⟨_, rfl, ?_, fun h => if_neg (by omega)⟩
    split
    · exact .inl rfl
    · exact .inr (.inl rfl)

/-- a written token stream that the tokenizer reads back token by token: every token is lexable, an identifier behind
    `/begin` is not `A2ML` (the tokenizer would take what follows as the text of an A2ML block), and a line comment is
    followed by a line break (it would swallow what follows on its line) -/
def StreamLex : Option WTok → List WTok → Prop
  | _, [] => True
  | prev, w :: rest =>
    TokLex w ∧
    (w.ty = 0 → (∃ p, prev = some p ∧ p.ty = 1) → w.text ≠ "A2ML".toList) ∧
    (w.ty = 6 → isLineCmt w.text = true → ∀ w' rest', rest = w' :: rest' → 1 ≤ w'.off) ∧
    StreamLex (some w) rest

/-! The writer's `ends_in_line_comment` (`lcScan`, Model/Tree.lean) is a second, much simpler tokenizer. On the text of a
lexable stream it agrees with the real one: behind every token it is outside of strings and comments again, except
behind a `//` comment, where it is inside the comment until the next line break. Proved token by token on the
characters; only the shape of a block comment is known on its bytes (`BlockCore`, `CmtTail`). -/

theorem lcScan_plain (r : List Char) : ∀ (l : List Char), (∀ c ∈ l, c ≠ '"' ∧ c ≠ '/') →
    lcScan .outside (l ++ r) = lcScan .outside r
  | [], _ => rfl
  | c :: l, h => by
    rw [List.cons_append, lcScan_outside_other c _ (h c List.mem_cons_self).1 (h c List.mem_cons_self).2]
    exact lcScan_plain r l (fun d hd => h d (List.mem_cons_of_mem _ hd))

theorem lcScan_escape (r : List Char) : ∀ (str : List Char), lcScan .inString (escape str ++ r) = lcScan .inString r
  | [] => rfl
  | c :: cs => by
    rw [escape_cons, List.append_assoc]
    rcases escChar_cases c with ⟨d, -, hd, -⟩ | ⟨hp, hd⟩
    · rw [hd, List.cons_append, List.cons_append, List.nil_append, lcScan_inString, if_pos rfl, lcScan_inStringEscaped]
      exact lcScan_escape r cs
    · rw [hd, List.singleton_append, lcScan_inString, if_neg hp.2.2.1, if_neg hp.2.1]
      exact lcScan_escape r cs

theorem lcScan_lineRest (r : List Char) : ∀ (l : List Char), (∀ c ∈ l, c ≠ '\n') →
    lcScan .lineComment (l ++ r) = lcScan .lineComment r
  | [], _ => rfl
  | c :: l, h => by
    rw [List.cons_append, lcScan_lineComment, if_neg (h c List.mem_cons_self)]
    exact lcScan_lineRest r l (fun d hd => h d (List.mem_cons_of_mem _ hd))

/-- the bytes of a character that is not ASCII inside a block comment belong to it -/
theorem CmtTail.high {rest : List UInt8} : ∀ (l : List UInt8) (star : Bool), l ≠ [] → (∀ x ∈ l, 128 ≤ x) →
    CmtTail star (l ++ rest) → CmtTail false rest
  | [], _, h, _, _ => absurd rfl h
  | x :: l, star, _, hl, h => by
    have hx : (128 : UInt8) ≤ x := hl x List.mem_cons_self
    have h42 : (x == 42) = false := beq_false_of_ne (fun e => absurd (e ▸ hx) (by decide))
    rw [List.cons_append] at h
    generalize ht : l ++ rest = t at h
    cases h with
    | stop => exact absurd hx (by decide)
    | step _ _ _ _ h' =>
      rw [h42, ← ht] at h'
      cases l with
      | nil => exact h'
      | cons y l' =>
        exact CmtTail.high (y :: l') false (List.cons_ne_nil _ _) (fun z hz => hl z (List.mem_cons_of_mem _ hz)) h'

/-- inside a block comment the scanner leaves it exactly at its end -/
theorem lcScan_cmtTail (r : List Char) : ∀ (cs : List Char) (star : Bool), CmtTail star (encL cs) →
    lcScan (if star then .blockCommentStar else .blockComment) (cs ++ r) = lcScan .outside r
  | [], _, h => by cases h
  | c :: cs, star, h => by
    rw [encL_cons] at h
    by_cases hc : IsAscii c
    · rw [enc_ascii hc, List.singleton_append] at h
      have e42 : asciiB c = 42 ↔ c = '*' := asciiB_eq_iff hc (by decide) (by decide)
      have e47 : asciiB c = 47 ↔ c = '/' := asciiB_eq_iff hc (by decide) (by decide)
      generalize hb : asciiB c = x at h e42 e47
      generalize he : encL cs = rest at h
      cases h with
      | stop =>
        cases cs with
        | nil => rw [e47.1 rfl]; exact (lcScan_blockCommentStar '/' r).trans (if_pos rfl)
        | cons d ds =>
          rw [encL_cons] at he
          exact absurd he (List.append_ne_nil_of_left_ne_nil String.utf8EncodeChar_ne_nil _)
      | step _ _ _ hn h' =>
        subst he
        have ih := lcScan_cmtTail r cs _ h'
        have key : (if c = '*' then lcScan .blockCommentStar (cs ++ r) else lcScan .blockComment (cs ++ r)) =
            lcScan .outside r := by
          rw [← ih]
          by_cases hx : c = '*'
          · rw [if_pos hx, e42.2 hx]; rfl
          · rw [if_neg hx, if_neg (by simpa using mt e42.1 hx)]
        rw [List.cons_append]
        cases star with
        | true => rw [if_pos rfl, lcScan_blockCommentStar, if_neg (fun e => hn ⟨rfl, e47.2 e⟩), key]
        | false => rw [if_neg Bool.false_ne_true, lcScan_blockComment, key]
    · have ne : ∀ (a : Char), IsAscii a → c ≠ a := fun a ha h => hc (h ▸ ha)
      have ih := lcScan_cmtTail r cs false (CmtTail.high _ star String.utf8EncodeChar_ne_nil (enc_nonascii hc) h)
      rw [List.cons_append, lcScan_other _ c _ (ne _ (by decide)) (ne _ (by decide)) (ne _ (by decide)) (ne _ (by decide))
        (ne _ (by decide))]
      cases star <;> exact ih

/-- the white space in front of a token: behind it the scanner is outside of strings and comments, also when it was in a
    `//` comment and the white space holds a line break -/
theorem ws_scan (w : WTok) (s0 : LcState) (hs0 : s0 = .outside ∨ (s0 = .lineComment ∧ 1 ≤ w.off)) (r : List Char) :
    lcScan s0 ((if w.ty = 6 then List.replicate w.off '\n' else addWhitespace w.ind w.off) ++ r) = lcScan .outside r := by
  have hnl : s0.afterNl = .outside := by rcases hs0 with rfl | ⟨rfl, -⟩ <;> rfl
  cases hoff : w.off with
  | zero =>
    obtain rfl : s0 = .outside := hs0.resolve_right (fun h => by rw [hoff] at h; exact absurd h.2 (by decide))
    by_cases h6 : w.ty = 6
    · rw [if_pos h6]; rfl
    · rw [if_neg h6]; exact lcScan_outside_other ' ' r (by decide) (by decide)
  | succ k =>
    by_cases h6 : w.ty = 6
    · rw [if_pos h6, List.replicate_succ, List.cons_append, lcScan_nl, lcScan_afterNl_nls, hnl]
    · rw [if_neg h6, lcScan_ws s0 _ _ (Nat.succ_ne_zero k), hnl]

theorem text_scan {w : WTok} (hw : TokLex w) (r : List Char) :
    lcScan .outside (w.text ++ r) = lcScan (if w.isLC then .lineComment else .outside) r := by
  -- an ASCII character of one of the classes `p` is neither `"` nor `/`
  have plain : ∀ (p : UInt8 → Bool), p 34 = false → p 47 = false → ∀ x : Char, p (asciiB x) = true → x ≠ '"' ∧ x ≠ '/' :=
    fun p h1 h2 x hx => ⟨fun e => by (rw [e, show asciiB '"' = 34 from rfl, h1] at hx; cases hx),
      fun e => by (rw [e, show asciiB '/' = 47 from rfl, h2] at hx; cases hx)⟩
  rcases hw.cases with ⟨hty, c, cs, ht, hall, -⟩ | ⟨hty, ht⟩ | ⟨hty, ht⟩ | ⟨hty, str, ht⟩ |
    ⟨hty, c, cs, ht, -, -, hf2, hrest, -⟩ | ⟨hty, hc⟩
  · rw [isLC_of_ty (by omega), if_neg Bool.false_ne_true]
    exact lcScan_plain r _ (fun x hx => plain isIdentChar rfl rfl x (hall x hx).2)
  · rw [isLC_of_ty (by omega), if_neg Bool.false_ne_true, ht, beginText_eq]
    exact (lcScan_outside_slash_other 'b' _ (by decide) (by decide)).trans
      (lcScan_plain r ['b', 'e', 'g', 'i', 'n'] (by decide))
  · rw [isLC_of_ty (by omega), if_neg Bool.false_ne_true, ht, endText_eq]
    exact (lcScan_outside_slash_other 'e' _ (by decide) (by decide)).trans (lcScan_plain r ['e', 'n', 'd'] (by decide))
  · rw [isLC_of_ty (by omega), if_neg Bool.false_ne_true, ht, List.cons_append, lcScan_outside_quote, List.append_assoc,
      lcScan_escape, List.singleton_append, lcScan_inString, if_neg (by decide), if_pos rfl]
  · rw [isLC_of_ty (by omega), if_neg Bool.false_ne_true, ht]
    refine lcScan_plain r _ (fun x hx => ?_)
    rcases List.mem_cons.1 hx with rfl | hx
    · exact plain (fun c => c == 45 || isNumChar c) rfl rfl x hf2
    · exact plain isNumChar rfl rfl x (hrest x hx)
  · conv => lhs; rw [cmt_split w.text, List.append_assoc]
    rw [lcScan_plain _ _ (fun x hx => by rw [List.eq_of_mem_replicate hx]; decide), WTok.isLC, hty]
    unfold CommentText at hc
    by_cases hl : isLineCmt w.text = true
    · rw [if_pos hl] at hc
      obtain ⟨r', hr, hrn⟩ := hc
      rw [hr, hl, List.cons_append, List.cons_append, lcScan_outside_slash_slash, lcScan_lineRest r r' hrn]
      rfl
    · rw [if_neg hl] at hc
      obtain ⟨rest, hrest, htail⟩ := hc.tail
      obtain ⟨c1, t1, h1, a1, b1, e1⟩ := encL_eq_cons_ascii hrest (by decide)
      obtain ⟨c2, t2, h2, a2, b2, e2⟩ := encL_eq_cons_ascii e1 (by decide)
      rw [h1, h2, asciiB_inj a1 (by decide) (b1.trans (by decide) : asciiB c1 = asciiB '/'),
        asciiB_inj a2 (by decide) (b2.trans (by decide) : asciiB c2 = asciiB '*'), Bool.eq_false_iff.2 hl,
        List.cons_append, List.cons_append, lcScan_outside_slash_star]
      exact lcScan_cmtTail r t2 false (e2 ▸ htail)

/-- is the last token of `ws` a `//` comment (`a` if `ws` is empty)? Folded from the front, so that it goes through `++`
    and along the items of a tree (`lcAfter_toksL`), where `getLast?` would take the list apart at its end. -/
def lcAfter (a : Bool) (ws : List WTok) : Bool := ws.foldl (fun _ w => w.isLC) a

theorem lcAfter_append (a : Bool) (u v : List WTok) : lcAfter a (u ++ v) = lcAfter (lcAfter a u) v := List.foldl_append

theorem lcAfter_eq (ws : List WTok) (a : Bool) : lcAfter a ws = (ws.getLast?.map WTok.isLC).getD a := by
  rcases List.eq_nil_or_concat ws with rfl | ⟨init, x, rfl⟩
  · rfl
  · rw [List.concat_eq_append, lcAfter_append, List.getLast?_concat]; rfl

theorem lcAfter_plain {ws : List WTok} (h : ∀ w ∈ ws, w.ty ≠ 6) : lcAfter false ws = false := by
  rw [lcAfter_eq]
  cases hl : ws.getLast? with
  | none => rfl
  | some w => exact isLC_of_ty (h w (List.mem_of_getLast? hl))

/-- `a` = the scanner is in a `//` comment in front of the stream; then the first token stands behind a line break -/
theorem stream_scan : ∀ (ws : List WTok) (prev : Option WTok) (a : Bool), StreamLex prev ws →
    (a = true → ∀ w rest, ws = w :: rest → 1 ≤ w.off) →
    lcScan (if a then .lineComment else .outside) (renderToks ws) = if lcAfter a ws then .lineComment else .outside
  | [], _, _, _, _ => rfl
  | w :: rest, prev, a, ⟨hw, _, hline, hrest⟩, ha => by
    have ih := stream_scan rest (some w) w.isLC hrest (fun hl => by
      simp only [WTok.isLC, Bool.and_eq_true, beq_iff_eq] at hl
      exact hline hl.1 hl.2)
    rw [show renderToks (w :: rest) = renderTok w ++ renderToks rest from List.flatMap_cons, renderTok, List.append_assoc,
      ws_scan w _ (by cases a; exact .inl rfl; exact .inr ⟨rfl, ha rfl w rest rfl⟩), text_scan hw, ih]
    rfl

theorem scan_stream (ws : List WTok) (prev : Option WTok) (h : StreamLex prev ws) :
    lcScan .outside (renderToks ws) = if lcAfter false ws then .lineComment else .outside :=
  stream_scan ws prev false h nofun

theorem endsInLineComment_lcAfter (ws : List WTok) (prev : Option WTok) (h : StreamLex prev ws) :
    endsInLineComment (renderToks ws) = lcAfter false ws := by
  unfold endsInLineComment
  rw [scan_stream ws prev h]
  cases lcAfter false ws <;> rfl

/-- what the driver does with a tokenizer token: slice the text, decode it, intern identifiers, run numbers through
    the float codec -/
def convTok (lx : LexEnv) (b : Bytes) (t : Lex.Token) : PTok :=
  let text := decodeL (b.extract t.startpos t.endpos).toList
  let ty := tokCode t.ttype
  { ty := ty, text := text, line := t.line, fileid := 0,
    sym := if ty = 0 then lx.symOf text else noSym, fl := if ty = 5 then lx.flOf text else none }

theorem nlB_encL : ∀ (t : List Char), nlB (encL t) = countNewlines t
  | [] => rfl
  | c :: cs => by
    rw [encL_cons, nlB_append, countNewlines_cons, nlB_encL cs]
    congr 1
    by_cases hn : c = '\n'
    · subst hn; rfl
    · rw [nlB_eq_zero (enc_ne (by decide) asciiB_nl (by decide) hn), if_neg hn]

theorem nlB_ws (ind off : Nat) : nlB (encL (addWhitespace ind off)) = off := by
  rw [nlB_encL, countNewlines_addWhitespace]

theorem toSeg_facts (w : WTok) (hw : TokLex w) :
    nlB (toSeg w).nl = w.off ∧ nlB (toSeg w).core = w.nl ∧
      List.replicate (toSeg w).k 32 ++ (toSeg w).core = encL w.text := by
  by_cases h6 : w.ty = 6
  · rw [toSeg_cmt h6]
    refine ⟨by rw [← asciiB_nl, ← encL_replicate _ _ (by decide), nlB_encL, countNewlines_replicate_nl], ?_,
      (enc_cmt_split _).symm⟩
    show nlB (encL (cmtRest w.text)) = w.nl
    rw [WTok.nl, if_pos h6, ← nlB_encL w.text, enc_cmt_split w.text, nlB_append,
      nlB_eq_zero (l := List.replicate _ 32) (fun c hc => by rw [List.eq_of_mem_replicate hc]; decide), Nat.zero_add]
  · -- a token that is not a comment contains no line break
    have hok := toSeg_ok_alone hw
    rw [toSeg_plain h6] at hok ⊢
    exact ⟨nlB_ws _ _, by rw [WTok.nl, if_neg h6]; exact (hok.shape.2.2.1 (plainKind_isComment w)).2.2, rfl⟩

/-- The run over a written token stream that stands at the scan position of a state the loop has got to and reaches to the
    end of the text: every token is read by `seg_reach`; `prev` = the token in front, whose last byte and kind matter to a
    comment and to an identifier. -/
theorem stream_reach (lx : LexEnv) (b : Bytes) : ∀ (ws : List WTok) (prev : Option WTok) (s : State),
    matchAt b s.bytepos (encL (renderToks ws)) = true → s.bytepos + (encL (renderToks ws)).length = b.size →
    StreamLex prev ws → Reach b s → NoInclude s →
    (∀ t2, s.tokens.back? = some t2 → t2.ttype = .begin → ∃ p, prev = some p ∧ p.ty = 1) →
    (∀ w rest, ws = w :: rest → w.ty = 6 → w.off = 0 → prevByte b s.bytepos ≠ some 32) →
    ∃ ts, tokenize b = .ok (s.tokens.toList ++ ts) ∧ ts.map (convTok lx b) = mkToksFrom lx s.line ws
  | [], _, s, _, hend, _, hr, _, _, _ =>
    ⟨[], by rw [hr.tokenize_eq (by rw [← hend]; exact Nat.lt_irrefl _), List.append_nil], rfl⟩
  | w :: rest, prev, s, hm, hend, ⟨hw, hA, hline, hrest⟩, hr, hni, hpt, hpl => by
    rw [encL_renderToks_cons] at hm hend
    obtain ⟨hmw, hmr⟩ := matchAt_append.1 hm
    rw [List.length_append, ← Nat.add_assoc] at hend
    -- what follows the token starts with white space or is a comment
    have hnext : ∀ (P : UInt8 → Prop), (∀ w' rest', rest = w' :: rest' → ∀ x, (x = 32 ∨ x = 10 ∨ x = 47) →
        (1 ≤ w'.off → x = 10) → P x) → OptAll b[s.bytepos + (toSeg w).bytes.length]? P := by
      intro P hP
      cases rest with
      | nil =>
        have h0 : b.size ≤ s.bytepos + (toSeg w).bytes.length := Nat.le_of_eq hend.symm
        rw [Array.getElem?_eq_none h0]; trivial
      | cons w' rest' =>
        obtain ⟨x, hx, hx3, hx10⟩ := toSeg_head w' hrest.1
        obtain ⟨ys, hys⟩ := List.head?_eq_some_iff.1 hx
        rw [encL_renderToks_cons, hys, List.cons_append] at hmr
        rw [(matchAt_cons.1 hmr).1]
        exact hP w' rest' rfl x hx3 hx10
    have hok := toSeg_ok w hw (prevByte b s.bytepos) (s.tokens.back?.map (·.ttype)) _ (hnext _ (fun _ _ _ _ hx3 _ => hx3))
      (fun h6 hl => hnext _ (fun w' rest' hr _ _ hx10 => hx10 (hline h6 hl w' rest' hr)))
      (fun h0 hb => by
        obtain ⟨t2, ht2, hty⟩ := Option.map_eq_some_iff.1 hb
        exact hA h0 (hpt t2 ht2 hty))
      (hpl w rest rfl)
    have hr' := seg_reach (toSeg w) _ s hmw rfl hok hr hni (fun t2 h => by rw [h]; rfl)
    obtain ⟨hnl, hcore, htext⟩ := toSeg_facts w hw
    -- the rest of the stream behind this token: no `/include` was read, `w` is `/begin` if the token is, and `w` does not end
    -- in a blank unless it is a `//` comment, which is followed by a line break
    have hback : ((toSeg w).after s s.bytepos).tokens.back? = some ((toSeg w).token s s.bytepos) := Array.back?_push
    obtain ⟨ts, h1, h2⟩ := stream_reach lx b rest (some w) ((toSeg w).after s s.bytepos) hmr hend hrest hr'
      (by intro t ht; cases hback.symm.trans ht; exact SKind.tt_ne_include _)
      (by
        intro t2 ht2 hbeg
        cases hback.symm.trans ht2
        exact ⟨w, rfl, by rw [← toSeg_tt w hw, show (toSeg w).kind.tt = .begin from hbeg]; rfl⟩)
      (by
        intro w' rest' hr h6 ho
        rw [show ((toSeg w).after s s.bytepos).bytepos = s.bytepos + (toSeg w).bytes.length from rfl,
          prevByte_add hmw (Seg.bytes_ne hok)]
        cases hl : w.isLC with
        | true =>
          simp only [WTok.isLC, Bool.and_eq_true, beq_iff_eq] at hl
          have := hline hl.1 hl.2 w' rest' hr; omega
        | false => exact hok.shape.2.1 (by rw [toSeg_isLine]; exact hl))
    have hext : (b.extract (s.bytepos + (toSeg w).nl.length) (s.bytepos + (toSeg w).bytes.length)).toList = encL w.text := by
      obtain ⟨hmnl, hm2⟩ := matchAt_append.1 hmw
      rw [Seg.bytes, List.length_append, ← Nat.add_assoc, extract_matchAt hm2 (matchAt_len b _ _
        (hend ▸ Nat.le_trans (Nat.le_add_right _ _) (Nat.le_add_right _ _)) hmnl), htext]
    refine ⟨(toSeg w).token s s.bytepos :: ts, by rw [h1]; simp [Seg.after], ?_⟩
    rw [List.map_cons, h2, mkToksFrom]
    congr 1
    · simp only [convTok, Seg.token, hext, decodeL_encL, toSeg_tt w hw, hnl, WTok.toPTok]
    · simp only [Seg.after, hnl, hcore]

/-- the written text of a lexable token stream is tokenized into exactly that stream: the tokenizer succeeds, and
    the driver's conversion of its tokens gives the parser tokens `mkToks lx ws` (kinds, texts, line numbers, interned
    symbols, float annotations) -/
theorem lex_written (lx : LexEnv) (ws : List WTok) (h : StreamLex none ws) :
    ∃ ts, Lex.tokenize (encL (renderToks ws)).toArray = .ok ts ∧
      ts.map (convTok lx (encL (renderToks ws)).toArray) = mkToks lx ws := by
  obtain ⟨ts, h1, h2⟩ := stream_reach lx _ ws none initState (matchAt_toArray _ []) (by simp [initState]) h .init
    (fun t ht => by cases ht) (fun t ht => by cases ht) (fun _ _ _ _ _ => nofun)
  exact ⟨ts, by simpa [initState] using h1, h2⟩

end A2l.Tree
