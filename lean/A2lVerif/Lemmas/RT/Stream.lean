import A2lVerif.Lemmas.TreeMonad
import A2lVerif.Lemmas.RT.Defs
/-! # C01: the parser's cursor primitives on a written token stream -/
namespace A2l.Tree
open A2l.G A2l.Sc

/-- line reached behind a token list -/
def endLine : Nat → List WTok → Nat
  | line, [] => line
  | line, w :: ws => endLine (line + w.off + w.nl) ws

theorem mkToksFrom_append (lx : LexEnv) (xs ys : List WTok) (line : Nat) :
    mkToksFrom lx line (xs ++ ys) = mkToksFrom lx line xs ++ mkToksFrom lx (endLine line xs) ys := by
  induction xs generalizing line with
  | nil => rfl
  | cons w ws ih => simp only [List.cons_append, mkToksFrom, endLine, ih]

theorem mkToksFrom_length (lx : LexEnv) (xs : List WTok) (line : Nat) : (mkToksFrom lx line xs).length = xs.length := by
  induction xs generalizing line with
  | nil => rfl
  | cons w ws ih => simp only [mkToksFrom, List.length_cons, ih]

theorem endLine_append (xs ys : List WTok) (line : Nat) : endLine line (xs ++ ys) = endLine (endLine line xs) ys := by
  induction xs generalizing line with
  | nil => rfl
  | cons w ws ih => simp only [List.cons_append, endLine, ih]

theorem endLine_ge (xs : List WTok) (line : Nat) : line ≤ endLine line xs := by
  induction xs generalizing line with
  | nil => exact Nat.le_refl _
  | cons w ws ih => exact Nat.le_trans (Nat.le_trans (Nat.le_add_right _ _) (Nat.le_add_right _ _)) (ih (line + w.off + w.nl))

/-- the token array of `e` is the written stream `all` -/
def Toks (e : Env) (lx : LexEnv) (all : List WTok) : Prop := e.toks = (mkToks lx all).toArray

theorem Toks.size {e : Env} {lx : LexEnv} {all : List WTok} (h : Toks e lx all) : e.toks.size = all.length := by
  rw [h]; simp [mkToks, mkToksFrom_length]

theorem Toks.at {e : Env} {lx : LexEnv} {all : List WTok} (h : Toks e lx all) {pre rest : List WTok} {w : WTok}
    (hs : all = pre ++ w :: rest) {n : Nat} (hn : n = pre.length) :
    e.toks[n]? = some (w.toPTok lx (endLine 1 pre + w.off)) := by
  subst hn
  rw [h, hs, mkToks, mkToksFrom_append]
  simp only [mkToksFrom, List.getElem?_toArray]
  rw [List.getElem?_append_right (by rw [mkToksFrom_length]; exact Nat.le_refl _)]
  simp [mkToksFrom_length]

theorem Toks.none {e : Env} {lx : LexEnv} {all : List WTok} (h : Toks e lx all) {n : Nat} (hn : all.length ≤ n) :
    e.toks[n]? = none := by
  rw [getElem?_neg]; rw [h.size]; exact Nat.not_lt.2 hn

theorem WTok.toPTok_ty (lx : LexEnv) (w : WTok) (l : Nat) : (w.toPTok lx l).ty = w.ty := rfl
theorem WTok.toPTok_text (lx : LexEnv) (w : WTok) (l : Nat) : (w.toPTok lx l).text = w.text := rfl
theorem WTok.toPTok_line (lx : LexEnv) (w : WTok) (l : Nat) : (w.toPTok lx l).line = l := rfl
theorem WTok.toPTok_fileid (lx : LexEnv) (w : WTok) (l : Nat) : (w.toPTok lx l).fileid = 0 := rfl

/-- `get_line_offset` behind a token that is not the last one of the file: the line breaks in front of it -/
theorem lineOff {e : Env} {lx : LexEnv} {all : List WTok} (h : Toks e lx all) {pre rest : List WTok} {w : WTok}
    (hs : all = pre ++ w :: rest) (hr : rest ≠ []) (s : PState) (hp : s.pos = pre.length + 1) :
    getLineOffset e s = .ok w.off s := by
  have hsize : e.toks.size = pre.length + 1 + rest.length := by
    rw [h.size, hs, List.length_append, List.length_cons, Nat.add_assoc, Nat.add_comm 1]
  have hrl : 0 < rest.length := List.length_pos_iff.2 hr
  rw [getLineOffset_eq]
  rcases List.eq_nil_or_concat pre with hpre | ⟨pre', a, hpre⟩
  · subst hpre
    rw [lineOffset?_first (by rw [hp]; exact fun h' => Nat.lt_irrefl _ h'.1) (h.at hs (n := 0) rfl)
      (show _ = w.off + 1 from Nat.add_comm 1 _)]
  · rw [List.concat_eq_append] at hpre
    subst hpre
    have hs' : all = pre' ++ a :: (w :: rest) := by rw [hs]; simp
    have hp' : s.pos = pre'.length + 2 := by rw [hp]; simp
    rw [hp', lineOffset?_two (d := endLine 1 (pre' ++ [a])) (by rw [hsize]; simp; omega) (h.at hs' rfl) (h.at hs (by simp))
      rfl (by rw [endLine_append]; show endLine 1 pre' + a.off + a.nl = if a.ty = 6 then _ else _
              unfold WTok.nl; split <;> rfl) (Nat.le_add_right _ _)]
    show PRes.ok (endLine 1 (pre' ++ [a]) + w.off - endLine 1 (pre' ++ [a])) s = _
    rw [Nat.add_sub_cancel_left]

/-- `get_line_offset` never panics on a written stream -/
theorem lineOff_any {e : Env} {lx : LexEnv} {all : List WTok} (h : Toks e lx all) (hne : all ≠ []) (s : PState) :
    ∃ n, getLineOffset e s = .ok n s := by
  by_cases hc : s.pos > 1 ∧ s.pos < e.toks.size
  · have hsz := h.size
    have hlt : s.pos - 1 < all.length := by omega
    have hs : all = all.take (s.pos - 1) ++ all[s.pos - 1] :: all.drop (s.pos - 1 + 1) := by
      rw [← List.drop_eq_getElem_cons hlt, List.take_append_drop]
    have hr : all.drop (s.pos - 1 + 1) ≠ [] := by
      intro h0; have := congrArg List.length h0; simp at this; omega
    exact ⟨_, lineOff h hs hr s (by simp; omega)⟩
  · obtain ⟨w, rest, rfl⟩ := List.exists_cons_of_ne_nil hne
    exact ⟨w.off, by rw [getLineOffset_eq, lineOffset?_first hc (h.at (pre := []) rfl rfl)
      (show _ = w.off + 1 from Nat.add_comm 1 _)]⟩

end A2l.Tree
