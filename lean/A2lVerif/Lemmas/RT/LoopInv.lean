import A2lVerif.Lemmas.RT.Lists
/-! # C01: the invariant of the tagged loop when a written element is read back -/
namespace A2l.Tree
open A2l.G A2l.Sc

theorem setAt_get {α} {l : List (List α)} {i j : Nat} {f : List α → List α} {y : List α}
    (h : (setAt l i f)[j]? = some y) : ∃ x, l[j]? = some x ∧ y = if j = i then f x else x := by
  rw [setAt_getElem?] at h
  cases hx : l[j]? with
  | none => rw [hx] at h; cases h
  | some x => rw [hx] at h; exact ⟨x, rfl, by simpa using h.symm⟩

/-- the writer's order of a group whose entries have distinct positive keys and stand in position order: sorted by key -/
theorem sortGE_of_perm_uid {code : List CodeEntry} {l R : List GE} (hp : l.Perm R)
    (hs : R.Pairwise (fun a b => a.uid < b.uid)) (hpos : ∀ g ∈ R, 0 < g.uid) (hps : PosSorted code (R.map (·.ot))) :
    sortGE code l = R := by
  unfold sortGE
  rw [mergeSort_of_perm_uid hp hs hpos]
  apply applyPosG_of_sorted
  unfold PosSorted at hps
  rw [List.filter_map, List.pairwise_map] at hps
  exact hps

theorem Canon.leaf {e : Env} {ty : Nat} {isB : Bool} {its : List ItemTy} {arms : List Arm}
    (hl : e.table.lookup ty = some (.block isB its arms false)) (info : Info) {fields : List Val}
    (hfs : ∀ f ∈ fields, FieldShape f) : Canon e (.block ty info fields [] []) [] :=
  Canon.mk (comments := []) hl [] (fun h => nomatch h) rfl Pointwise.nil (fun _ _ _ _ _ _ h => nomatch h)
    (fun _ h => nomatch h) (fun _ h => nomatch h) hfs

theorem InOrder.leaf {e : Env} {ty : Nat} {isB : Bool} {its : List ItemTy} {arms : List Arm}
    (hl : e.table.lookup ty = some (.block isB its arms false)) {info : Info} (hfid : info.fileid = 0) (fields : List Val) :
    InOrder e (.block ty info fields [] []) [] :=
  InOrder.mk hl [] (fun h => nomatch h) rfl Pointwise.nil (fun h => nomatch h) (fun h => nomatch h) (fun _ h => nomatch h)
    (fun _ h => nomatch h) (fun _ => ⟨rfl, rfl⟩) hfid (fun _ _ _ _ _ _ h => nomatch h)

/-- what is known after the items `P` of a tagged part have been read back: `ch` / `sub` / `cm` = accumulated children,
    their own ordered items, comments (newest first); `R` = the group entries of `P` with their new keys -/
structure LoopInv (c : RCfg) (arms : List Arm) (P : List OT) (ch : List (List Val)) (sub : List (List (List OT)))
    (cm : List Cmt) (R : List GE) (q : Nat) : Prop where
  len1 : ch.length = arms.length
  len2 : sub.length = ch.length
  par : ∀ (i : Nat) (cs : List Val) (ss : List (List OT)), ch[i]? = some cs → sub[i]? = some ss → ss.length = cs.length
  perm : (gesFrom c.e.symbols 0 arms ch sub ++ cm.reverse.map cmtGE).Perm R
  rot : R.map (·.ot) = P
  sorted : R.Pairwise (fun a b => a.uid < b.uid)
  bound : ∀ g ∈ R, 0 < g.uid ∧ g.uid ≤ q
  canon : ∀ (i j : Nat) (cs : List Val) (ss : List (List OT)) (v : Val) (o : List OT),
    ch[i]? = some cs → sub[i]? = some ss → cs[j]? = some v → ss[j]? = some o → Canon c.e v o
  blk : ∀ cs ∈ ch, ∀ v ∈ cs, Val.isBlock v = true
  cnt : ∀ (i : Nat) (cs : List Val), ch[i]? = some cs → cs.length = (P.filter (OT.isArm i)).length
  cmi : ∀ x ∈ cm, x.included = false
  arm : ∀ (k : Nat) (a : Arm) (cs : List Val) (ss : List (List OT)), arms[k]? = some a → ch[k]? = some cs →
    sub[k]? = some ss → (gesArm c.e.symbols k a cs ss).map (·.ot) = P.filter (OT.isArm k)
  cmo : cm.reverse.map (fun x => OT.cmt x.text x.startOff) = P.filter OT.isCmt
  ord : ∀ (i j : Nat) (cs : List Val) (ss : List (List OT)) (v : Val) (o : List OT),
    ch[i]? = some cs → sub[i]? = some ss → cs[j]? = some v → ss[j]? = some o → InOrder c.e v o

/-- the fields that `LoopInv` (on written text) and `LInv` of Lemmas/PO/LInv.lean (on arbitrary input) share: all of `LoopInv`
    but `canon`; the two loops' steps are proved once, here -/
structure LoopCore (e : Env) (arms : List Arm) (P : List OT) (ch : List (List Val)) (sub : List (List (List OT)))
    (cm : List Cmt) (R : List GE) (q : Nat) : Prop where
  len1 : ch.length = arms.length
  len2 : sub.length = ch.length
  par : ∀ (i : Nat) (cs : List Val) (ss : List (List OT)), ch[i]? = some cs → sub[i]? = some ss → ss.length = cs.length
  perm : (gesFrom e.symbols 0 arms ch sub ++ cm.reverse.map cmtGE).Perm R
  rot : R.map (·.ot) = P
  sorted : R.Pairwise (fun a b => a.uid < b.uid)
  bound : ∀ g ∈ R, 0 < g.uid ∧ g.uid ≤ q
  blk : ∀ cs ∈ ch, ∀ v ∈ cs, Val.isBlock v = true
  cnt : ∀ (i : Nat) (cs : List Val), ch[i]? = some cs → cs.length = (P.filter (OT.isArm i)).length
  cmi : ∀ x ∈ cm, x.included = false
  arm : ∀ (k : Nat) (a : Arm) (cs : List Val) (ss : List (List OT)), arms[k]? = some a → ch[k]? = some cs →
    sub[k]? = some ss → (gesArm e.symbols k a cs ss).map (·.ot) = P.filter (OT.isArm k)
  cmo : cm.reverse.map (fun x => OT.cmt x.text x.startOff) = P.filter OT.isCmt
  ord : ∀ (i j : Nat) (cs : List Val) (ss : List (List OT)) (v : Val) (o : List OT),
    ch[i]? = some cs → sub[i]? = some ss → cs[j]? = some v → ss[j]? = some o → InOrder e v o

theorem LoopCore.init (e : Env) (arms : List Arm) (q : Nat) :
    LoopCore e arms [] (arms.map fun _ => []) (arms.map fun _ => []) [] [] q where
  len1 := by simp
  len2 := by simp
  par := fun i cs ss h1 h2 => by rw [getElem?_map_nil h1, getElem?_map_nil h2]; rfl
  perm := by simp [gesFrom_nil]
  rot := rfl
  sorted := List.Pairwise.nil
  bound := fun g hg => nomatch hg
  blk := fun cs hcs v hv => by
    obtain ⟨j, hj⟩ := List.getElem?_of_mem hcs
    rw [getElem?_map_nil hj] at hv; cases hv
  cnt := fun i cs h1 => by rw [getElem?_map_nil h1]; rfl
  cmi := fun x hx => nomatch hx
  arm := fun k a cs ss _ h1 h2 => by rw [getElem?_map_nil h1, getElem?_map_nil h2]; rfl
  cmo := rfl
  ord := fun i j cs ss v o h1 _ h3 _ => by rw [getElem?_map_nil h1] at h3; cases h3

section
variable {e : Env} {arms : List Arm} {P : List OT} {ch : List (List Val)} {sub : List (List (List OT))} {cm : List Cmt}
  {R : List GE} {q : Nat}

theorem LoopCore.cmtStep (h : LoopCore e arms P ch sub cm R q) (text : List Char) (line off : Nat) :
    LoopCore e arms (P ++ [.cmt text off]) ch sub (⟨text, line, q + 1, off, false⟩ :: cm)
      (R ++ [⟨q + 1, line, .cmt text off⟩]) (q + 1) where
  len1 := h.len1
  len2 := h.len2
  par := h.par
  perm := by
    simp only [List.reverse_cons, List.map_append, List.map_cons, List.map_nil, ← List.append_assoc]
    exact List.Perm.append_right _ h.perm
  rot := by simp [h.rot]
  sorted := (sorted_bound_snoc h.sorted h.bound (Nat.lt_succ_self q) (Nat.le_refl _)).1
  bound := (sorted_bound_snoc h.sorted h.bound (Nat.lt_succ_self q) (Nat.le_refl _)).2
  blk := h.blk
  cnt := by
    intro i cs h1
    rw [h.cnt i cs h1, List.filter_append]
    simp [OT.isArm]
  cmi := List.forall_mem_cons.2 ⟨rfl, h.cmi⟩
  arm := by
    intro k a cs ss h1 h2 h3
    rw [h.arm k a cs ss h1 h2 h3, List.filter_append]
    simp [OT.isArm]
  cmo := by
    rw [List.filter_append, ← h.cmo]
    simp [List.filter, OT.isCmt]
  ord := h.ord

/-- a relation between the sub-elements and their items that holds so far, and of the new sub-element, holds after
    the step -/
theorem LoopCore.childRel {α β} {ch : List (List α)} {sub : List (List β)} {Q : α → β → Prop} {v : α} {its : β} (i : Nat)
    (hpar : ∀ (i : Nat) (cs : List α) (ss : List β), ch[i]? = some cs → sub[i]? = some ss → ss.length = cs.length)
    (hold : ∀ (i j : Nat) (cs : List α) (ss : List β) (v : α) (o : β), ch[i]? = some cs → sub[i]? = some ss →
      cs[j]? = some v → ss[j]? = some o → Q v o) (hnew : Q v its) :
    ∀ (j k : Nat) (cs : List α) (ss : List β) (v' : α) (o : β), (setAt ch i (· ++ [v]))[j]? = some cs →
      (setAt sub i (· ++ [its]))[j]? = some ss → cs[k]? = some v' → ss[k]? = some o → Q v' o :=
  (Pointwise.setAt (Pointwise.unflat hold) i _ _ (fun cs ss hc hs hR => hR.snoc (hpar i cs ss hc hs) hnew)).flat

theorem LoopCore.childStep {q' : Nat} (h : LoopCore e arms P ch sub cm R q) {i : Nat} {a : Arm}
    (ha : arms[i]? = some a) {cty : Nat} {cinfo : Info} {cfields : List Val} {cch : List (List Val)} {ccm : List Cmt}
    {its : List OT} (hord : InOrder e (.block cty cinfo cfields cch ccm) its) (hu1 : q < cinfo.uid)
    (hu2 : cinfo.uid ≤ q') :
    LoopCore e arms
      (P ++ [.node i (symText e.symbols a.tag) a.block cty cinfo.startOff cinfo.endOff (cfields.map normField) its])
      (setAt ch i (· ++ [.block cty cinfo cfields cch ccm])) (setAt sub i (· ++ [its])) cm
      (R ++ [⟨cinfo.uid, cinfo.line,
        .node i (symText e.symbols a.tag) a.block cty cinfo.startOff cinfo.endOff (cfields.map normField) its⟩]) q' where
  len1 := by rw [setAt_length]; exact h.len1
  len2 := by rw [setAt_length, setAt_length]; exact h.len2
  par := Pointwise.setAt h.par i _ _ (fun cs ss _ _ hlen => by
    rw [List.length_append, List.length_append, hlen]; rfl)
  perm := by
    have hp := gesFrom_setAt e.symbols (.block cty cinfo cfields cch ccm) its arms 0 i ch sub a ha h.len1
      (by rw [h.len2, h.len1]) (h.par i)
    simp only [Nat.zero_add, childGE] at hp
    refine ((List.Perm.append_right _ hp).trans ?_).trans (List.Perm.append_right _ h.perm)
    simp only [List.append_assoc]
    exact List.Perm.append_left _ List.perm_append_comm
  rot := by simp [h.rot]
  sorted := (sorted_bound_snoc h.sorted h.bound hu1 hu2).1
  bound := (sorted_bound_snoc h.sorted h.bound hu1 hu2).2
  blk := by
    intro cs hcs v hv
    obtain ⟨j, hj⟩ := List.getElem?_of_mem hcs
    obtain ⟨cs0, hc0, rfl⟩ := setAt_get hj
    have hold := h.blk cs0 (List.mem_of_getElem? hc0)
    split at hv
    · rcases List.mem_append.1 hv with hv | hv
      · exact hold v hv
      · simp only [List.mem_singleton] at hv; subst hv; rfl
    · exact hold v hv
  cnt := by
    intro j cs h1
    obtain ⟨cs0, hc0, rfl⟩ := setAt_get h1
    have := h.cnt j cs0 hc0
    rw [List.filter_append]
    by_cases hji : j = i
    · subst hji; simp [OT.isArm, this]
    · have : (i == j) = false := beq_false_of_ne (fun h => hji h.symm)
      simp [OT.isArm, this, hji, h.cnt j cs0 hc0]
  cmi := h.cmi
  arm := by
    intro k a' cs ss h1 h2 h3
    obtain ⟨cs0, hc0, rfl⟩ := setAt_get h2
    obtain ⟨ss0, hs0, rfl⟩ := setAt_get h3
    have hold := h.arm k a' cs0 ss0 h1 hc0 hs0
    rw [List.filter_append]
    by_cases hki : k = i
    · subst hki
      have haa : a' = a := by rw [ha] at h1; exact (Option.some.inj h1).symm
      subst haa
      rw [if_pos rfl, if_pos rfl, gesArm_append _ _ _ _ _ _ _ (h.par k cs0 ss0 hc0 hs0), List.map_append, hold]
      simp [childGE, OT.isArm]
    · rw [if_neg hki, if_neg hki, hold]
      have : (i == k) = false := beq_false_of_ne (fun h => hki h.symm)
      simp [OT.isArm, this]
  cmo := by
    rw [List.filter_append, ← h.cmo]
    simp [List.filter, OT.isCmt]
  ord := LoopCore.childRel i h.par h.ord hord

end

theorem LoopInv.init (c : RCfg) (arms : List Arm) (q : Nat) :
    LoopInv c arms [] (arms.map fun _ => []) (arms.map fun _ => []) [] [] q :=
  { LoopCore.init c.e arms q with
    canon := fun i j cs ss v o h1 _ h3 _ => by rw [getElem?_map_nil h1] at h3; cases h3 }

variable {c : RCfg} {arms : List Arm} {P : List OT} {ch : List (List Val)} {sub : List (List (List OT))} {cm : List Cmt}
  {R : List GE} {q : Nat}

theorem LoopInv.core (h : LoopInv c arms P ch sub cm R q) : LoopCore c.e arms P ch sub cm R q := { h with }

theorem LoopInv.mono {q' : Nat} (h : LoopInv c arms P ch sub cm R q) (hq : q ≤ q') :
    LoopInv c arms P ch sub cm R q' :=
  { h with bound := fun g hg => ⟨(h.bound g hg).1, Nat.le_trans (h.bound g hg).2 hq⟩ }

theorem LoopInv.cmtStep (h : LoopInv c arms P ch sub cm R q) (text : List Char) (line off : Nat) :
    LoopInv c arms (P ++ [.cmt text off]) ch sub (⟨text, line, q + 1, off, false⟩ :: cm)
      (R ++ [⟨q + 1, line, .cmt text off⟩]) (q + 1) :=
  { h.core.cmtStep text line off with canon := h.canon }

theorem LoopInv.childStep {q' : Nat} (h : LoopInv c arms P ch sub cm R q) {i : Nat} {a : Arm}
    (ha : arms[i]? = some a) {cty : Nat} {cinfo : Info} {cfields : List Val} {cch : List (List Val)} {ccm : List Cmt}
    {its : List OT} (hcanon : Canon c.e (.block cty cinfo cfields cch ccm) its)
    (hord : InOrder c.e (.block cty cinfo cfields cch ccm) its) (hu1 : q < cinfo.uid)
    (hu2 : cinfo.uid ≤ q') :
    LoopInv c arms
      (P ++ [.node i (symText c.e.symbols a.tag) a.block cty cinfo.startOff cinfo.endOff (cfields.map normField) its])
      (setAt ch i (· ++ [.block cty cinfo cfields cch ccm])) (setAt sub i (· ++ [its])) cm
      (R ++ [⟨cinfo.uid, cinfo.line,
        .node i (symText c.e.symbols a.tag) a.block cty cinfo.startOff cinfo.endOff (cfields.map normField) its⟩]) q' :=
  { h.core.childStep ha hord hu1 hu2 with canon := LoopCore.childRel i h.par h.canon hcanon }

/-- at the end of the loop: the accumulated children and comments are in canonical relation to the items read -/
theorem LoopInv.toCanon (h : LoopInv c arms P ch sub cm R q)
    {ty : Nat} {isB : Bool} {its : List ItemTy} (hl : c.e.table.lookup ty = some (.block isB its arms true))
    (hps : PosSorted c.e.code P) (info : Info) (fields : List Val) (hfs : ∀ f ∈ fields, FieldShape f) :
    Canon c.e (.block ty info fields ch cm.reverse) P := by
  have hc := Canon.mk (e := c.e) (info := info) (fields := fields) (comments := cm.reverse) hl sub (fun _ => h.len1)
    h.len2 h.par h.canon h.blk (by intro x hx; exact h.cmi x (List.mem_reverse.1 hx)) hfs
  rwa [sortGE_of_perm_uid h.perm h.sorted (fun g hg => (h.bound g hg).1) (h.rot ▸ hps), h.rot] at hc

/-- at the end of the loop: the accumulated lists stand in the order of the items read -/
theorem LoopInv.toInOrder (h : LoopInv c arms P ch sub cm R q)
    {ty : Nat} {isB : Bool} {its : List ItemTy} (hl : c.e.table.lookup ty = some (.block isB its arms true))
    (info : Info) (hfid : info.fileid = 0) (fields : List Val) :
    InOrder c.e (.block ty info fields ch cm.reverse) P :=
  InOrder.mk hl sub (fun _ => h.len1) h.len2 h.par (fun _ => h.arm) (fun _ => h.cmo) h.blk
    (by intro x hx; exact h.cmi x (List.mem_reverse.1 hx)) (by intro h0; cases h0) hfid h.ord

/-- what the multiplicity checks behind the loop ask for: a required arm without entry repeats, outside strict mode -/
theorem LoopInv.required (h : LoopInv c arms P ch sub cm R q) (hmult : MultOk c.e.strict arms P) :
    ∀ z ∈ arms.zip ch, z.1.required = true → z.2.isEmpty = true → z.1.repeat_ = true ∧ c.e.strict = false := by
  intro z hz hreq hemp
  obtain ⟨j, hj⟩ := List.getElem?_of_mem hz
  rw [List.getElem?_zip_eq_some] at hj
  refine (hmult j z.1 hj.1).2 hreq ?_
  rw [← h.cnt j z.2 hj.2, List.isEmpty_iff.1 hemp]; rfl

end A2l.Tree
