import A2lVerif.Lemmas.RT.Lists
import A2lVerif.Lemmas.TreeWriter
/-! # C01: the text of a value in canonical relation to an ordered tree is the text of the tree's token stream -/
namespace A2l.Tree
open A2l.G A2l.Sc

/-- "for every sufficiently large writer fuel" -/
def Ev (P : Nat → Prop) : Prop := ∃ F0, ∀ F, F0 ≤ F → P F

theorem Ev.of_all {P : Nat → Prop} (h : ∀ F, P F) : Ev P := ⟨0, fun F _ => h F⟩
theorem Ev.and {P Q : Nat → Prop} (hp : Ev P) (hq : Ev Q) : Ev (fun F => P F ∧ Q F) := by
  obtain ⟨a, ha⟩ := hp; obtain ⟨b, hb⟩ := hq
  exact ⟨max a b, fun F hF => ⟨ha F (Nat.le_trans (Nat.le_max_left a b) hF), hb F (Nat.le_trans (Nat.le_max_right a b) hF)⟩⟩
theorem Ev.mono {P Q : Nat → Prop} (hp : Ev P) (h : ∀ F, P F → Q F) : Ev Q := by
  obtain ⟨a, ha⟩ := hp; exact ⟨a, fun F hF => h F (ha F hF)⟩
/-- one unfolding step of a fuel-indexed function -/
theorem Ev.succ {P Q : Nat → Prop} (hp : Ev P) (h : ∀ F, P F → Q (F + 1)) : Ev Q := by
  obtain ⟨a, ha⟩ := hp
  refine ⟨a + 1, fun F hF => ?_⟩
  obtain ⟨f, rfl, -⟩ := fuel_add (k := 1) hF
  exact h f (ha f (Nat.le_of_succ_le_succ hF))
theorem Ev.of_succ {P : Nat → Prop} (h : ∀ F, P (F + 1)) : Ev P := (Ev.of_all fun _ => trivial).succ fun F _ => h F
theorem Ev.forall_mem {α} {P : α → Nat → Prop} : ∀ (l : List α), (∀ x ∈ l, Ev (P x)) → Ev (fun F => ∀ x ∈ l, P x F)
  | [], _ => Ev.of_all (fun _ x hx => by cases hx)
  | a :: l, h => by
    have h1 := h a List.mem_cons_self
    have h2 := Ev.forall_mem l (fun x hx => h x (List.mem_cons_of_mem _ hx))
    refine (h1.and h2).mono (fun F hF x hx => ?_)
    rcases List.mem_cons.1 hx with rfl | hx
    · exact hF.1
    · exact hF.2 x hx

/-! ## parameters -/

theorem renderToks_append (a b : List WTok) : renderToks (a ++ b) = renderToks a ++ renderToks b := by
  simp [renderToks]

theorem renderToks_nil : renderToks [] = [] := rfl

theorem writeItem_scalar (e : Env) (indent : Nat) {v : Val} (h : Val.isScalar v = true) (F : Nat) :
    writeItem (F + 1) e indent v = renderToks (scalarToks indent v) := by
  cases v with
  | arr vs | seq vs | block ty info fields ch cm => cases h
  | _ => simp [writeItem, scalarToks, renderToks, renderTok]

/-- a list written with the per-element decreasing fuel of `writeItems` -/
theorem writeItems_ev (e : Env) (toks : Nat → Val → List WTok) : ∀ (vs : List Val),
    (∀ v ∈ vs, Ev (fun F => ∀ indent, writeItem F e indent v = renderToks (toks indent v))) →
    Ev (fun F => ∀ indent, writeItems F e indent vs = renderToks (vs.flatMap (toks indent)))
  | [], _ => Ev.of_succ fun F indent => by simp [writeItems, renderToks]
  | v :: vs, h => by
    have h1 := h v List.mem_cons_self
    have h2 := writeItems_ev e toks vs (fun x hx => h x (List.mem_cons_of_mem _ hx))
    refine (h1.and h2).succ (fun F hF indent => ?_)
    rw [writeItems, hF.1 indent, hF.2 indent]
    simp [renderToks]

theorem writeItem_elem (e : Env) {v : Val} (h : ElemShape v) :
    Ev (fun F => ∀ indent, writeItem F e indent v = renderToks (elemToks indent v)) := by
  have sc : ∀ {x : Val}, Val.isScalar x = true →
      Ev (fun F => ∀ indent, writeItem F e indent x = renderToks (scalarToks indent x)) := fun hs =>
    Ev.of_succ fun F indent => writeItem_scalar e indent hs F
  cases v with
  | block ty info fields ch cm =>
    refine (writeItems_ev e scalarToks fields (fun x hx => sc (h x hx))).succ (fun F hF indent => ?_)
    rw [writeItem, hF indent]
    simp [elemToks]
  | _ => exact sc h

theorem writeItem_field (e : Env) {v : Val} (h : FieldShape v) :
    Ev (fun F => ∀ indent, writeItem F e indent v = renderToks (fieldToks indent v)) := by
  cases v with
  | arr vs | seq vs =>
    refine (writeItems_ev e elemToks vs (fun x hx => writeItem_elem e (h x hx))).succ (fun F hF indent => ?_)
    rw [writeItem, hF indent]; rfl
  | _ => exact writeItem_elem e h

theorem writeItems_fields (e : Env) (fs : List Val) (h : ∀ f ∈ fs, FieldShape f) :
    Ev (fun F => ∀ indent, writeItems F e indent fs = renderToks (fieldsToks indent fs)) :=
  writeItems_ev e fieldToks fs (fun x hx => writeItem_field e (h x hx))

theorem fieldToks_normField (ind : Nat) (v : Val) : fieldToks ind (normField v) = fieldToks ind v := by
  have he : ∀ x, elemToks ind (normElem x) = elemToks ind x := by
    intro x; cases x <;> rfl
  cases v with
  | arr vs | seq vs => simp only [normField, fieldToks, List.flatMap_map, he]
  | _ => rfl

theorem fieldsToks_normField (ind : Nat) (fs : List Val) : fieldsToks ind (fs.map normField) = fieldsToks ind fs := by
  simp [fieldsToks, List.flatMap_map, fieldToks_normField]

/-! ## the tagged part -/

/-- normalised parameters of a block value -/
def Val.fieldsN : Val → List Val
  | .block _ _ fields _ _ => fields.map normField
  | _ => []

/-- the text `stringify` produces for `c` is the text of its parameters followed by the text of the items `its` -/
def StrEq (e : Env) (c : Val) (its : List OT) (F : Nat) : Prop :=
  ∀ indent, stringify F e indent c = renderToks (fieldsToks indent c.fieldsN ++ OT.toksL indent (OT.fixL false its))

/-- text of the parameters and items of an element whose tag is written at indent level `ind` -/
def OT.bodyText (ind : Nat) : OT → List Char
  | .node _ _ _ _ _ _ fields items =>
    renderToks (fieldsToks (ind + 1) fields ++ OT.toksL (ind + 1) (OT.fixL false items))
  | .cmt text _ => text

theorem posRestrict_normField (code : List CodeEntry) (ty : Nat) (fields : List Val) :
    posRestrict code ty (fields.map normField) = posRestrict code ty fields := by
  cases fields with
  | nil => rfl
  | cons f fs => cases f <;> rfl

theorem groupOfArm_ev (e : Env) (i : Nat) (arm : Arm) : ∀ (cs : List Val) (ss : List (List OT)), ss.length = cs.length →
    (∀ c ∈ cs, Val.isBlock c = true) → Pointwise (fun c o => Ev (StrEq e c o)) cs ss →
    Ev (fun F => ∀ indent, groupOfArm F e indent arm cs =
      (gesArm e.symbols i arm cs ss).map (GE.toTag e.code (OT.bodyText indent)))
  | [], [], _, _, _ => Ev.of_succ fun F indent => by simp [groupOfArm, gesArm]
  | [], _ :: _, h, _, _ => nomatch h
  | _ :: _, [], h, _, _ => nomatch h
  | c :: cs, o :: ss, hlen, hblk, hstr => by
    have h2 := groupOfArm_ev e i arm cs ss (Nat.succ.inj hlen) (fun x hx => hblk x (List.mem_cons_of_mem _ hx)) hstr.tail
    refine (hstr.head.and h2).succ (fun F hF indent => ?_)
    obtain ⟨cty, cinfo, cfields, cch, ccm, rfl⟩ := Val.eq_block_of_isBlock (hblk c List.mem_cons_self)
    rw [groupOfArm, hF.2 indent, hF.1 (indent + 1)]
    simp [gesArm, childGE, GE.toTag, OT.bodyText, Val.fieldsN, posRestrict_normField]

theorem groupOf_ev (e : Env) : ∀ (arms : List Arm) (k : Nat) (children : List (List Val)) (sub : List (List (List OT))),
    children.length = arms.length → sub.length = children.length →
    Pointwise (fun cs ss => ss.length = cs.length) children sub →
    (∀ cs ∈ children, ∀ c ∈ cs, Val.isBlock c = true) →
    Pointwise (Pointwise fun c o => Ev (StrEq e c o)) children sub →
    Ev (fun F => ∀ indent, groupOf F e indent arms children =
      (gesFrom e.symbols k arms children sub).map (GE.toTag e.code (OT.bodyText indent)))
  | [], k, children, sub, h1, _, _, _, _ => Ev.of_succ fun F indent => by cases children <;> simp [groupOf, gesFrom]
  | a :: arms, k, [], _, h1, _, _, _, _ => nomatch h1
  | a :: arms, k, _ :: _, [], _, h2, _, _, _ => nomatch h2
  | a :: arms, k, cs :: children, ss :: sub, h1, h2, hpar, hblk, hstr => by
    have e1 := groupOfArm_ev e k a cs ss hpar.head (hblk cs List.mem_cons_self) hstr.head
    have e2 := groupOf_ev e arms (k + 1) children sub (Nat.succ.inj h1) (Nat.succ.inj h2) hpar.tail
      (fun cs' hcs' => hblk cs' (List.mem_cons_of_mem _ hcs')) hstr.tail
    refine (e1.and e2).succ (fun F hF indent => ?_)
    rw [groupOf, hF.1 indent, hF.2 indent, gesFrom, List.map_append]

/-! ## the end offset: `ends_in_line_comment` does not depend on the indentation -/

/-- kind, text and line offset of a written token (everything but the indent level) -/
def okey (w : WTok) : Nat × List Char × Nat := (w.ty, w.text, w.off)

theorem renderTok_okey {w w' : WTok} (h : okey w = okey w') (h0 : w.ty = 6 ∨ w.off = 0) : renderTok w = renderTok w' := by
  obtain ⟨t, x, o, i⟩ := w
  obtain ⟨t', x', o', i'⟩ := w'
  simp only [okey, Prod.mk.injEq] at h
  obtain ⟨rfl, rfl, rfl⟩ := h
  simp only [renderTok]
  rcases h0 with h0 | h0
  · simp only at h0; simp [h0]
  · simp only at h0; subst h0; simp [addWhitespace]

/-- two token streams that differ in the indent levels only: the scanner of `ends_in_line_comment` ends in the same
    state on their texts, behind any text `X`, from any state -/
theorem lcScan_okey (a b : List WTok) (h : a.map okey = b.map okey) (X : List Char) (s : LcState) :
    lcScan s (X ++ renderToks a) = lcScan s (X ++ renderToks b) := by
  induction a generalizing b X with
  | nil =>
    cases b with
    | nil => rfl
    | cons _ _ => cases h
  | cons w a ih =>
    cases b with
    | nil => cases h
    | cons w' b =>
      rw [List.map_cons, List.map_cons, List.cons.injEq] at h
      have ih := ih b h.2
      simp only [renderToks, List.flatMap_cons] at ih ⊢
      by_cases h0 : w.ty = 6 ∨ w.off = 0
      · rw [renderTok_okey h.1 h0, ← List.append_assoc X, ← List.append_assoc X]
        exact ih _
      · -- the white space in front of `w` may stand behind any text (`lcScan_ws_indent`); then go on behind `w`
        have hk := h.1
        simp only [okey, Prod.mk.injEq] at hk
        have hty : w.ty ≠ 6 := fun h => h0 (.inl h)
        have := ih (X ++ (addWhitespace w'.ind w.off ++ w.text))
        simp only [List.append_assoc] at this
        rw [renderTok, renderTok, if_neg hty, if_neg (hk.1 ▸ hty), ← hk.2.1, ← hk.2.2, List.append_assoc, List.append_assoc,
          lcScan_ws_indent X _ w.ind w'.ind w.off (fun h => h0 (.inr h)) s]
        exact this

theorem flatMap_okey {α} (f g : α → List WTok) (h : ∀ x, (f x).map okey = (g x).map okey) :
    ∀ (l : List α), (l.flatMap f).map okey = (l.flatMap g).map okey
  | [] => rfl
  | x :: l => by simp only [List.flatMap_cons, List.map_append, h x, flatMap_okey f g h l]

theorem fieldsToks_okey (i j : Nat) (fs : List Val) : (fieldsToks i fs).map okey = (fieldsToks j fs).map okey := by
  have hs : ∀ v, (scalarToks i v).map okey = (scalarToks j v).map okey := fun v => by cases v <;> rfl
  have he : ∀ v, (elemToks i v).map okey = (elemToks j v).map okey := fun v => by
    cases v with
    | block ty info fields ch cm => exact flatMap_okey _ _ hs fields
    | _ => rfl
  refine flatMap_okey _ _ (fun v => ?_) fs
  cases v with
  | arr vs | seq vs => exact flatMap_okey _ _ he vs
  | block ty info fields ch cm => exact he (.block ty info fields ch cm)
  | _ => rfl

mutual
theorem toks_okey : ∀ (o : OT) (i j : Nat), (o.toks i).map okey = (o.toks j).map okey
  | .cmt _ _, _, _ => rfl
  | .node _ tag blk _ so eo fields items, i, j => by
    simp only [OT.toks, List.map_append, fieldsToks_okey (i + 1) (j + 1) fields, toksL_okey items (i + 1) (j + 1)]
    cases blk <;> rfl
theorem toksL_okey : ∀ (xs : List OT) (i j : Nat), (OT.toksL i xs).map okey = (OT.toksL j xs).map okey
  | [], _, _ => rfl
  | x :: xs, i, j => by
    simp only [OT.toksL, List.map_append, toks_okey x i j, toksL_okey xs i j]
end

/-- **the indentation does not matter**: what `ends_in_line_comment` says of the text of a block's content, written at
    any indent level, is `OT.endsLC` -/
theorem endsInLineComment_body (i : Nat) (fields : List Val) (items : List OT) :
    endsInLineComment (renderToks (fieldsToks i fields ++ OT.toksL i items)) = OT.endsLC fields items := by
  have := lcScan_okey (fieldsToks i fields ++ OT.toksL i items) (fieldsToks 0 fields ++ OT.toksL 0 items)
    (by rw [List.map_append, List.map_append, fieldsToks_okey i 0, toksL_okey items i 0]) [] .outside
  rw [List.nil_append, List.nil_append] at this
  unfold OT.endsLC endsInLineComment
  rw [this]

/-- the end offset the writer computes from the text is the one of the bumped tree -/
theorem endOffOf_body (i : Nat) (eo : Nat) (fields : List Val) (items : List OT) :
    endOffOf eo (renderToks (fieldsToks i fields ++ OT.toksL i items)) = OT.fixEo true eo fields items := by
  unfold endOffOf OT.fixEo
  rw [endsInLineComment_body]
  simp

/-- the loop of `add_group` over the entries `gs` writes the token stream of their items with bumped offsets -/
theorem addGroupGo_toTag (code : List CodeEntry) (indent : Nat) : ∀ (alc : Bool) (gs : List GE),
    addGroupGo indent alc (gs.map (GE.toTag code (OT.bodyText indent))) =
      renderToks (OT.toksL indent (OT.fixL alc (gs.map (·.ot))))
  | _, [] => by simp [addGroupGo, OT.fixL, OT.toksL, renderToks]
  | alc, ⟨uid, line, .cmt text off⟩ :: gs => by
    simp only [List.map_cons, GE.toTag, addGroupGo, if_true, Bool.false_eq_true, if_false, OT.fixL, OT.toksL, OT.toks,
      renderToks_append, addGroupGo_toTag code indent _ gs]
    simp [renderToks, renderTok]
  | alc, ⟨uid, line, .node arm tag blk ty so eo fields items⟩ :: gs => by
    simp only [List.map_cons, GE.toTag, addGroupGo, Bool.false_eq_true, if_false, OT.fixL, OT.toksL, OT.toks,
      renderToks_append, addGroupGo_toTag code indent false gs, OT.bodyText]
    cases blk
    · simp [headToks, closeToks, renderToks, renderTok]
    · have hb : "/begin ".toList = beginText ++ addWhitespace indent 0 := by
        rw [beginText_eq, toList_of_eq_ofList (s := "/begin ") (by with_reducible rfl)]; rfl
      have he : "/end ".toList = endText ++ addWhitespace indent 0 := by
        rw [endText_eq, toList_of_eq_ofList (s := "/end ") (by with_reducible rfl)]; rfl
      simp only [if_true, hb, he, headToks, closeToks]
      rw [← renderToks_append, endOffOf_body (indent + 1), renderToks_append]
      simp [renderToks, renderTok]

theorem cmts_eq (code : List CodeEntry) (indent : Nat) (comments : List Cmt) (hcm : ∀ cm ∈ comments, cm.included = false) :
    comments.map (fun c => (⟨true, [], c.uid, c.line, c.startOff, 0, false, c.text, none, c.included⟩ : TagInfo)) =
      (comments.map cmtGE).map (GE.toTag code (OT.bodyText indent)) := by
  rw [List.map_map]
  apply List.map_congr_left
  intro cm hcm'
  simp [cmtGE, GE.toTag, hcm cm hcm']

/-- **the text of a value in canonical relation to `items`**: parameters, then the items in order -/
theorem canon_text (e : Env) {v : Val} {items : List OT} (h : Canon e v items) : Ev (StrEq e v items) := by
  induction h with
  | @mk ty info fields children comments isB its arms ht hl sub hlen hsub hsub2 hch hblk hcm hfs ih =>
    have eF := writeItems_fields e fields hfs
    cases ht with
    | false =>
      refine eF.succ (fun F hF indent => ?_)
      rw [stringify]
      simp only [hl, Bool.false_eq_true, if_false, hF indent, Val.fieldsN, fieldsToks_normField, OT.fixL, OT.toksL,
        List.append_nil]
    | true =>
      have hlen' := hlen rfl
      have eG := groupOf_ev e arms 0 children sub hlen' hsub hsub2 hblk
        (Pointwise.unflat ih)
      refine (eF.and eG).succ (fun F hF indent => ?_)
      rw [stringify]
      simp only [hl, if_true, hF.1 indent, hF.2 indent]
      have hc := cmts_eq e.code indent comments hcm
      rw [hc, ← List.map_append]
      unfold addGroup
      rw [sortGE_toTag, addGroupGo_toTag]
      simp only [Val.fieldsN, fieldsToks_normField, renderToks_append]

theorem bumpOff_idem (alc : Bool) (n : Nat) : bumpOff alc (bumpOff alc n) = bumpOff alc n := by
  unfold bumpOff
  by_cases h : alc = true ∧ n = 0
  · simp [h]
  · rw [if_neg h, if_neg h]

theorem fixEo_idem (blk : Bool) (eo : Nat) (fields : List Val) (items : List OT) :
    OT.fixEo blk (OT.fixEo blk eo fields items) fields items = OT.fixEo blk eo fields items := by
  unfold OT.fixEo
  by_cases h : blk = true ∧ eo = 0 ∧ OT.endsLC fields items = true
  · simp [h]
  · rw [if_neg h, if_neg h]

mutual
theorem fix_idem_node : ∀ (o : OT), OT.fixL false (OT.fixL false o.itemsOf) = OT.fixL false o.itemsOf
  | .node _ _ _ _ _ _ _ items => fixL_idem items false
  | .cmt _ _ => by simp [OT.itemsOf, OT.fixL]
/-- **bumping the offsets behind line comments is idempotent**: the second write changes nothing -/
theorem fixL_idem : ∀ (l : List OT) (alc : Bool), OT.fixL alc (OT.fixL alc l) = OT.fixL alc l
  | [], _ => by simp [OT.fixL]
  | .cmt text off :: rest, alc => by
    simp only [OT.fixL, bumpOff_idem, fixL_idem rest]
  | .node arm tag blk ty so eo fields items :: rest, alc => by
    have h1 := fix_idem_node (.node arm tag blk ty so eo fields items)
    simp only [OT.itemsOf] at h1
    simp only [OT.fixL, bumpOff_idem, fixL_idem rest, h1, fixEo_idem]
end

end A2l.Tree
