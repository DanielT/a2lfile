import A2lVerif.Lemmas.RT.LexBytes
/-! # C01: the tokenizer on one token with the white space in front of it (a segment of bytes) -/
namespace A2l.Lex

inductive SKind where
  | ident | kbegin | kend | str (body : List UInt8) | num | block | line
  deriving Repr

/-- one token of the text with the white space in front of it: `nl` = white space that does not belong to the token,
    `k` = blanks that do (comments only: the tokenizer moves the start of a comment back over the blanks in front of
    it), `core` = the bytes from the first non-blank byte on -/
structure Seg where
  nl : List UInt8
  k : Nat
  core : List UInt8
  kind : SKind

def SKind.tt : SKind → TokType
  | .ident => .identifier | .kbegin => .begin | .kend => .end_ | .str _ => .string | .num => .number
  | .block => .comment | .line => .comment

theorem SKind.tt_ne_include (k : SKind) : k.tt ≠ .include := by cases k <;> nofun

def SKind.isComment : SKind → Bool
  | .block => true | .line => true | _ => false

def Seg.isLine (sg : Seg) : Bool :=
  match sg.kind with
  | .line => true
  | _ => false

def Seg.bytes (sg : Seg) : List UInt8 := sg.nl ++ (List.replicate sg.k 32 ++ sg.core)

/-- what the tokenizer needs of one segment; `pl` = the byte in front of the segment (if any), `pt` = kind of the token
    in front of it, `next` = the byte behind it -/
def Seg.ok (pl : Option UInt8) (pt : Option TokType) (sg : Seg) (next : Option UInt8) : Prop :=
  (∀ c ∈ sg.nl, isWs c = true) ∧ sg.core ≠ [] ∧
  (match sg.kind with
    | .ident =>
      sg.k = 0 ∧ sg.nl ≠ [] ∧ (∀ c ∈ sg.core, isIdentChar c = true) ∧
      (∀ c cs, sg.core = c :: cs → (isAlpha c || c == 95) = true) ∧
      (match next with | none => True | some c => isIdentChar c = false) ∧
      (pt = some .begin → sg.core ≠ tagA2ml.toList)
    | .kbegin => sg.k = 0 ∧ sg.nl ≠ [] ∧ sg.core = 47 :: kwBegin
    | .kend => sg.k = 0 ∧ sg.nl ≠ [] ∧ sg.core = 47 :: kwEnd
    | .str body =>
      sg.k = 0 ∧ sg.nl ≠ [] ∧ StrBody body ∧ sg.core = 34 :: (body ++ [34]) ∧
      (match next with | none => True | some c => c ≠ 34)
    | .num =>
      sg.k = 0 ∧ sg.nl ≠ [] ∧
      (∃ c0 rest, sg.core = c0 :: rest ∧ (isAlpha c0 || c0 == 95) = false ∧ (c0 == 45 || isNumChar c0) = true ∧
        ∀ c ∈ rest, isNumChar c = true) ∧
      (match next with | none => True | some c => isNumChar c = false ∧ isIdentChar c = false) ∧
      sg.core ≠ [45] ∧ sg.core ≠ [46] ∧ sg.core ≠ [48, 120]
    | .block =>
      BlockCore sg.core ∧ (∀ c ∈ sg.nl, c ≠ 32) ∧ (sg.nl = [] → pl ≠ some 32)
    | .line =>
      (∃ rest, sg.core = 47 :: 47 :: rest ∧ ∀ c ∈ rest, c ≠ 10) ∧ (∀ c ∈ sg.nl, c ≠ 32) ∧ (sg.nl = [] → pl ≠ some 32) ∧
      (match next with | none => True | some c => c = 10))

/-- the token of a segment that starts at byte `p` and is read from state `s`, and the state behind it -/
def Seg.token (sg : Seg) (s : State) (p : Nat) : Token :=
  ⟨sg.kind.tt, p + sg.nl.length, p + sg.bytes.length, s.line + nlB sg.nl⟩

def Seg.after (sg : Seg) (s : State) (p : Nat) : State :=
  ⟨s.tokens.push (sg.token s p), p + sg.bytes.length, sg.kind.isComment, s.line + nlB sg.nl + nlB sg.core⟩

theorem Seg.ok_core_ne {pl pt next} {sg : Seg} (h : sg.ok pl pt next) : sg.core ≠ [] := h.2.1

section
variable {pl : Option UInt8} {pt : Option TokType} {next : Option UInt8} {sg : Seg}

/-- What the run needs of a segment beside the iteration that reads its token: the first byte of the token is no white
    space; its last byte is no blank (it stands in front of the next segment), except that a `//` comment may end in one; a token
    that is no comment stands behind white space and holds no line break; a comment takes the blanks in front of it. -/
theorem Seg.ok.shape (h : sg.ok pl pt next) :
    (∃ c0 cs, sg.core = c0 :: cs ∧ isWs c0 = false) ∧ (sg.isLine = false → sg.bytes.getLast? ≠ some 32) ∧
    (sg.kind.isComment = false → sg.k = 0 ∧ sg.nl ≠ [] ∧ nlB sg.core = 0) ∧
    (sg.kind.isComment = true → sg.kind.tt = .comment ∧ (∀ c ∈ sg.nl, c ≠ 32) ∧ (sg.nl = [] → pl ≠ some 32)) := by
  obtain ⟨nl, k, core, kind⟩ := sg
  obtain ⟨-, hne, hk⟩ := h
  obtain ⟨c0, cs, hcore⟩ := List.exists_cons_of_ne_nil hne
  have hcore : core = c0 :: cs := hcore
  rw [Seg.bytes, List.getLast?_append, List.getLast?_append, List.getLast?_eq_some_getLast hne, Option.some_or, Option.some_or,
    ← List.getLast?_eq_some_getLast hne]
  -- bytes of a class that holds neither the line break nor the blank
  have cls : ∀ (p : UInt8 → Bool), p 10 = false → p 32 = false → (∀ x ∈ core, p x = true) →
      core.getLast? ≠ some 32 ∧ nlB core = 0 := fun p h10 h32 h =>
    ⟨fun e => absurd (h _ (List.mem_of_getLast? e)) (by rw [h32]; nofun),
      nlB_eq_zero fun c hc e => absurd (h c hc) (by rw [e, h10]; nofun)⟩
  cases kind
  case ident =>
    obtain ⟨hk0, hnl, hall, hfirst, -⟩ := hk
    obtain ⟨h1, h2⟩ := cls isIdentChar rfl rfl hall
    exact ⟨⟨c0, cs, hcore, (not_special_of_start (.inl (hfirst c0 cs hcore))).1⟩, fun _ => h1, fun _ => ⟨hk0, hnl, h2⟩, nofun⟩
  case kbegin =>
    exact ⟨⟨47, kwBegin, hk.2.2, by decide⟩, fun _ => by rw [hk.2.2]; decide, fun _ => ⟨hk.1, hk.2.1, by rw [hk.2.2]; decide⟩, nofun⟩
  case kend =>
    exact ⟨⟨47, kwEnd, hk.2.2, by decide⟩, fun _ => by rw [hk.2.2]; decide, fun _ => ⟨hk.1, hk.2.1, by rw [hk.2.2]; decide⟩, nofun⟩
  case str body =>
    obtain ⟨hk0, hnl, hbody, hcore, -⟩ := hk
    refine ⟨⟨34, _, hcore, by decide⟩, fun _ => ?_, fun _ => ⟨hk0, hnl, ?_⟩, nofun⟩
    · rw [hcore, ← List.cons_append, List.getLast?_append]; nofun
    · rw [hcore]; simp only [nlB_cons, nlB_append, hbody.nlB_zero]; decide
  case num =>
    obtain ⟨hk0, hnl, ⟨c0, rest, hcore, -, hf2, hrest⟩, -⟩ := hk
    have hcore : core = c0 :: rest := hcore
    obtain ⟨h1, h2⟩ := cls isNumChar rfl rfl (by rw [hcore]; exact List.forall_mem_cons.2 ⟨minus_numChar hf2, hrest⟩)
    exact ⟨⟨c0, rest, hcore, (not_special_of_start (.inr hf2)).1⟩, fun _ => h1, fun _ => ⟨hk0, hnl, h2⟩, nofun⟩
  case block =>
    obtain ⟨rest, hrest, -⟩ := hk.1.tail
    refine ⟨⟨47, _, hrest, by decide⟩, fun _ e => ?_, nofun, fun _ => ⟨rfl, hk.2.1, hk.2.2⟩⟩
    rw [List.getLast?_eq_getElem?, hk.1.hend.2] at e; cases e
  case line =>
    obtain ⟨⟨rest, hcore, -⟩, hnl32, hpl, -⟩ := hk
    exact ⟨⟨47, _, hcore, by decide⟩, nofun, nofun, fun _ => ⟨rfl, hnl32, hpl⟩⟩

theorem Seg.bytes_length (sg : Seg) : sg.bytes.length = sg.nl.length + sg.k + sg.core.length := by
  simp [Seg.bytes]; omega

theorem Seg.bytes_ne (h : sg.ok pl pt next) : sg.bytes ≠ [] :=
  fun h0 => h.2.1 (List.append_eq_nil_iff.1 (List.append_eq_nil_iff.1 h0).2).2

end

theorem step_plain {b : Bytes} {pt : Option TokType} {pl next : Option UInt8} (sg : Seg) (s : State)
    (hm : matchAt b s.bytepos sg.core = true) (hnext : b[s.bytepos + sg.core.length]? = next)
    (hok : sg.ok pl pt next) (hc : sg.kind.isComment = false) (hsep : s.separated = true) (hni : NoInclude s)
    (hpt : ∀ t2, s.tokens.back? = some t2 → pt = some t2.ttype) :
    step b s = .cont ⟨s.tokens.push ⟨sg.kind.tt, s.bytepos, s.bytepos + sg.core.length, s.line⟩,
      s.bytepos + sg.core.length, false, s.line⟩ := by
  obtain ⟨nl, k, core, kind⟩ := sg
  obtain ⟨-, hne, hk⟩ := hok
  cases kind
  case ident =>
    obtain ⟨-, -, hall, hfirst, hstop, hA⟩ := hk
    exact step_ident s hm hsep hni hne hall hfirst (stop_of hstop hnext) (fun t2 ht2 hbeg => hA (by rw [hpt t2 ht2, hbeg]))
  case kbegin => exact step_keyword s hm hsep kwBegin .begin hk.2.2 (.inl ⟨rfl, rfl⟩)
  case kend => exact step_keyword s hm hsep kwEnd .end_ hk.2.2 (.inr ⟨rfl, rfl⟩)
  case str body => exact step_string s hm hsep body hk.2.2.1 hk.2.2.2.1 (stop_of hk.2.2.2.2 hnext)
  case num =>
    obtain ⟨-, -, ⟨c0, rest, hcore, hf1, hf2, hrest⟩, hstop, hnot⟩ := hk
    exact step_number s hm hsep hni c0 rest hcore hf1 hf2 hrest (stop_of hstop hnext) hnot
  case block => cases hc
  case line => cases hc

/-- a comment at `p + sg.k`, behind `sg.k` blanks that start at `p` -/
theorem step_comment {b : Bytes} {pt : Option TokType} {pl next : Option UInt8} (sg : Seg) (p : Nat) (s : State)
    (hp : s.bytepos = p + sg.k) (hpl : prevByte b p ≠ some 32) (hbl : ∀ i, i < sg.k → b[p + i]? = some 32)
    (hm : matchAt b (p + sg.k) sg.core = true) (hnext : b[p + sg.k + sg.core.length]? = next)
    (hok : sg.ok pl pt next) (hc : sg.kind.isComment = true) :
    step b s = .cont ⟨s.tokens.push ⟨.comment, p, p + sg.k + sg.core.length, s.line⟩,
      p + sg.k + sg.core.length, true, s.line + nlB sg.core⟩ := by
  obtain ⟨nl, k, core, kind⟩ := sg
  obtain ⟨-, -, hk⟩ := hok
  cases kind <;> try cases hc
  case block => exact step_blockComment p k s hp hpl hbl hm hk.1
  case line =>
    obtain ⟨⟨rest, hcore, hrest⟩, -, -, hstop⟩ := hk
    have hcore : core = 47 :: 47 :: rest := hcore
    have hnl : nlB core = 0 := by
      rw [hcore]
      exact nlB_eq_zero (fun c hc => by
        rcases List.mem_cons.1 hc with rfl | hc; decide
        rcases List.mem_cons.1 hc with rfl | hc; decide
        exact hrest c hc)
    subst hcore
    rw [step_lineComment p k s hp hpl hbl hm hrest (stop_of hstop hnext), hnl]
    rfl

theorem prevByte_nl {b : Bytes} {p : Nat} {nl : List UInt8} (hm : matchAt b p nl = true) (hnl32 : ∀ c ∈ nl, c ≠ 32)
    (hpl : nl = [] → prevByte b p ≠ some 32) : prevByte b (p + nl.length) ≠ some 32 := by
  by_cases hn : nl = []
  · rw [hn]; exact hpl hn
  · rw [prevByte_add hm hn]
    exact fun e => hnl32 _ (List.mem_of_getLast? e) rfl

/-- one or two iterations of the main loop produce the token of a segment: one for the white space in front of it
    (none if a comment follows its predecessor directly), one for the token -/
theorem seg_reach {b : Bytes} (sg : Seg) (pt : Option TokType) {next : Option UInt8} (s : State)
    (hm : matchAt b s.bytepos sg.bytes = true) (hnext : b[s.bytepos + sg.bytes.length]? = next)
    (hok : sg.ok (prevByte b s.bytepos) pt next) (hr : Reach b s) (hni : NoInclude s)
    (hpt : ∀ t2, s.tokens.back? = some t2 → pt = some t2.ttype) :
    Reach b (sg.after s s.bytepos) := by
  obtain ⟨hmnl, hm2⟩ := matchAt_append.1 hm
  obtain ⟨hmk, hmc⟩ := matchAt_append.1 hm2
  rw [List.length_replicate] at hmc
  rw [Seg.bytes_length, ← Nat.add_assoc, ← Nat.add_assoc] at hnext
  obtain ⟨⟨c0, cs, hcore, hc0⟩, -, hplain, hcmt⟩ := hok.shape
  -- the token is read in state `s1`, behind the white space in front of it (if any)
  have tok : ∀ (s1 : State), s1.bytepos = s.bytepos + sg.nl.length + sg.k → s1.tokens = s.tokens →
      (sg.kind.isComment = false → s1.separated = true) →
      step b s1 = .cont ⟨s.tokens.push ⟨sg.kind.tt, s.bytepos + sg.nl.length,
        s.bytepos + sg.nl.length + sg.k + sg.core.length, s1.line⟩,
        s.bytepos + sg.nl.length + sg.k + sg.core.length, sg.kind.isComment, s1.line + nlB sg.core⟩ := by
    intro s1 hp1 htok1 hsep1
    cases hc : sg.kind.isComment with
    | false =>
      obtain ⟨hk0, -, hnlc⟩ := hplain hc
      rw [hk0, Nat.add_zero] at hp1 hmc hnext ⊢
      rw [← hp1] at hmc hnext ⊢
      rw [step_plain sg s1 hmc hnext hok hc (hsep1 hc) (fun t ht => hni t (htok1 ▸ ht)) (fun t2 ht2 => hpt t2 (htok1 ▸ ht2)),
        htok1, hnlc]
      rfl
    | true =>
      obtain ⟨htt, hnl32, hpl⟩ := hcmt hc
      rw [step_comment sg _ s1 hp1 (prevByte_nl hmnl hnl32 hpl)
        (fun i hi => by rw [matchAt_getElem? hmk i (by rwa [List.length_replicate]), List.getElem_replicate])
        hmc hnext hok hc, htok1, htt]
  by_cases hg : sg.nl = [] ∧ sg.k = 0
  · -- a comment directly behind its predecessor
    have hc : sg.kind.isComment = true := by
      cases hc : sg.kind.isComment with
      | true => rfl
      | false => exact absurd hg.1 (hplain hc).2.1
    have := hr.next (tok s (by rw [hg.1, hg.2]; rfl) rfl (fun h => by rw [hc] at h; cases h))
    simpa [Seg.after, Seg.token, Seg.bytes_length, hg.1, hg.2, nlB_eq_count] using this
  · have hgap : sg.nl ++ List.replicate sg.k 32 ≠ [] := by
      intro h
      have := List.append_eq_nil_iff.1 h
      exact hg ⟨this.1, by simpa using this.2⟩
    have hgws : ∀ c ∈ sg.nl ++ List.replicate sg.k 32, isWs c = true := by
      intro c hc'
      rcases List.mem_append.1 hc' with h | h
      · exact hok.1 c h
      · rw [List.eq_of_mem_replicate h]; rfl
    have hlen : s.bytepos + (sg.nl ++ List.replicate sg.k 32).length = s.bytepos + sg.nl.length + sg.k := by
      rw [List.length_append, List.length_replicate, Nat.add_assoc]
    have h1 := step_ws s (matchAt_append.2 ⟨hmnl, hmk⟩) hgap hgws (fun c hc => by
      rw [hlen, (matchAt_cons.1 (hcore ▸ hmc)).1] at hc; exact Option.some.inj hc ▸ hc0)
    have h2 := tok ⟨s.tokens, s.bytepos + (sg.nl ++ List.replicate sg.k 32).length, true,
      s.line + nlB (sg.nl ++ List.replicate sg.k 32)⟩ hlen rfl (fun _ => rfl)
    have := (hr.next h1).next h2
    simpa [Seg.after, Seg.token, Seg.bytes_length, nlB_append, nlB_eq_zero (l := List.replicate sg.k 32) (fun c hc => by rw [List.eq_of_mem_replicate hc]; decide),
      Nat.add_assoc] using this

end A2l.Lex
