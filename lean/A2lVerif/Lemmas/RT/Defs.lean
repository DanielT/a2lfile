import A2lVerif.Model.Tree
/-! # C01 (save / reload stability): definitions

The written text of a value is described by an *ordered tree* `OT` (the items of every block in the order in which
the writer emits them: sorted by `tagLe`, position restrictions applied) and by its flat *token stream* `List WTok`
(kind, text, number of line breaks in front of it, indent level).  -/
namespace A2l.Tree
open A2l.G A2l.Sc

/-- a token as the writer emits it: kind (`PTok.ty`), text, line breaks in front of it, indent level used for the
    blanks behind those line breaks -/
structure WTok where
  ty : Nat
  text : List Char
  off : Nat
  ind : Nat
  deriving Repr, DecidableEq, Inhabited

/-- how the driver annotates tokens: identifier texts are interned (`sym`), number texts are run through the float
    codec (`fl`) -/
structure LexEnv where
  symOf : List Char → Nat
  flOf : List Char → Option (List Char)

def WTok.toPTok (lx : LexEnv) (w : WTok) (line : Nat) : PTok :=
  { ty := w.ty, text := w.text, line := line, fileid := 0,
    sym := if w.ty = 0 then lx.symOf w.text else noSym,
    fl := if w.ty = 5 then lx.flOf w.text else none }

/-- line breaks inside the token (only comments contain any in written text) -/
def WTok.nl (w : WTok) : Nat := if w.ty = 6 then countNewlines w.text else 0

/-- the parser tokens of a written token stream whose first token is preceded by `line - 1` complete lines -/
def mkToksFrom (lx : LexEnv) : Nat → List WTok → List PTok
  | _, [] => []
  | line, w :: ws => w.toPTok lx (line + w.off) :: mkToksFrom lx (line + w.off + w.nl) ws

def mkToks (lx : LexEnv) (ws : List WTok) : List PTok := mkToksFrom lx 1 ws

/-- the text of a token stream -/
def renderTok (w : WTok) : List Char :=
  (if w.ty = 6 then List.replicate w.off '\n' else addWhitespace w.ind w.off) ++ w.text

def renderToks (ws : List WTok) : List Char := ws.flatMap renderTok

/-! ## parameters (fields) -/

def scalarToks (ind : Nat) : Val → List WTok
  | .ident s off => [⟨0, s, off, ind⟩]
  | .enum s off => [⟨0, s, off, ind⟩]
  | .str s off => [⟨4, '"' :: (escape s ++ ['"']), off, ind⟩]
  | .int i hex off w => [⟨5, printInt (intTyOf w) i hex, off, ind⟩]
  | .dbl s off => [⟨5, s, off, ind⟩]
  | _ => []

def elemToks (ind : Nat) : Val → List WTok
  | .block _ _ fields _ _ => fields.flatMap (scalarToks ind)
  | v => scalarToks ind v

def fieldToks (ind : Nat) : Val → List WTok
  | .arr vs => vs.flatMap (elemToks ind)
  | .seq vs => vs.flatMap (elemToks ind)
  | v => elemToks ind v

def fieldsToks (ind : Nat) (fs : List Val) : List WTok := fs.flatMap (fieldToks ind)

/-- layout bookkeeping of a struct value inside a parameter list is not written: normalise it away -/
def normElem : Val → Val
  | .block ty _ fields _ _ => .block ty ⟨0, 0, 0, 0, 0⟩ fields [] []
  | v => v

def normField : Val → Val
  | .arr vs => .arr (vs.map normElem)
  | .seq vs => .seq (vs.map normElem)
  | v => normElem v

/-! ## ordered trees -/

/-- a block / keyword with its items in written order, or a comment. `arm` = index of the arm of the parent's
    tagged part, `tag` / `blk` = that arm's tag text and block flag, `so` / `eo` = line breaks in front of the
    (begin) tag and in front of `/end` -/
inductive OT where
  | node (arm : Nat) (tag : List Char) (blk : Bool) (ty so eo : Nat) (fields : List Val) (items : List OT)
  | cmt (text : List Char) (off : Nat)
  deriving Inhabited

def beginText : List Char := "/begin".toList
def endText : List Char := "/end".toList

def headToks (ind : Nat) (tag : List Char) (blk : Bool) (so : Nat) : List WTok :=
  if blk then [⟨1, beginText, so, ind⟩, ⟨0, tag, 0, ind⟩] else [⟨0, tag, so, ind⟩]

def closeToks (ind : Nat) (tag : List Char) (blk : Bool) (eo : Nat) : List WTok :=
  if blk then [⟨2, endText, eo, ind⟩, ⟨0, tag, 0, ind⟩] else []

mutual
def OT.toks (ind : Nat) : OT → List WTok
  | .node _ tag blk _ so eo fields items =>
    headToks ind tag blk so ++ (fieldsToks (ind + 1) fields ++ (OT.toksL (ind + 1) items ++ closeToks ind tag blk eo))
  | .cmt text off => [⟨6, text, off, ind⟩]
def OT.toksL (ind : Nat) : List OT → List WTok
  | [] => []
  | x :: xs => x.toks ind ++ OT.toksL ind xs
end

/-- the tokens that `T::parse` of the node's type consumes: everything behind the tag -/
def OT.bodyToks (ind : Nat) : OT → List WTok
  | .node _ tag blk _ _ eo fields items =>
    fieldsToks (ind + 1) fields ++ (OT.toksL (ind + 1) items ++ closeToks ind tag blk eo)
  | .cmt _ _ => []

/-- the first token that is not a comment -/
def nextNC : List WTok → Option WTok
  | [] => none
  | w :: ws => if w.ty = 6 then nextNC ws else some w

/-! ## what a written value has to satisfy so that it can be read back -/

/-- static parameters of the well-formedness predicates -/
structure RCfg where
  e : Env
  lx : LexEnv
  ver : Nat

/-- an identifier that `get_identifier` accepts without complaint in strict mode -/
def IdentOk (strict : Bool) (s : List Char) : Prop :=
  ∃ c cs, s = c :: cs ∧ (strict = true → isAsciiDigit c = false ∧ utf8Len s ≤ 1024)

def ScalarOk (c : RCfg) : ItemTy → Val → Prop
  | .ident, .ident s _ => IdentOk c.e.strict s
  | .string, .str _ _ => True
  | .strMax n, .str s off => off = 0 ∧ (c.e.strict = true → utf8Len s ≤ n)
  | .double, .dbl s _ => c.lx.flOf s = some s
  | .float, .dbl s _ => c.lx.flOf s = some s
  | .int w, .int v _ _ w' => w' = w ∧ (intTyOf w).inRange v
  | .enumRef ty, .enum s _ =>
    ∃ items it, c.e.table.lookup ty = some (.enum items) ∧ IdentOk c.e.strict s ∧
      lookupEnumItem items (c.lx.symOf s) = some it ∧ (it.vlo ≠ 0 ∧ c.ver < it.vlo → c.e.strict = false)
  | _, _ => False

def ScalarsOk (c : RCfg) : List ItemTy → List Val → Prop
  | [], [] => True
  | it :: its, v :: vs => ScalarOk c it v ∧ ScalarsOk c its vs
  | _, _ => False

/-- a scalar, or a struct of scalars (normalised layout, no tagged part) -/
def ElemOk (c : RCfg) : ItemTy → Val → Prop
  | .structRef ty, .block ty' info fs ch cm =>
    ty' = ty ∧ info = ⟨0, 0, 0, 0, 0⟩ ∧ ch = [] ∧ cm = [] ∧
      ∃ sits, c.e.table.lookup ty = some (.block false sits [] false) ∧ sits ≠ [] ∧ ScalarsOk c sits fs
  | .structRef _, _ => False
  | it, v => ScalarOk c it v

/-- types of scalar parameters (with resolvable enum reference) -/
def ScalarTyOk (tbl : Table) : ItemTy → Prop
  | .enumRef ty => ∃ items, tbl.lookup ty = some (.enum items)
  | .structRef _ => False
  | .arr _ _ => False
  | .seq _ _ => False
  | _ => True

/-- types of array / sequence elements: scalars and structs that start with a scalar -/
def ElemTyOk (tbl : Table) : ItemTy → Prop
  | .structRef ty => ∃ it its, tbl.lookup ty = some (.block false (it :: its) [] false) ∧ ScalarTyOk tbl it
  | it => ScalarTyOk tbl it

/-- kind of the first token of a scalar / of an element -/
def firstTyS : ItemTy → Nat
  | .ident => 0 | .enumRef _ => 0 | .string => 4 | .strMax _ => 4 | _ => 5

def firstTy (tbl : Table) : ItemTy → Nat
  | .structRef ty => (match tbl.lookup ty with
    | some (.block _ (it :: _) _ _) => firstTyS it
    | _ => 5)
  | it => firstTyS it

/-- the greedy sequence loop ends in front of the next token: it cannot start another element (or, for identifier
    sequences, it is one of the stop tags) -/
def SeqStops (c : RCfg) (of : ItemTy) (stop : List Nat) : Option WTok → Prop
  | none => True
  | some t =>
    (t.ty ≠ firstTy c.e.table of ∧ ¬ (firstTy c.e.table of = 4 ∧ t.ty = 0)) ∨
    (of = .ident ∧ t.ty = 0 ∧ t.text ≠ [] ∧ stop.contains (c.lx.symOf t.text) = true)

def elemStopFree (c : RCfg) (stop : List Nat) : Val → Prop
  | .ident s _ => stop.contains (c.lx.symOf s) = false
  | _ => True

def FieldOk (c : RCfg) : ItemTy → Val → List WTok → Prop
  | .arr of n, .arr vs, _ => vs.length = n ∧ (∀ v ∈ vs, ElemOk c of v)
  | .arr _ _, _, _ => False
  | .seq of stop, .seq vs, rest =>
    (∀ v ∈ vs, ElemOk c of v) ∧ ElemTyOk c.e.table of ∧ (stop ≠ [] → of = .ident) ∧
      (∀ v ∈ vs, elemStopFree c stop v) ∧ SeqStops c of stop (nextNC rest)
  | .seq _ _, _, _ => False
  | it, v, _ => ElemOk c it v

def FieldsOk (c : RCfg) (ind : Nat) : List ItemTy → List Val → List WTok → Prop
  | [], [], _ => True
  | it :: its, f :: fs, rest => FieldOk c it f (fieldsToks ind fs ++ rest) ∧ FieldsOk c ind its fs rest
  | _, _, _ => False

def OT.isArm (j : Nat) : OT → Bool
  | .node a _ _ _ _ _ _ _ => a == j
  | .cmt _ _ => false

def OT.isCmt : OT → Bool
  | .node .. => false
  | .cmt _ _ => true

def OT.pos (code : List CodeEntry) : OT → Option Nat
  | .node _ _ _ ty _ _ fields _ => posRestrict code ty fields
  | .cmt _ _ => none

/-- the position-restricted items stand in the order of their positions -/
def PosSorted (code : List CodeEntry) (items : List OT) : Prop :=
  (items.filter (fun o => (o.pos code).isSome)).Pairwise (fun a b => (a.pos code).getD 0 ≤ (b.pos code).getD 0)

/-- multiplicities of the arms of a tagged part -/
def MultOk (strict : Bool) (arms : List Arm) (items : List OT) : Prop :=
  ∀ j a, arms[j]? = some a →
    (a.repeat_ = false → (items.filter (OT.isArm j)).length ≤ 1) ∧
    (a.required = true → (items.filter (OT.isArm j)).length = 0 → a.repeat_ = true ∧ strict = false)

mutual
/-- `o` can be read back by the parser: `parms` / `pib` = arms of the parent and whether the parent is a block,
    `rest` = the tokens that follow `o` in the file -/
def OT.ok (c : RCfg) (ind : Nat) (parms : List Arm) (pib : Bool) : OT → List WTok → Prop
  | .node arm tag blk ty so eo fields items, rest =>
    ∃ a its arms ht, parms[arm]? = some a ∧ a.ty = ty ∧ tag = symText c.e.symbols a.tag ∧ blk = a.block ∧
      c.e.table.lookup ty = some (.block blk its arms ht) ∧
      (a.vlo ≠ 0 ∧ c.ver < a.vlo → c.e.strict = false) ∧
      (blk = false → eo = 0 ∧ rest ≠ [] ∧ ht = false) ∧
      IdentOk c.e.strict tag ∧ parms.findIdx? (·.tag == c.lx.symOf tag) = some arm ∧
      fields.map normField = fields ∧
      FieldsOk c (ind + 1) its fields (OT.toksL (ind + 1) items ++ (closeToks ind tag blk eo ++ rest)) ∧
      (ht = false → items = []) ∧
      OT.okL c (ind + 1) arms blk items (closeToks ind tag blk eo ++ rest) ∧
      MultOk c.e.strict arms items ∧ PosSorted c.e.code items
  | .cmt _ _, _ => pib = true
def OT.okL (c : RCfg) (ind : Nat) (parms : List Arm) (pib : Bool) : List OT → List WTok → Prop
  | [], _ => True
  | x :: xs, rest => OT.ok c ind parms pib x (OT.toksL ind xs ++ rest) ∧ OT.okL c ind parms pib xs rest
end

end A2l.Tree
