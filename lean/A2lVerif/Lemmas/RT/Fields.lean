import A2lVerif.Lemmas.RT.Stream
import A2lVerif.Lemmas.TreeMonad
import A2lVerif.Props.Scalars
import A2lVerif.Lemmas.RT.Canon
/-! # C01: reading back the parameters (fields) of a written element: the judgements `Runs` and `Reads`; scalars, and
structs of scalars as elements of arrays and sequences -/
namespace A2l.Tree
open A2l.G A2l.Sc

/-- the cursor moved by `n` tokens; ids were only consumed; the file version is unchanged -/
structure Adv (s s' : PState) (n : Nat) : Prop where
  pos : s'.pos = s.pos + n
  seq : s.seqId ≤ s'.seqId
  ver : s'.ver = s.ver

theorem Adv.refl (s : PState) : Adv s s 0 := ⟨rfl, Nat.le_refl _, rfl⟩
theorem Adv.trans {s s1 s2 : PState} {n k : Nat} (h1 : Adv s s1 n) (h2 : Adv s1 s2 k) : Adv s s2 (n + k) :=
  ⟨by rw [h2.pos, h1.pos, Nat.add_assoc], Nat.le_trans h1.seq h2.seq, by rw [h2.ver, h1.ver]⟩
theorem Adv.cast {s s' : PState} {n k : Nat} (h : Adv s s' n) (hk : n = k) : Adv s s' k := hk ▸ h

/-- `m` succeeds with value `a`, consuming `n` tokens -/
def Runs {α} (m : PM α) (e : Env) (s : PState) (a : α) (n : Nat) : Prop := ∃ s', m e s = .ok a s' ∧ Adv s s' n

/-- composition at the concrete intermediate state -/
theorem Runs.bindAt {α β} {m : PM α} {f : α → PM β} {e : Env} {s s1 : PState} {a : α} {b : β} {n k t : Nat}
    (h1 : m e s = .ok a s1) (a1 : Adv s s1 n) (h2 : Runs (f a) e s1 b k) (ht : n + k = t) :
    Runs (m >>= f) e s b t := by
  obtain ⟨s2, e2, a2⟩ := h2
  exact ⟨s2, by rw [bind_def, h1]; exact e2, (a1.trans a2).cast ht⟩

theorem Runs.bind' {α β} {m : PM α} {f : α → PM β} {e : Env} {s : PState} {a : α} {b : β} {n k t : Nat}
    (h1 : Runs m e s a n) (h2 : ∀ s1, Adv s s1 n → Runs (f a) e s1 b k) (ht : n + k = t) :
    Runs (m >>= f) e s b t :=
  let ⟨s1, e1, a1⟩ := h1
  Runs.bindAt e1 a1 (h2 s1 a1) ht

theorem Runs.pure {α} (a : α) (e : Env) (s : PState) : Runs (Pure.pure a : PM α) e s a 0 := ⟨s, rfl, Adv.refl s⟩

theorem Runs.peek {β} {f : Option PTok → PM β} {e : Env} {s : PState} {b : β} {n : Nat}
    (h : Runs (f e.toks[s.pos]?) e s b n) : Runs (peekToken >>= f) e s b n := h
theorem Runs.env {β} {f : Env → PM β} {e : Env} {s : PState} {b : β} {n : Nat}
    (h : Runs (f e) e s b n) : Runs (getEnv >>= f) e s b n := h
theorem Runs.state {β} {f : PState → PM β} {e : Env} {s : PState} {b : β} {n : Nat}
    (h : Runs (f s) e s b n) : Runs (getState >>= f) e s b n := h
theorem Runs.tokenpos {β} {f : Nat → PM β} {e : Env} {s : PState} {b : β} {n : Nat}
    (h : Runs (f s.pos) e s b n) : Runs (getTokenpos >>= f) e s b n := h

/-- a complaint that is an error only in strict mode -/
theorem Runs.errorOrLog (k : DK) (e : Env) (s : PState) (h : e.strict = false) : Runs (errorOrLog k) e s () 0 := by
  refine ⟨{ s with log := ⟨k, s.lastLine⟩ :: s.log }, ?_, rfl, Nat.le_refl _, rfl⟩
  rw [errorOrLog_eval, h]; rfl

theorem Runs.logWarning (k : DK) (e : Env) (s : PState) : Runs (logWarning k) e s () 0 :=
  ⟨{ s with log := ⟨k, s.lastLine⟩ :: s.log }, rfl, rfl, Nat.le_refl _, rfl⟩

theorem Runs.condE {p : Prop} [Decidable p] (k : DK) (e : Env) (s : PState) (h : p → e.strict = false) :
    Runs (if p then A2l.Tree.errorOrLog k else Pure.pure ()) e s () 0 := by
  by_cases hp : p
  · rw [if_pos hp]; exact Runs.errorOrLog k e s (h hp)
  · rw [if_neg hp]; exact Runs.pure () e s

theorem Runs.condW {p : Prop} [Decidable p] (k : DK) (e : Env) (s : PState) :
    Runs (if p then A2l.Tree.logWarning k else Pure.pure ()) e s () 0 := by
  by_cases hp : p
  · rw [if_pos hp]; exact Runs.logWarning k e s
  · rw [if_neg hp]; exact Runs.pure () e s

/-- `if p { error_or_log(k) }; m` where `p` is harmless outside strict mode: `m` runs, in a state that differs in the log -/
theorem iteE_eq {α} {p : Prop} [Decidable p] {k : DK} {m : PM α} {e : Env} {s : PState} (h : p → e.strict = false) :
    ∃ s', Adv s s' 0 ∧ (if p then (A2l.Tree.errorOrLog k >>= fun _ => m) else m) e s = m e s' := by
  by_cases hp : p
  · obtain ⟨s', e1, a1⟩ := Runs.errorOrLog k e s (h hp)
    exact ⟨s', a1, by rw [if_pos hp, bind_def, e1]⟩
  · exact ⟨s, Adv.refl s, by rw [if_neg hp]⟩

theorem iteW_eq {α} {p : Prop} [Decidable p] {k : DK} {m : PM α} {e : Env} {s : PState} :
    ∃ s', Adv s s' 0 ∧ (if p then (A2l.Tree.logWarning k >>= fun _ => m) else m) e s = m e s' := by
  by_cases hp : p
  · obtain ⟨s', e1, a1⟩ := Runs.logWarning k e s
    exact ⟨s', a1, by rw [if_pos hp, bind_def, e1]⟩
  · exact ⟨s, Adv.refl s, by rw [if_neg hp]⟩

theorem Runs.iteE {α} {p : Prop} [Decidable p] {k : DK} {m : PM α} {e : Env} {s : PState} {a : α} {n : Nat}
    (h : p → e.strict = false) (hm : ∀ s1, Adv s s1 0 → Runs m e s1 a n) :
    Runs (if p then (A2l.Tree.errorOrLog k >>= fun _ => m) else m) e s a n := by
  obtain ⟨s1, a1, e1⟩ := iteE_eq (k := k) (m := m) h
  obtain ⟨s2, e2, a2⟩ := hm s1 a1
  exact ⟨s2, by rw [e1]; exact e2, (a1.trans a2).cast (Nat.zero_add n)⟩

theorem Runs.iteW {α} {p : Prop} [Decidable p] {k : DK} {m : PM α} {e : Env} {s : PState} {a : α} {n : Nat}
    (hm : ∀ s1, Adv s s1 0 → Runs m e s1 a n) :
    Runs (if p then (A2l.Tree.logWarning k >>= fun _ => m) else m) e s a n := by
  obtain ⟨s1, a1, e1⟩ := iteW_eq (p := p) (k := k) (m := m) (e := e) (s := s)
  obtain ⟨s2, e2, a2⟩ := hm s1 a1
  exact ⟨s2, by rw [e1]; exact e2, (a1.trans a2).cast (Nat.zero_add n)⟩

section
variable {e : Env} {lx : LexEnv} {all : List WTok} (hT : Toks e lx all)
include hT

theorem Runs.lineOff {pre rest : List WTok} {w : WTok} (hs : all = pre ++ w :: rest) (hr : rest ≠ []) (s : PState)
    (hp : s.pos = pre.length + 1) : Runs getLineOffset e s w.off 0 :=
  ⟨s, A2l.Tree.lineOff hT hs hr s hp, Adv.refl s⟩

theorem Runs.getToken {pre rest : List WTok} {w : WTok} (hs : all = pre ++ w :: rest) (ctx : Ctx) (s : PState)
    (hp : s.pos = pre.length) : Runs (getToken ctx) e s (w.toPTok lx (endLine 1 pre + w.off)) 1 :=
  ⟨_, getToken_some ctx e s _ (hT.at hs hp), rfl, Nat.le_refl _, rfl⟩

/-- `expect_token` on a token of the expected kind -/
theorem Runs.expect {pre rest : List WTok} {w : WTok} (hs : all = pre ++ w :: rest) (ctx : Ctx) (ty : Nat)
    (hty : w.ty = ty) (h6 : ty ≠ 6) (s : PState) (hp : s.pos = pre.length) :
    Runs (expectToken ctx ty) e s (w.toPTok lx (endLine 1 pre + w.off)) 1 :=
  ⟨_, expectToken_match ctx ty e s _ (hT.at hs hp) hty h6, rfl, Nat.le_refl _, rfl⟩

theorem Runs.getIdentifier {pre rest : List WTok} {w : WTok} (hs : all = pre ++ w :: rest) (ctx : Ctx)
    (hty : w.ty = 0) (hid : IdentOk e.strict w.text) (s : PState) (hp : s.pos = pre.length) :
    Runs (getIdentifier ctx) e s w.text 1 := by
  obtain ⟨c, cs, htext, hv⟩ := hid
  obtain ⟨s1, h1, a1⟩ := Runs.expect hT hs ctx 0 hty (by decide) s hp
  refine ⟨_, getIdentifier_of_expect h1 htext hv, ?_⟩
  split <;> exact ⟨a1.pos, a1.seq, a1.ver⟩

theorem Runs.getString {pre rest : List WTok} {str : List Char} {off ind : Nat}
    (hs : all = pre ++ (⟨4, '"' :: (escape str ++ ['"']), off, ind⟩ : WTok) :: rest) (ctx : Ctx)
    (s : PState) (hp : s.pos = pre.length) :
    Runs (getString ctx) e s str 1 := by
  unfold A2l.Tree.getString
  have hat := hT.at hs hp
  refine Runs.peek ?_
  rw [hat]
  simp only [WTok.toPTok]
  refine Runs.bind' (Runs.expect hT hs ctx 4 rfl (by decide) s hp) (fun s1 _ => ?_) (Nat.add_zero 1)
  have hq : stripQuotes ('"' :: (escape str ++ ['"'])) = escape str := by
    simp [stripQuotes]
  simp only [WTok.toPTok_text, hq, unescape_escape]
  exact Runs.pure _ _ _

end

/-- a one-token scalar followed by `get_line_offset` -/
theorem Runs.withOff {α} {e : Env} {lx : LexEnv} {all : List WTok} (hT : Toks e lx all) {pre rest : List WTok} {w : WTok}
    (hs : all = pre ++ w :: rest) (hr : rest ≠ []) {m : PM α} {a : α} {s : PState} (hp : s.pos = pre.length)
    (h1 : Runs m e s a 1) (g : α → Nat → Val) :
    Runs (m >>= fun v => getLineOffset >>= fun off => Pure.pure (g v off)) e s (g a w.off) 1 :=
  Runs.bind' h1 (fun s1 a1 => Runs.bind' (Runs.lineOff hT hs hr s1 (by rw [a1.pos, hp]))
    (fun s2 _ => Runs.pure _ _ _) rfl) rfl

/-- wherever the cursor stands in front of `x ++ rest` in the written stream `all` (file version `c.ver`), `m` succeeds,
    consumes exactly `x` and returns a value that satisfies `Q`. `rest` is not empty: the line offset behind the last token
    of `x` is measured against what follows. Sequencing appends the segments (`Reads.bind`), so a walk over a parameter list
    neither re-associates the stream nor recomputes the cursor position. -/
def Reads (c : RCfg) (all : List WTok) {α} (m : PM α) (x rest : List WTok) (Q : α → Prop) : Prop :=
  rest ≠ [] → ∀ (pre : List WTok) (s : PState), all = pre ++ (x ++ rest) → s.pos = pre.length → s.ver = c.ver →
    ∃ a, Runs m c.e s a x.length ∧ Q a

section
variable {c : RCfg} {all : List WTok} {α β : Type} {rest : List WTok}

theorem Reads.bind {m : PM α} {f : α → PM β} {x y : List WTok} {Q1 : α → Prop} {Q2 : β → Prop}
    (h1 : Reads c all m x (y ++ rest) Q1) (h2 : ∀ a, Q1 a → Reads c all (f a) y rest Q2) :
    Reads c all (m >>= f) (x ++ y) rest Q2 := by
  intro hr pre s hs hp hv
  rw [List.append_assoc] at hs
  obtain ⟨a, ⟨s1, e1, a1⟩, q1⟩ := h1 (List.append_ne_nil_of_right_ne_nil _ hr) pre s hs hp hv
  obtain ⟨b, ⟨s2, e2, a2⟩, q2⟩ := h2 a q1 hr (pre ++ x) s1 (by rw [hs, List.append_assoc])
    (by rw [a1.pos, hp, List.length_append]) (a1.ver.trans hv)
  exact ⟨b, ⟨s2, by rw [bind_def, e1]; exact e2, (a1.trans a2).cast List.length_append.symm⟩, q2⟩

theorem Reads.pure {Q : α → Prop} {a : α} (h : Q a) : Reads c all (Pure.pure a : PM α) [] rest Q :=
  fun _ _ s _ _ _ => ⟨a, Runs.pure a c.e s, h⟩

/-- the last step of a `do` block: the value is repacked -/
theorem Reads.map {m : PM α} {g : α → β} {x : List WTok} {Q1 : α → Prop} {Q2 : β → Prop}
    (h1 : Reads c all m x rest Q1) (h2 : ∀ a, Q1 a → Q2 (g a)) :
    Reads c all (m >>= fun a => Pure.pure (g a)) x rest Q2 := by
  intro hr pre s hs hp hv
  obtain ⟨a, r1, q1⟩ := h1 hr pre s hs hp hv
  exact ⟨g a, Runs.bind' r1 (fun s1 _ => Runs.pure _ _ _) rfl, h2 a q1⟩

theorem Reads.weaken {m : PM α} {x : List WTok} {Q1 Q2 : α → Prop} (h1 : Reads c all m x rest Q1)
    (h2 : ∀ a, Q1 a → Q2 a) : Reads c all m x rest Q2 := fun hr pre s hs hp hv =>
  let ⟨a, r1, q1⟩ := h1 hr pre s hs hp hv
  ⟨a, r1, h2 a q1⟩

theorem Reads.env {f : Env → PM β} {x : List WTok} {Q : β → Prop} (h : Reads c all (f c.e) x rest Q) :
    Reads c all (getEnv >>= f) x rest Q := h

/-- in front of a step that consumes nothing and succeeds in every state (`get_next_id`) -/
theorem Reads.after {m : PM α} {f : α → PM β} {y : List WTok} {Q2 : β → Prop}
    (h1 : ∀ s, ∃ a, Runs m c.e s a 0) (h2 : ∀ a, Reads c all (f a) y rest Q2) : Reads c all (m >>= f) y rest Q2 :=
  Reads.bind (x := []) (fun _ _ s _ _ _ => let ⟨a, r⟩ := h1 s; ⟨a, r, trivial⟩) (fun a _ => h2 a)

end

/-- **a scalar parameter is read back as the same value** (text, notation flag and line offset) -/
theorem parseScalar (c : RCfg) {all : List WTok} (hT : Toks c.e c.lx all) {rest : List WTok} {it : ItemTy} {v : Val}
    (ind : Nat) (hok : ScalarOk c it v) (ctx : Ctx) (fuel : Nat) :
    Reads c all (parseItem (fuel + 1) ctx it) (scalarToks ind v) rest (· = v) := by
  intro hr pre s hs hp hv
  refine ⟨v, ?_, rfl⟩
  revert hok
  fun_cases ScalarOk c it v <;> intro hok
  case case8 => exact hok.elim
  all_goals simp only [scalarToks, List.cons_append, List.nil_append] at hs ⊢
  next str off =>
    rw [parseItem]
    exact Runs.withOff hT hs hr hp (Runs.getIdentifier hT hs ctx rfl hok s hp) (fun v o => .ident v o)
  next str off =>
    rw [parseItem]
    exact Runs.withOff hT hs hr hp (Runs.getString hT hs ctx s hp) (fun v o => .str v o)
  next n str off =>
    obtain ⟨rfl, hlen⟩ := hok
    rw [parseItem]
    refine Runs.bind' (a := str) (n := 1) (k := 0) ?_ (fun s2 _ => Runs.pure _ _ _) rfl
    unfold getStringMaxlen
    refine Runs.bind' (Runs.getString hT hs ctx s hp) (fun s1 a1 => ?_) (Nat.add_zero 1)
    refine Runs.iteE (fun hbad => ?_) (fun s2 _ => Runs.pure _ _ _)
    cases hst : c.e.strict with
    | false => rfl
    | true => have := hlen hst; omega
  case case4 str off | case5 str off =>
    rw [parseItem]
    refine Runs.withOff hT hs hr hp ?_ (fun v o => .dbl v o)
    unfold getDouble
    refine Runs.bind' (Runs.expect hT hs ctx 5 rfl (by decide) s hp) (fun s1 a1 => ?_) (Nat.add_zero 1)
    simp only [WTok.toPTok, if_true, hok]; exact Runs.pure _ _ _
  next w i hex off w' =>
    obtain ⟨rfl, hin⟩ := hok
    rw [parseItem]
    refine Runs.withOff hT hs hr hp (a := (i, hex)) ?_ (fun v o => .int v.1 v.2 o w')
    unfold getInteger
    refine Runs.bind' (Runs.expect hT hs ctx 5 rfl (by decide) s hp) (fun s1 a1 => ?_) (Nat.add_zero 1)
    simp only [WTok.toPTok, int_roundtrip _ _ _ hin]; exact Runs.pure _ _ _
  next ty str off =>
    obtain ⟨items, it, hl, hid, hlk, hver⟩ := hok
    rw [parseItem]
    refine Runs.env ?_
    simp only [hl]
    refine Runs.withOff hT hs hr hp ?_ (fun v o => .enum v o)
    unfold parseEnum
    refine Runs.bind' (Runs.getIdentifier hT hs ctx rfl hid s hp) (fun s1 a1 => ?_) (Nat.add_zero 1)
    refine Runs.env (Runs.state ?_)
    have hat := hT.at hs (n := s1.pos - 1) (by rw [a1.pos, hp]; rfl)
    simp only [hat, WTok.toPTok, if_true, hlk]
    refine Runs.iteE (fun hbad => hver ⟨hbad.1, ?_⟩) (fun s2 _ => Runs.iteW fun s3 _ => Runs.pure _ _ _)
    rw [← hv, ← a1.ver]; exact hbad.2

theorem scalarOk_isScalar (c : RCfg) {it : ItemTy} {v : Val} (h : ScalarOk c it v) : Val.isScalar v = true := by
  revert h
  fun_cases ScalarOk c it v <;> intro h <;> first | rfl | exact h.elim

theorem isScalar_asElem {v : Val} (h : Val.isScalar v = true) (ind : Nat) :
    normElem v = v ∧ elemToks ind v = scalarToks ind v ∧ ∃ w, scalarToks ind v = [w] := by
  cases v <;> first | exact ⟨rfl, rfl, _, rfl⟩ | cases h

theorem scalars_len (c : RCfg) (ind : Nat) (sits : List ItemTy) (fs : List Val) (h : ScalarsOk c sits fs) :
    (fs.flatMap (scalarToks ind)).length = fs.length := by
  revert h
  fun_induction ScalarsOk c sits fs with
  | case1 => exact fun _ => rfl
  | case2 it its v vs ih =>
    intro h
    obtain ⟨-, -, w, hw⟩ := isScalar_asElem (scalarOk_isScalar c h.1) ind
    simp only [List.flatMap_cons, hw, List.length_append, List.length_cons, List.length_nil, ih h.2]; omega
  | case3 => exact fun h => h.elim

section
variable (c : RCfg) {all : List WTok} (hT : Toks c.e c.lx all)
include hT

theorem parseScalars (ctx : Ctx) (ind : Nat) (rest : List WTok) (sits : List ItemTy) (fs : List Val) (fuel : Nat)
    (hok : ScalarsOk c sits fs) (hf : fs.length + 1 ≤ fuel) :
    Reads c all (parseItems fuel ctx sits) (fs.flatMap (scalarToks ind)) rest (· = fs) := by
  revert hok
  fun_induction ScalarsOk c sits fs generalizing fuel with
  | case1 =>
    obtain ⟨f, rfl, -⟩ := fuel_add (k := 1) hf
    rw [parseItems]; exact fun _ => Reads.pure rfl
  | case2 it its v vs ih =>
    intro hok
    obtain ⟨f, rfl, hf'⟩ := fuel_add (k := 2) hf
    rw [parseItems, List.flatMap_cons]
    refine Reads.bind (parseScalar c hT ind hok.1 ctx f) (fun a ha => ?_)
    exact Reads.map (ih (f + 1) (Nat.succ_le_succ hf') hok.2) (fun vs' hvs => by rw [ha, hvs])
  | case3 => exact fun h => h.elim

omit hT in
theorem Runs.nextId (e : Env) (s : PState) : Runs getNextId e s (s.seqId + 1) 0 :=
  ⟨{ s with seqId := s.seqId + 1 }, rfl, rfl, Nat.le_succ _, rfl⟩

/-- an element of an array or sequence: a scalar, or a struct of scalars -/
theorem parseElem (ctx : Ctx) (ind : Nat) (rest : List WTok) {it : ItemTy} {v : Val}
    (hok : ElemOk c it v) (fuel : Nat) (hf : (elemToks ind v).length + 3 ≤ fuel) :
    Reads c all (parseItem fuel ctx it) (elemToks ind v) rest (normElem · = v) := by
  obtain ⟨f, rfl, -⟩ := fuel_add (k := 3) hf
  revert hok
  fun_cases ElemOk c it v <;> intro hok
  next ty ty' info fs ch cm =>
    obtain ⟨rfl, rfl, rfl, rfl, sits, hl, hne, hsc⟩ := hok
    simp only [elemToks] at hf ⊢
    rw [parseItem, parseType]
    refine Reads.env ?_
    simp only [hl]
    refine Reads.after (fun s => ⟨_, Runs.nextId c.e s⟩) (fun uid => ?_)
    rw [← List.append_nil (fs.flatMap _)]
    refine Reads.bind (parseScalars c hT ctx ind rest sits fs (f + 1) hsc
      (by rw [← scalars_len c ind sits fs hsc]; omega)) (fun fs' hfs => ?_)
    simp only [Bool.false_eq_true, if_false]
    exact fun _ pre s _ _ _ => ⟨_, Runs.pure _ _ _, by rw [hfs]; rfl⟩
  next => exact hok.elim
  next =>
    obtain ⟨hn, ht, -⟩ := isScalar_asElem (scalarOk_isScalar c hok) ind
    rw [ht]
    exact (parseScalar c hT ind hok ctx (f + 2)).weaken (fun a ha => by rw [ha]; exact hn)

end

end A2l.Tree
