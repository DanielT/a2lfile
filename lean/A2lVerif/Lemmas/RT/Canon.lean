import A2lVerif.Lemmas.Basics
import A2lVerif.Lemmas.RT.Defs
/-! # C01: the ordered form of a value (`Canon`): the items of every block in the order in which the writer emits them;
written order (`InOrder`) does not look at the token array of the environment (`InOrder.congr`) -/
namespace A2l.Tree
open A2l.G A2l.Sc

/-- `k` units of fuel are spent, `n` are left -/
theorem fuel_add {n k fuel : Nat} (h : n + k ≤ fuel) : ∃ f, fuel = f + k ∧ n ≤ f :=
  ⟨fuel - k, (Nat.sub_add_cancel (Nat.le_trans (Nat.le_add_left k n) h)).symm, Nat.le_sub_of_add_le h⟩

/-- one step through a list with fuel `n + (tokens) + (k + 1)`: what is left suffices for the head (`e` tokens) and for
    the tail (`r` tokens) -/
theorem fuel_cons {n e r k f : Nat} (h : n + 1 + (e + r) + (k + 1) ≤ f + 1) : e + k ≤ f ∧ n + r + (k + 1) ≤ f :=
  ⟨by omega, by omega⟩

/-- the characters of the two literals by unification (`toList_of_eq_ofList`), not by evaluation; `rw [beginText]` would have
    the equation lemma of `beginText` made, which evaluates the literal -/
theorem beginText_eq : beginText = ['/', 'b', 'e', 'g', 'i', 'n'] := toList_of_eq_ofList (by with_reducible rfl)
theorem endText_eq : endText = ['/', 'e', 'n', 'd'] := toList_of_eq_ofList (by with_reducible rfl)

/-! ## `apply_position_restrictions`, generically -/

def refillG {α} (isR : α → Bool) : List α → List α → List α
  | [], _ => []
  | g :: gs, sorted =>
    if isR g then
      match sorted with
      | x :: xs => x :: refillG isR gs xs
      | [] => g :: refillG isR gs []
    else g :: refillG isR gs sorted

def posLeG {α} (pos : α → Option Nat) (a b : α) : Bool := decide ((pos a).getD 0 ≤ (pos b).getD 0)

def applyPosG {α} (pos : α → Option Nat) (group : List α) : List α :=
  let restricted := group.filter (fun x => (pos x).isSome)
  if restricted.length > 1 then refillG (fun x => (pos x).isSome) group (restricted.mergeSort (posLeG pos)) else group

theorem applyPositionRestrictions_eq (g : List TagInfo) : applyPositionRestrictions g = applyPosG (·.pos) g := by
  have hr : ∀ g s : List TagInfo, refill g s = refillG (fun x => x.pos.isSome) g s := by
    intro g
    induction g with
    | nil => intro s; rfl
    | cons a g ih =>
      intro s
      simp only [refill, refillG]
      split
      · cases s <;> simp [ih]
      · simp [ih]
  unfold applyPositionRestrictions applyPosG
  simp only [hr]
  rfl

theorem refillG_map {α β} (f : α → β) (p : α → Bool) (q : β → Bool) (h : ∀ a, q (f a) = p a) :
    ∀ (g s : List α), refillG q (g.map f) (s.map f) = (refillG p g s).map f
  | [], _ => rfl
  | a :: g, s => by
    simp only [List.map_cons, refillG, h]
    split
    · cases s with
      | nil => simpa using refillG_map f p q h g []
      | cons x xs => simpa using refillG_map f p q h g xs
    · simpa using refillG_map f p q h g s

theorem map_mergeSort' {α β} (f : α → β) (r : α → α → Bool) (q : β → β → Bool) (h : ∀ a b, q (f a) (f b) = r a b)
    (l : List α) : (l.map f).mergeSort q = (l.mergeSort r).map f := by
  rw [List.map_mergeSort]
  intro a _ b _
  exact (h a b).symm

theorem applyPosG_map {α β} (f : α → β) (pa : α → Option Nat) (pb : β → Option Nat) (h : ∀ a, pb (f a) = pa a)
    (l : List α) : applyPosG pb (l.map f) = (applyPosG pa l).map f := by
  unfold applyPosG
  have hf : (l.map f).filter (fun x => (pb x).isSome) = (l.filter (fun x => (pa x).isSome)).map f := by
    rw [List.filter_map]
    congr 1
    apply List.filter_congr
    intro a _
    simp [h]
  simp only [hf, List.length_map]
  split
  · rw [map_mergeSort' f (posLeG pa) (posLeG pb) (by intro a b; simp [posLeG, h])]
    exact refillG_map f _ _ (by intro a; simp [h]) _ _
  · rfl

/-! ## group entries -/

/-- an item of a tagged part together with its sort key -/
structure GE where
  uid : Nat
  line : Nat
  ot : OT

def OT.tagText : OT → List Char
  | .node _ tag _ _ _ _ _ _ => tag
  | .cmt _ _ => []

/-- the `TagInfo` of a group entry; `body` = text of an element's parameters and sub-elements -/
def GE.toTag (code : List CodeEntry) (body : OT → List Char) (g : GE) : TagInfo :=
  match g.ot with
  | .node _ tag blk ty so eo fields _ =>
    { isComment := false, tag := tag, uid := g.uid, line := g.line, startOff := so, endOff := eo, isBlock := blk,
      text := body g.ot, pos := posRestrict code ty fields, included := false }
  | .cmt text off =>
    { isComment := true, tag := [], uid := g.uid, line := g.line, startOff := off, endOff := 0, isBlock := false,
      text := text, pos := none, included := false }

def geLe (a b : GE) : Bool :=
  if a.uid = 0 ∧ b.uid ≠ 0 then false
  else if b.uid = 0 ∧ a.uid ≠ 0 then true
  else if a.uid = b.uid then
    if a.line = b.line then decide (String.ofList a.ot.tagText ≤ String.ofList b.ot.tagText) else decide (a.line ≤ b.line)
  else decide (a.uid ≤ b.uid)

theorem tagLe_toTag (code : List CodeEntry) (body : OT → List Char) (a b : GE) :
    tagLe (a.toTag code body) (b.toTag code body) = geLe a b := by
  unfold tagLe geLe GE.toTag OT.tagText
  cases a.ot <;> cases b.ot <;> rfl

/-- the writer's order: sort by key, then apply the position restrictions -/
def sortGE (code : List CodeEntry) (ges : List GE) : List GE :=
  applyPosG (fun g => g.ot.pos code) (ges.mergeSort geLe)

theorem sortGE_toTag (code : List CodeEntry) (body : OT → List Char) (ges : List GE) :
    applyPositionRestrictions ((ges.map (GE.toTag code body)).mergeSort tagLe) = (sortGE code ges).map (GE.toTag code body) := by
  rw [applyPositionRestrictions_eq, map_mergeSort' _ geLe tagLe (tagLe_toTag code body)]
  exact applyPosG_map _ _ _ (fun a => by unfold GE.toTag OT.pos; cases a.ot <;> rfl) _

/-! ## the ordered form -/

def cmtGE (cm : Cmt) : GE := ⟨cm.uid, cm.line, .cmt cm.text cm.startOff⟩

/-- the group entry of the child `c` of arm number `i`, `its` = the child's own items in written order -/
def childGE (symbols : Array String) (i : Nat) (a : Arm) (c : Val) (its : List OT) : List GE :=
  match c with
  | .block cty cinfo cfields _ _ =>
    [⟨cinfo.uid, cinfo.line,
      .node i (symText symbols a.tag) a.block cty cinfo.startOff cinfo.endOff (cfields.map normField) its⟩]
  | _ => []

def gesArm (symbols : Array String) (i : Nat) (a : Arm) : List Val → List (List OT) → List GE
  | c :: cs, its :: itss => childGE symbols i a c its ++ gesArm symbols i a cs itss
  | _, _ => []

def gesFrom (symbols : Array String) : Nat → List Arm → List (List Val) → List (List (List OT)) → List GE
  | i, a :: arms, cs :: children, s :: sub => gesArm symbols i a cs s ++ gesFrom symbols (i + 1) arms children sub
  | _, _, _, _ => []

def Val.isScalar : Val → Bool
  | .ident .. => true | .str .. => true | .int .. => true | .dbl .. => true | .enum .. => true
  | _ => false

/-- a scalar, or a struct of scalars -/
def ElemShape : Val → Prop
  | .block _ _ fields _ _ => ∀ f ∈ fields, Val.isScalar f = true
  | v => Val.isScalar v = true

/-- an element, or an array / sequence of elements -/
def FieldShape : Val → Prop
  | .arr vs => ∀ v ∈ vs, ElemShape v
  | .seq vs => ∀ v ∈ vs, ElemShape v
  | v => ElemShape v

def Val.isBlock : Val → Bool
  | .block .. => true
  | _ => false

/-- `Canon e v items`: `v` is a block / keyword of the grammar, all its children are, and `items` are its sub-elements
    and comments in the order in which `stringify` writes them (`sub` = the same for every child) -/
inductive Canon (e : Env) : Val → List OT → Prop
  | mk {ty : Nat} {info : Info} {fields : List Val} {children : List (List Val)} {comments : List Cmt}
      {isB : Bool} {its : List ItemTy} {arms : List Arm} {ht : Bool}
      (hl : e.table.lookup ty = some (.block isB its arms ht))
      (sub : List (List (List OT)))
      (hlen : ht = true → children.length = arms.length) (hsub : sub.length = children.length)
      (hsub2 : ∀ (i : Nat) (cs : List Val) (ss : List (List OT)), children[i]? = some cs → sub[i]? = some ss →
        ss.length = cs.length)
      (hch : ∀ (i j : Nat) (cs : List Val) (ss : List (List OT)) (c : Val) (o : List OT),
        children[i]? = some cs → sub[i]? = some ss → cs[j]? = some c → ss[j]? = some o → Canon e c o)
      (hblk : ∀ cs ∈ children, ∀ c ∈ cs, Val.isBlock c = true)
      (hcm : ∀ cm ∈ comments, cm.included = false)
      (hfs : ∀ f ∈ fields, FieldShape f) :
      Canon e (.block ty info fields children comments)
        (if ht then (sortGE e.code (gesFrom e.symbols 0 arms children sub ++ comments.map cmtGE)).map (·.ot) else [])

/-- does the text of a block's content — its parameters `fields`, then `items` as they are written — end inside a
    `//` comment, as the writer's `ends_in_line_comment` sees it? (Rendered at indent level 0: the indentation does not
    matter, `endsInLineComment_body` in Writer.lean.) -/
def OT.endsLC (fields : List Val) (items : List OT) : Bool :=
  endsInLineComment (renderToks (fieldsToks 0 fields ++ OT.toksL 0 items))

/-- the end offset the writer uses (after the second `fix:` commit): the `/end` of a block whose content ends in a line
    comment is written with offset 1 if its recorded offset is 0 (`endOffOf`); keywords have no `/end` -/
def OT.fixEo (blk : Bool) (eo : Nat) (fields : List Val) (items : List OT) : Nat :=
  if blk = true ∧ eo = 0 ∧ OT.endsLC fields items = true then 1 else eo

/-- the offsets the writer uses (after the `fix:` commits): inside every tagged part, an item with offset 0 directly
    behind a line comment gets offset 1 (`alc` = `after_line_comment`), and so does the `/end` of a block whose
    content ends in a line comment (`OT.fixEo`) -/
def OT.fixL : Bool → List OT → List OT
  | _, [] => []
  | alc, .cmt text off :: rest => .cmt text (bumpOff alc off) :: OT.fixL (isLineCommentText text) rest
  | alc, .node arm tag blk ty so eo fields items :: rest =>
    .node arm tag blk ty (bumpOff alc so) (OT.fixEo blk eo fields (OT.fixL false items)) fields (OT.fixL false items) ::
      OT.fixL false rest

def OT.itemsOf : OT → List OT
  | .node _ _ _ _ _ _ _ items => items
  | .cmt _ _ => []

/-- `InOrder e v items`: the per-arm lists of sub-elements of `v` and its comment list stand in the order in which
    they occur in `items` (recursively). True of everything the parser builds; violated by values whose
    position-restricted sub-elements of one arm are not in position order (they are regrouped on the first write). -/
inductive InOrder (e : Env) : Val → List OT → Prop
  | mk {ty : Nat} {info : Info} {fields : List Val} {children : List (List Val)} {comments : List Cmt}
      {isB : Bool} {its : List ItemTy} {arms : List Arm} {ht : Bool} {items : List OT}
      (hl : e.table.lookup ty = some (.block isB its arms ht))
      (sub : List (List (List OT)))
      (hlen : ht = true → children.length = arms.length) (hsub : sub.length = children.length)
      (hsub2 : ∀ (i : Nat) (cs : List Val) (ss : List (List OT)), children[i]? = some cs → sub[i]? = some ss →
        ss.length = cs.length)
      (harm : ht = true → ∀ (k : Nat) (a : Arm) (cs : List Val) (ss : List (List OT)), arms[k]? = some a →
        children[k]? = some cs → sub[k]? = some ss →
        (gesArm e.symbols k a cs ss).map (·.ot) = items.filter (OT.isArm k))
      (hcmo : ht = true → comments.map (fun cm => OT.cmt cm.text cm.startOff) = items.filter OT.isCmt)
      (hblk : ∀ cs ∈ children, ∀ c ∈ cs, Val.isBlock c = true)
      (hcm : ∀ cm ∈ comments, cm.included = false)
      (hnil : ht = false → children = [] ∧ comments = [])
      (hfid : info.fileid = 0)
      (hch : ∀ (i j : Nat) (cs : List Val) (ss : List (List OT)) (c : Val) (o : List OT),
        children[i]? = some cs → sub[i]? = some ss → cs[j]? = some c → ss[j]? = some o → InOrder e c o) :
      InOrder e (.block ty info fields children comments) items

/-- equality of two values up to the layout bookkeeping that is recomputed on reload: `Info.line`, `Info.uid`,
    `Cmt.line`, `Cmt.uid`, and the `Info` of struct values inside parameter lists (never written, compared via
    `normField`). Everything else — types, parameters, line offsets `startOff` / `endOff`, file ids, the per-arm
    lists of sub-elements in their order, the comments with their texts and offsets — is equal. -/
inductive LayoutEq : Val → Val → Prop
  | block {ty : Nat} {i i' : Info} {f f' : List Val} {ch ch' : List (List Val)} {cm cm' : List Cmt}
      (hso : i.startOff = i'.startOff) (heo : i.endOff = i'.endOff) (hfid : i.fileid = i'.fileid)
      (hf : f.map normField = f'.map normField)
      (hlen : ch.length = ch'.length)
      (hlen2 : ∀ (k : Nat) (cs cs' : List Val), ch[k]? = some cs → ch'[k]? = some cs' → cs.length = cs'.length)
      (hch : ∀ (k j : Nat) (cs cs' : List Val) (c c' : Val), ch[k]? = some cs → ch'[k]? = some cs' →
        cs[j]? = some c → cs'[j]? = some c' → LayoutEq c c')
      (hcm : cm.map (fun x => (x.text, x.startOff, x.included)) = cm'.map (fun x => (x.text, x.startOff, x.included))) :
      LayoutEq (.block ty i f ch cm) (.block ty i' f' ch' cm')

/-- `InOrder` sees the grammar table and the symbol table of the environment only (not its token array) -/
theorem InOrder.congr {e e' : Env} {v : Val} {items : List OT} (hc : InOrder e v items) (ht : e.table = e'.table)
    (hs : e.symbols = e'.symbols) : InOrder e' v items := by
  induction hc with
  | @mk ty info fields children comments isB its arms ht' items hl sub hlen hsub hsub2 harm hcmo hblk hcm hnil hfid _ ih =>
    exact InOrder.mk (ht ▸ hl) sub hlen hsub hsub2 (hs ▸ harm) hcmo hblk hcm hnil hfid ih

end A2l.Tree
