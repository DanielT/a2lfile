import A2lVerif.Lemmas.RT.LexToks
import A2lVerif.Lemmas.RT.Canon
/-! # C01: lexability of the written token stream from conditions on the values (ordered tree level) -/
namespace A2l.Tree
open A2l.Lex A2l.Sc

theorem mem_natToDigits (b : Nat) (digit : Nat → Char) (hb : 2 ≤ b) (P : Char → Prop) (hd : ∀ d, d < b → P (digit d))
    (n : Nat) : ∀ c ∈ natToDigits b digit n, P c := by
  obtain ⟨ds, -, hds, -, h⟩ := natToDigits_spec b digit hb n
  rw [h]
  intro c hc
  obtain ⟨d, hd', rfl⟩ := List.mem_map.1 hc
  exact hd d (hds d hd')

def DigitLike (c : Char) : Prop := IsAscii c ∧ isNumChar (asciiB c) = true

def DecLike (c : Char) : Prop :=
  DigitLike c ∧ (isAlpha (asciiB c) || asciiB c == 95) = false ∧ c ≠ '-' ∧ c ≠ '.'

theorem decDigit_like : ∀ d, d < 10 → DecLike (Char.ofNat (48 + d)) := by
  have : ∀ d : Fin 10, DecLike (Char.ofNat (48 + d.val)) := by unfold DecLike DigitLike; decide
  intro d h; exact this ⟨d, h⟩

theorem hexDigit_like : ∀ d, d < 16 → DigitLike (hexDigitUpper d) := by
  have : ∀ d : Fin 16, DigitLike (hexDigitUpper d.val) := by unfold DigitLike; decide
  intro d h; exact this ⟨d, h⟩

theorem numText_of (c : Char) (cs : List Char) (hc : DigitLike c)
    (hf : (isAlpha (asciiB c) || asciiB c == 95) = false) (hcs : ∀ x ∈ cs, DigitLike x)
    (hne : c :: cs ≠ ['-'] ∧ c :: cs ≠ ['.'] ∧ c :: cs ≠ ['0', 'x']) : NumText (c :: cs) := by
  refine ⟨c, cs, rfl, ?_, hf, by simp [hc.2], fun x hx => (hcs x hx).2, hne.1, hne.2.1, hne.2.2⟩
  intro x hx
  rcases List.mem_cons.1 hx with rfl | hx
  · exact hc.1
  · exact (hcs x hx).1

/-- every integer the writer prints is read back as one number token -/
theorem numText_printInt (t : IntTy) (v : Int) (hex : Bool) : NumText (printInt t v hex) := by
  have hdec := fun n => mem_natToDigits 10 (fun d => Char.ofNat (48 + d)) (by omega) DecLike decDigit_like n
  unfold printInt
  cases hex with
  | true =>
    simp only [if_true]
    refine numText_of '0' _ (by unfold DigitLike; decide) (by decide) (fun x hx => ?_) ⟨by simp, by simp, fun h => ?_⟩
    · rcases List.mem_cons.1 hx with rfl | hx
      · unfold DigitLike; decide
      · exact mem_natToDigits 16 hexDigitUpper (by omega) DigitLike hexDigit_like _ x hx
    · exact natToDigits_ne_nil 16 hexDigitUpper (by omega) _ (List.cons.inj (List.cons.inj h).2).2
  | false =>
    simp only [Bool.false_eq_true, if_false, showDec]
    split
    · refine numText_of '-' _ (by unfold DigitLike; decide) (by decide) (fun x hx => (hdec _ x hx).1)
        ⟨fun h => ?_, by simp, by simp⟩
      exact natToDigits_ne_nil 10 _ (by omega) _ (List.cons.inj h).2
    · obtain ⟨c, cs, hcs⟩ := List.exists_cons_of_ne_nil (natToDigits_ne_nil 10 (fun d => Char.ofNat (48 + d)) (by omega) v.toNat)
      have hd := hdec v.toNat
      rw [hcs] at hd ⊢
      have h0 := hd c List.mem_cons_self
      refine numText_of c cs h0.1 h0.2.1 (fun x hx => (hd x (List.mem_cons_of_mem _ hx)).1)
        ⟨fun h => h0.2.2.1 (List.cons.inj h).1, fun h => h0.2.2.2 (List.cons.inj h).1, fun h => ?_⟩
      -- `x` is not a decimal digit
      have := (hd 'x' (by rw [(List.cons.inj h).2]; exact List.mem_cons_of_mem _ List.mem_cons_self)).2.1
      exact absurd this (by decide)

/-- what `StreamLex` asks of a token `w` and the token `w'` behind it -/
def PairLex (w w' : WTok) : Prop :=
  (w.ty = 1 → w'.ty = 0 → w'.text ≠ "A2ML".toList) ∧ (w.ty = 6 → isLineCmt w.text = true → 1 ≤ w'.off)

theorem pairLex_of_ty {w w' : WTok} (h1 : w.ty ≠ 1) (h6 : w.ty ≠ 6) : PairLex w w' :=
  ⟨fun h => absurd h h1, fun h => absurd h h6⟩

/-- `StreamLex` for a part of a stream, `next` = the token that follows the part. The condition on an identifier
    behind `/begin` is put on the `/begin` token, so that nothing need be known of the token in front of the part. -/
def StreamLexN : List WTok → Option WTok → Prop
  | [], _ => True
  | w :: rest, next => TokLex w ∧ (∀ w', (rest.head? <|> next) = some w' → PairLex w w') ∧ StreamLexN rest next

theorem streamLex_of_N : ∀ (ws : List WTok) (prev next : Option WTok), StreamLexN ws next →
    (∀ w rest p, ws = w :: rest → prev = some p → PairLex p w) → StreamLex prev ws
  | [], _, _, _, _ => trivial
  | w :: rest, prev, next, ⟨h1, h2, h3⟩, hp =>
    ⟨h1, fun h0 ⟨p, hpp, hp1⟩ => (hp w rest p rfl hpp).1 hp1 h0,
      fun h6 hl w' rest' hr => (h2 w' (by rw [hr]; rfl)).2 h6 hl,
      streamLex_of_N rest (some w) next h3 (fun w' rest' p hr hpp => by cases hpp; exact h2 w' (by rw [hr]; rfl))⟩

theorem streamLexN_append : ∀ (a b : List WTok) (next : Option WTok),
    StreamLexN a (b.head? <|> next) → StreamLexN b next → StreamLexN (a ++ b) next
  | [], _, _, _, hb => hb
  | w :: rest, b, next, ⟨h1, h2, h3⟩, hb => by
    refine ⟨h1, fun w' hw' => h2 w' ?_, streamLexN_append rest b next h3 hb⟩
    cases rest with
    | nil => exact hw'
    | cons r rs => exact hw'

theorem streamLexN_plain : ∀ (ts : List WTok) (next : Option WTok), (∀ w ∈ ts, TokLex w ∧ w.ty ≠ 6 ∧ w.ty ≠ 1) →
    StreamLexN ts next
  | [], _, _ => trivial
  | w :: rest, next, h =>
    ⟨(h w List.mem_cons_self).1, fun _ _ => pairLex_of_ty (h w List.mem_cons_self).2.2 (h w List.mem_cons_self).2.1,
      streamLexN_plain rest next (fun x hx => h x (List.mem_cons_of_mem _ hx))⟩

/-- scalar parameters whose token is read back: identifiers and enum values are `IdentText`, float texts `NumText`
    (integers and strings always are) -/
def ScalarLex : Val → Prop
  | .ident s _ => IdentText s
  | .enum s _ => IdentText s
  | .dbl s _ => NumText s
  | _ => True

def ElemLex : Val → Prop
  | .block _ _ fields _ _ => ∀ f ∈ fields, ScalarLex f
  | v => ScalarLex v

def FieldLex : Val → Prop
  | .arr vs => ∀ v ∈ vs, ElemLex v
  | .seq vs => ∀ v ∈ vs, ElemLex v
  | v => ElemLex v

theorem scalarToks_tys {ind : Nat} {v : Val} {w : WTok} (hw : w ∈ scalarToks ind v) : w.ty = 0 ∨ w.ty = 4 ∨ w.ty = 5 := by
  cases v <;> simp only [scalarToks, List.mem_singleton, List.not_mem_nil] at hw <;> subst hw <;> simp

theorem scalarToks_lex {ind : Nat} {v : Val} {w : WTok} (h : ScalarLex v) (hw : w ∈ scalarToks ind v) : TokLex w := by
  cases v <;> simp only [scalarToks, List.mem_singleton, List.not_mem_nil] at hw <;> subst hw
  case ident => exact h
  case enum => exact h
  case str s _ => exact ⟨s, rfl⟩
  case int => exact numText_printInt _ _ _
  case dbl => exact h

theorem mem_fieldsToks {ind : Nat} {fs : List Val} {w : WTok} (hw : w ∈ fieldsToks ind fs) :
    ∃ v, w ∈ scalarToks ind v ∧ ((∀ f ∈ fs, FieldLex f) → ScalarLex v) := by
  obtain ⟨f, hf, hwf⟩ := List.mem_flatMap.1 hw
  -- an element is a struct (a list of scalars) or a scalar
  have el : ∀ e, w ∈ elemToks ind e → ∃ v, w ∈ scalarToks ind v ∧ (ElemLex e → ScalarLex v) := by
    intro e he
    have : (∃ fields : List Val, elemToks ind e = fields.flatMap (scalarToks ind) ∧ (ElemLex e → ∀ x ∈ fields, ScalarLex x)) ∨
        (elemToks ind e = scalarToks ind e ∧ (ElemLex e → ScalarLex e)) := by
      cases e
      case block ty info fields ch cm => exact .inl ⟨fields, rfl, id⟩
      all_goals exact .inr ⟨rfl, id⟩
    rcases this with ⟨fields, h1, h2⟩ | ⟨h1, h2⟩
    · obtain ⟨x, hx, hwx⟩ := List.mem_flatMap.1 (h1 ▸ he)
      exact ⟨x, hwx, fun h => h2 h x hx⟩
    · exact ⟨e, h1 ▸ he, h2⟩
  -- a parameter is a list of elements or an element
  have : (∃ vs : List Val, fieldToks ind f = vs.flatMap (elemToks ind) ∧ (FieldLex f → ∀ x ∈ vs, ElemLex x)) ∨
      (fieldToks ind f = elemToks ind f ∧ (FieldLex f → ElemLex f)) := by
    cases f
    case arr vs => exact .inl ⟨vs, rfl, id⟩
    case seq vs => exact .inl ⟨vs, rfl, id⟩
    all_goals exact .inr ⟨rfl, id⟩
  rcases this with ⟨vs, h1, h2⟩ | ⟨h1, h2⟩
  · obtain ⟨x, hx, hwx⟩ := List.mem_flatMap.1 (h1 ▸ hwf)
    obtain ⟨v, hv, hl⟩ := el x hwx
    exact ⟨v, hv, fun h => hl (h2 (h f hf) x hx)⟩
  · obtain ⟨v, hv, hl⟩ := el f (h1 ▸ hwf)
    exact ⟨v, hv, fun h => hl (h2 (h f hf))⟩

theorem fieldsToks_tys (ind : Nat) (fs : List Val) : ∀ w ∈ fieldsToks ind fs, w.ty = 0 ∨ w.ty = 4 ∨ w.ty = 5 := by
  intro w hw
  obtain ⟨v, hv, -⟩ := mem_fieldsToks hw
  exact scalarToks_tys hv

theorem fieldsToks_lex (ind : Nat) (fs : List Val) (h : ∀ f ∈ fs, FieldLex f) :
    ∀ w ∈ fieldsToks ind fs, TokLex w ∧ w.ty ≠ 6 ∧ w.ty ≠ 1 := by
  intro w hw
  obtain ⟨v, hv, hl⟩ := mem_fieldsToks hw
  have := scalarToks_tys hv
  exact ⟨scalarToks_lex (hl h) hv, by omega, by omega⟩

mutual
/-- lexability of the token stream of an ordered tree, as conditions on the tree: tags and identifier values are
    `IdentText`, the tag of a block is not `A2ML`, float texts are `NumText`, comments are `CommentText`, and a line
    comment is followed by a token with a line break in front of it (`next` = the token behind the tree) -/
def OT.lex (ind : Nat) : OT → Option WTok → Prop
  | .node _ tag blk _ _ eo fields items, next =>
    IdentText tag ∧ (blk = true → tag ≠ "A2ML".toList) ∧ (∀ f ∈ fields, FieldLex f) ∧
      OT.lexL (ind + 1) items (if blk then some ⟨2, endText, eo, ind⟩ else next)
  | .cmt text _, next => CommentText text ∧ (isLineCmt text = true → ∀ w', next = some w' → 1 ≤ w'.off)
def OT.lexL (ind : Nat) : List OT → Option WTok → Prop
  | [], _ => True
  | x :: xs, next => OT.lex ind x ((OT.toksL ind xs).head? <|> next) ∧ OT.lexL ind xs next
end

mutual
theorem lex_toks : ∀ (o : OT) (ind : Nat) (next : Option WTok), OT.lex ind o next → StreamLexN (o.toks ind) next
  | .cmt text off, ind, next, h => by
    simp only [OT.lex] at h
    simp only [OT.toks]
    exact ⟨h.1, fun w' hw' => ⟨fun h1 => by simp at h1, fun _ hl => h.2 hl w' hw'⟩, trivial⟩
  | .node arm tag blk ty so eo fields items, ind, next, h => by
    simp only [OT.lex] at h
    obtain ⟨htag, hA, hf, hitems⟩ := h
    simp only [OT.toks]
    have hclose : ∀ w ∈ closeToks ind tag blk eo, TokLex w ∧ w.ty ≠ 6 ∧ w.ty ≠ 1 := by
      intro w hw
      cases blk with
      | false => cases hw
      | true =>
        simp only [closeToks, if_true, List.mem_cons, List.not_mem_nil, or_false] at hw
        rcases hw with rfl | rfl
        · exact ⟨rfl, by simp, by simp⟩
        · exact ⟨htag, by simp, by simp⟩
    have hnext : (if blk = true then some (⟨2, endText, eo, ind⟩ : WTok) else next) =
        ((closeToks ind tag blk eo).head? <|> next) := by
      cases blk <;> rfl
    rw [hnext] at hitems
    refine streamLexN_append _ _ next ?_
      (streamLexN_append _ _ next (streamLexN_plain _ _ (fieldsToks_lex _ _ hf))
        (streamLexN_append _ _ next (lex_toksL items (ind + 1) _ hitems) (streamLexN_plain _ _ hclose)))
    -- the head: behind `/begin` stands the tag, which is not `A2ML`
    cases blk with
    | true =>
      exact ⟨rfl, fun w' hw' => by cases hw'; exact ⟨fun _ _ => hA rfl, fun h6 => by simp at h6⟩, htag,
        fun w' _ => pairLex_of_ty (by simp) (by simp), trivial⟩
    | false => exact ⟨htag, fun w' _ => pairLex_of_ty (by simp) (by simp), trivial⟩
theorem lex_toksL : ∀ (xs : List OT) (ind : Nat) (next : Option WTok), OT.lexL ind xs next →
    StreamLexN (OT.toksL ind xs) next
  | [], _, _, _ => by simp only [OT.toksL]; trivial
  | x :: xs, ind, next, h => by
    simp only [OT.lexL] at h
    simp only [OT.toksL]
    exact streamLexN_append _ _ next (lex_toks x ind _ h.1) (lex_toksL xs ind next h.2)
end

theorem commentText_rest {t : List Char} (h : CommentText t) : ∃ r, cmtRest t = '/' :: r := by
  have hh := commentText_core_head h
  cases hr : cmtRest t with
  | nil => rw [hr] at hh; cases hh
  | cons c cs =>
    refine ⟨cs, ?_⟩
    -- the first byte, a `/`, belongs to the first character
    by_cases hc : c = '/'
    · rw [hc]
    · obtain ⟨x, xs, hx⟩ := List.exists_cons_of_ne_nil (String.utf8EncodeChar_ne_nil (c := c))
      rw [hr, encL_cons, hx] at hh
      exact absurd (Option.some.inj hh)
        (enc_ne (by decide) (by decide) (by decide) hc x (by rw [hx]; exact List.mem_cons_self))

theorem dropWhile_ws_blanks (k : Nat) (r : List Char) :
    (List.replicate k ' ' ++ '/' :: r).dropWhile isRustWs = '/' :: r := by
  rw [List.dropWhile_append_of_pos fun a ha => by rw [List.eq_of_mem_replicate ha]; decide,
    List.dropWhile_cons_of_neg (by decide)]

/-- for comment tokens the writer's line-comment test agrees with the token's kind -/
theorem isLineCommentText_eq {t : List Char} (h : CommentText t) : isLineCommentText t = isLineCmt t := by
  obtain ⟨r, hr⟩ := commentText_rest h
  unfold isLineCommentText isLineCmt
  rw [hr]
  have : t.dropWhile isRustWs = '/' :: r := by
    conv => lhs; rw [cmt_split t, hr]
    exact dropWhile_ws_blanks _ r
  rw [this]
  rfl

def OT.offOf : OT → Nat
  | .node _ _ _ _ so _ _ _ => so
  | .cmt _ off => off

theorem toks_head_off : ∀ (o : OT) (ind : Nat), ∃ w rest, o.toks ind = w :: rest ∧ w.off = o.offOf
  | .cmt text off, ind => ⟨⟨6, text, off, ind⟩, [], by simp [OT.toks], rfl⟩
  | .node arm tag blk ty so eo fields items, ind => by
    cases blk
    · exact ⟨⟨0, tag, so, ind⟩, _, by simp only [OT.toks, headToks, Bool.false_eq_true, if_false, List.cons_append, List.nil_append]; rfl, rfl⟩
    · exact ⟨⟨1, beginText, so, ind⟩, _, by simp only [OT.toks, headToks, if_true, List.cons_append, List.nil_append]; rfl, rfl⟩

mutual
/-- value-level conditions BEFORE the offsets are bumped: as `OT.lex`, but nothing is asked of the offsets behind a line
    comment: inside a tagged part the writer bumps the start offset of the next item, and (second `fix:`
    commit, exact `ends_in_line_comment`) the end offset of the enclosing `/end` if the comment is the last item of its
    block (`fixEo_pos_of_last_cmt`). Nothing is asked of the last ROOT item (`streamLex_of_lexW`). In addition a
    keyword (`blk = false`) has no items. -/
def OT.lexW : OT → Prop
  | .node _ tag blk _ _ _ fields items =>
    IdentText tag ∧ (blk = true → tag ≠ "A2ML".toList) ∧ (∀ f ∈ fields, FieldLex f) ∧ OT.lexWL items ∧
      (blk = false → items = [])
  | .cmt text _ => CommentText text
def OT.lexWL : List OT → Prop
  | [] => True
  | x :: xs => OT.lexW x ∧ OT.lexWL xs
end

theorem bumpOff_true_pos (n : Nat) : 1 ≤ bumpOff true n := by
  unfold bumpOff
  by_cases h : n = 0
  · simp [h]
  · rw [if_neg (by simp [h])]; omega

theorem fixL_head_off (alc : Bool) : ∀ (x : OT) (xs : List OT), ∃ x' xs', OT.fixL alc (x :: xs) = x' :: xs' ∧
    x'.offOf = bumpOff alc x.offOf
  | .cmt text off, xs => ⟨.cmt text (bumpOff alc off), OT.fixL (isLineCommentText text) xs, by simp [OT.fixL], rfl⟩
  | .node arm tag blk ty so eo fields items, xs =>
    ⟨.node arm tag blk ty (bumpOff alc so) (OT.fixEo blk eo fields (OT.fixL false items)) fields (OT.fixL false items),
      OT.fixL false xs, by simp [OT.fixL], rfl⟩

theorem fixEo_pos {blk : Bool} {eo : Nat} {fields : List Val} {items : List OT} (hb : blk = true)
    (h : 1 ≤ eo ∨ OT.endsLC fields items = true) : 1 ≤ OT.fixEo blk eo fields items := by
  unfold OT.fixEo
  split
  · exact Nat.le_refl 1
  · rename_i hn
    rcases h with h | h
    · exact h
    · by_cases h0 : eo = 0
      · exact absurd ⟨hb, h0, h⟩ hn
      · omega

theorem fixEo_of_pos {blk : Bool} {eo : Nat} {fields : List Val} {items : List OT} (h : 1 ≤ eo) :
    OT.fixEo blk eo fields items = eo := by
  unfold OT.fixEo
  rw [if_neg (by intro h'; omega)]

theorem fixEo_kw {eo : Nat} {fields : List Val} {items : List OT} : OT.fixEo false eo fields items = eo := by
  simp [OT.fixEo]

/-- is the last item a `//` comment? -/
def OT.lastLC (items : List OT) : Bool :=
  match items.getLast? with
  | some (.cmt text _) => isLineCmt text
  | _ => false

/-- a node ends with `/end tag`, a keyword (it has no items) with its tag or a parameter -/
theorem lcAfter_node {ind : Nat} {a : Bool} {arm : Nat} {tag : List Char} {blk : Bool} {ty so eo : Nat} {fields : List Val}
    {items : List OT} (hkw : blk = false → items = []) :
    lcAfter a (OT.toks ind (.node arm tag blk ty so eo fields items)) = false := by
  cases blk with
  | true => simp [OT.toks, closeToks, lcAfter, WTok.isLC]
  | false =>
    rw [hkw rfl]
    simp only [OT.toks, OT.toksL, closeToks, headToks, Bool.false_eq_true, if_false, List.append_nil, lcAfter_append]
    exact lcAfter_plain fun w hw => by rcases fieldsToks_tys _ _ w hw with h | h | h <;> omega

/-- the last token of what the writer emits for lexable items is a `//` comment iff the last item is one -/
theorem lcAfter_toksL (ind : Nat) : ∀ (items : List OT) (alc a : Bool), OT.lexWL items →
    lcAfter a (OT.toksL ind (OT.fixL alc items)) = (if items = [] then a else OT.lastLC items)
  | [], _, _, _ => by simp [OT.fixL, OT.toksL, lcAfter]
  | .cmt text off :: xs, alc, a, h => by
    simp only [OT.lexWL] at h
    rw [OT.fixL, OT.toksL, lcAfter_append, lcAfter_toksL ind xs _ _ h.2, if_neg (List.cons_ne_nil _ _)]
    cases xs with
    | nil => simp [OT.toks, lcAfter, WTok.isLC, OT.lastLC]
    | cons y ys => simp [OT.lastLC, List.getLast?_cons_cons]
  | .node arm tag blk ty so eo fields items :: xs, alc, a, h => by
    simp only [OT.lexWL, OT.lexW] at h
    rw [OT.fixL, OT.toksL, lcAfter_append, lcAfter_node (fun hb => by rw [h.1.2.2.2.2 hb]; simp only [OT.fixL]),
      lcAfter_toksL ind xs _ _ h.2, if_neg (List.cons_ne_nil _ _)]
    cases xs with
    | nil => simp [OT.lastLC]
    | cons y ys => simp [OT.lastLC, List.getLast?_cons_cons]

theorem endsLC_of_lexL (fields : List Val) (items : List OT) (next : Option WTok) (hf : ∀ f ∈ fields, FieldLex f)
    (hw : OT.lexWL items) (hl : OT.lexL 0 (OT.fixL false items) next) :
    OT.endsLC fields (OT.fixL false items) = OT.lastLC items := by
  -- on a lexable stream the scanner says whether the last token is a `//` comment
  have h1 : StreamLexN (fieldsToks 0 fields ++ OT.toksL 0 (OT.fixL false items)) next :=
    streamLexN_append _ _ next (streamLexN_plain _ _ (fieldsToks_lex 0 fields hf)) (lex_toksL _ 0 next hl)
  unfold OT.endsLC
  rw [endsInLineComment_lcAfter _ none (streamLex_of_N _ _ _ h1 (fun _ _ _ _ hp => by cases hp)), lcAfter_append,
    lcAfter_plain fun w hw => by rcases fieldsToks_tys _ _ w hw with h | h | h <;> omega,
    lcAfter_toksL 0 items false false hw]
  split
  · subst ‹items = []›; rfl
  · rfl

mutual
theorem lexW_items : ∀ (o : OT), o.lexW → ∀ (ind : Nat) (next : Option WTok),
    (∀ text off, o.itemsOf.getLast? = some (.cmt text off) → isLineCmt text = true → ∀ w', next = some w' → 1 ≤ w'.off) →
    OT.lexL ind (OT.fixL false o.itemsOf) next
  | .node _ _ _ _ _ _ _ items, h, ind, next, hl => by
    simp only [OT.lexW] at h
    exact lexW_list items h.2.2.2.1 ind false next hl
  | .cmt _ _, _, _, _, _ => by simp [OT.itemsOf, OT.fixL, OT.lexL]
/-- the value-level conditions need no "line break behind a line comment" inside a tagged part: the offsets the writer
    bumps (`OT.fixL`) provide it -/
theorem lexW_list : ∀ (xs : List OT), OT.lexWL xs → ∀ (ind : Nat) (alc : Bool) (next : Option WTok),
    (∀ text off, xs.getLast? = some (.cmt text off) → isLineCmt text = true → ∀ w', next = some w' → 1 ≤ w'.off) →
    OT.lexL ind (OT.fixL alc xs) next
  | [], _, _, _, _, _ => by simp [OT.fixL, OT.lexL]
  | .cmt text off :: xs, h, ind, alc, next, hl => by
    simp only [OT.lexWL, OT.lexW] at h
    simp only [OT.fixL, OT.lexL, OT.lex]
    refine ⟨⟨h.1, ?_⟩, lexW_list xs h.2 ind _ next ?_⟩
    · intro hline w' hw'
      cases xs with
      | nil =>
        simp only [OT.fixL, OT.toksL, List.head?_nil] at hw'
        exact hl text off rfl hline w' (by simpa using hw')
      | cons y ys =>
        obtain ⟨y', ys', hfix, hoff⟩ := fixL_head_off (isLineCommentText text) y ys
        obtain ⟨w, rest, htoks, hwoff⟩ := toks_head_off y' ind
        rw [hfix] at hw'
        simp only [OT.toksL, htoks, List.cons_append, List.head?_cons] at hw'
        have : w' = w := by simpa using hw'.symm
        subst this
        rw [hwoff, hoff, isLineCommentText_eq h.1, hline]
        exact bumpOff_true_pos _
    · exact fun t o hlast => hl t o (by rw [List.getLast?_cons, hlast]; rfl)
  | .node arm tag blk ty so eo fields items :: xs, h, ind, alc, next, hl => by
    simp only [OT.lexWL] at h
    have hnode := h.1
    simp only [OT.lexW] at hnode
    obtain ⟨htag, hA, hf, hitems, hkw⟩ := hnode
    simp only [OT.fixL, OT.lexL, OT.lex]
    refine ⟨⟨htag, hA, hf, ?_⟩, lexW_list xs h.2 ind false next ?_⟩
    · have := lexW_items (.node arm tag blk ty so eo fields items) h.1 (ind + 1)
        (if blk = true then some ⟨2, endText, OT.fixEo blk eo fields (OT.fixL false items), ind⟩
          else (OT.toksL ind (OT.fixL false xs)).head? <|> next) (by
          intro t o hlast hline w' hw'
          cases hb : blk with
          | true =>
            rw [hb] at hw'; simp only [if_true, Option.some.injEq] at hw'
            subst hw'
            -- the writer sees the comment at the end of the content: the `/end` gets a line break. `OT.endsLC` is the scan
            -- of the content at indent level 0, which is lexable in front of any `/end` that stands behind a line break
            have hl0 := lexW_items (.node arm tag blk ty so eo fields items) h.1 0 (some ⟨2, endText, 1, 0⟩)
              (fun _ _ _ _ w' hw' => by cases hw'; exact Nat.le_refl 1)
            simp only [OT.itemsOf] at hl0 hlast
            refine fixEo_pos rfl (Or.inr ?_)
            rw [endsLC_of_lexL fields items _ hf hitems hl0]
            simp [OT.lastLC, hlast, hline]
          | false =>
            have := hkw hb
            simp only [OT.itemsOf] at hlast
            rw [this] at hlast; simp at hlast)
      exact this
    · exact fun t o hlast => hl t o (by rw [List.getLast?_cons, hlast]; rfl)
end

/-- what the writer emits for items that meet the value-level conditions is lexable (nothing follows the last root item,
    so it may be a line comment) -/
theorem streamLex_of_lexW (items : List OT) (h : OT.lexWL items) :
    StreamLex none (OT.toksL 0 (OT.fixL false items)) :=
  streamLex_of_N _ _ _ (lex_toksL _ 0 none (lexW_list items h 0 false none (fun _ _ _ _ _ hw' => by cases hw')))
    (fun _ _ _ _ hp => by cases hp)

/-- `ends_in_line_comment` on the content of a block, as the writer writes it: for lexable parameters and items it is
    true iff the last item is a `//` comment -/
theorem endsLC_fixL (fields : List Val) (items : List OT) (hf : ∀ f ∈ fields, FieldLex f) (hw : OT.lexWL items) :
    OT.endsLC fields (OT.fixL false items) = OT.lastLC items := by
  have hl := lexW_list items hw 0 false (some ⟨2, endText, 1, 0⟩)
    (fun _ _ _ _ w' hw' => by cases hw'; exact Nat.le_refl 1)
  exact endsLC_of_lexL fields items _ hf hw hl

/-- if the last item of a block is a line comment, the writer's end offset is ≥ 1, whatever the recorded one is -/
theorem fixEo_pos_of_last_cmt (eo : Nat) (fields : List Val) (items : List OT) (hf : ∀ f ∈ fields, FieldLex f)
    (hw : OT.lexWL items) (h : OT.lastLC items = true) : 1 ≤ OT.fixEo true eo fields (OT.fixL false items) :=
  fixEo_pos rfl (Or.inr (by rw [endsLC_fixL fields items hf hw, h]))

/-- … and otherwise the recorded end offset is used -/
theorem fixEo_of_not_last_cmt (blk : Bool) (eo : Nat) (fields : List Val) (items : List OT) (hf : ∀ f ∈ fields, FieldLex f)
    (hw : OT.lexWL items) (h : OT.lastLC items = false) : OT.fixEo blk eo fields (OT.fixL false items) = eo := by
  unfold OT.fixEo
  rw [endsLC_fixL fields items hf hw, h]
  simp

end A2l.Tree
