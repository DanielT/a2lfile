import A2lVerif.Lemmas.RT.Lists
/-! # C01: counterexamples that show which hypotheses of the stability theorem are needed (model level, small tables) -/
namespace A2l.Tree

/-! ## a decidable test for "the parser returns this value"

`Val` is a nested inductive type without `DecidableEq`. A boolean equality that implies `=` makes "the parser returns
`v`" a test that `decide +kernel` evaluates (`⟨_, rfl⟩` would have the elaborator unfold the parser first, which it
does without sharing). -/

mutual
def Val.beq : Val → Val → Bool
  | .ident a o, .ident b p | .str a o, .str b p | .dbl a o, .dbl b p | .enum a o, .enum b p => a == b && o == p
  | .int a h o w, .int b g p x => a == b && h == g && o == p && w == x
  | .arr vs, .arr ws | .seq vs, .seq ws => Val.beqL vs ws
  | .block t i f ch cm, .block u j g dh dm => t == u && i == j && Val.beqL f g && Val.beqLL ch dh && cm == dm
  | _, _ => false
def Val.beqL : List Val → List Val → Bool
  | [], [] => true
  | v :: vs, w :: ws => Val.beq v w && Val.beqL vs ws
  | _, _ => false
def Val.beqLL : List (List Val) → List (List Val) → Bool
  | [], [] => true
  | v :: vs, w :: ws => Val.beqL v w && Val.beqLL vs ws
  | _, _ => false
end

mutual
theorem Val.eq_of_beq : ∀ (v w : Val), Val.beq v w = true → v = w
  | .ident a o, .ident b p, h | .str a o, .str b p, h | .dbl a o, .dbl b p, h | .enum a o, .enum b p, h => by
    have h : (a == b && o == p) = true := h
    simp only [Bool.and_eq_true, beq_iff_eq] at h
    rw [h.1, h.2]
  | .int a g o x, .int b k p y, h => by
    have h : (a == b && g == k && o == p && x == y) = true := h
    simp only [Bool.and_eq_true, beq_iff_eq] at h
    rw [h.1.1.1, h.1.1.2, h.1.2, h.2]
  | .arr vs, .arr ws, h | .seq vs, .seq ws, h => by rw [Val.eqL_of_beq vs ws h]
  | .block t i f ch cm, .block u j g dh dm, h => by
    have h : (t == u && i == j && Val.beqL f g && Val.beqLL ch dh && cm == dm) = true := h
    simp only [Bool.and_eq_true, beq_iff_eq] at h
    rw [h.1.1.1.1, h.1.1.1.2, Val.eqL_of_beq f g h.1.1.2, Val.eqLL_of_beq ch dh h.1.2, h.2]
theorem Val.eqL_of_beq : ∀ (vs ws : List Val), Val.beqL vs ws = true → vs = ws
  | [], [], _ => rfl
  | v :: vs, w :: ws, h => by
    have h : (Val.beq v w && Val.beqL vs ws) = true := h
    rw [Bool.and_eq_true] at h
    rw [Val.eq_of_beq v w h.1, Val.eqL_of_beq vs ws h.2]
theorem Val.eqLL_of_beq : ∀ (vs ws : List (List Val)), Val.beqLL vs ws = true → vs = ws
  | [], [], _ => rfl
  | v :: vs, w :: ws, h => by
    have h : (Val.beqL v w && Val.beqLL vs ws) = true := h
    rw [Bool.and_eq_true] at h
    rw [Val.eqL_of_beq v w h.1, Val.eqLL_of_beq vs ws h.2]
end

theorem parses_of_beq {r : PRes Val} {v : Val}
    (h : (match r with | .ok v' _ => Val.beq v' v | _ => false) = true) : ∃ s, r = .ok v s := by
  cases r with
  | ok v' s => exact ⟨s, by rw [Val.eq_of_beq v' v h]⟩
  | err _ _ => cases h
  | panic => cases h
  | fuel => cases h

end A2l.Tree

namespace A2l.Tree.Counter
open A2l.G

/-! ## the offset of the last token of a file (`get_line_offset` at the end of the token array)

`get_line_offset` only uses the previous token when `pos < tokens.len()`; behind the LAST token it returns the line
offset of the FIRST token of the file. A file that ends with a parameter of a keyword therefore gets a wrong offset for
that parameter whenever the first token moves (here: a comment in front of the first element is dropped by the first
write). With the shipped grammar a WRITTEN file always ends with the tag behind `/end PROJECT`, whose offset is not
recorded (`PROJECT` has the last of the three positions of the root), so the second load of the property is not affected;
an accepted input can end with a parameter (`… /end PROJECT A2ML_VERSION 1 31` loads without a message), and that
parameter is then written with the offset of the first token. -/

/-- root keyword with one keyword arm `K <int>` -/
def qTbl : Table :=
  [⟨0, .block false [] [⟨0, 1, false, false, false, 0, 0⟩] true⟩, ⟨1, .block false [.int 5] [] false⟩,
   ⟨2, .block false [.int 5, .int 5] [] false⟩]
def qEnv (toks : Array PTok) : Env :=
  { toks := toks, strict := false, table := qTbl, known := ⟨0, 2, 9⟩, symbols := #["K"] }
/-- tokens of `/* c */⏎⏎K 1` -/
def qToks1 : Array PTok :=
  #[⟨6, "/* c */".toList, 1, 0, noSym, none⟩, ⟨0, ['K'], 3, 0, 0, none⟩, ⟨5, ['1'], 3, 0, noSym, none⟩]
/-- tokens of the text written from it, `⏎⏎K 1` -/
def qToks2 : Array PTok := #[⟨0, ['K'], 3, 0, 0, none⟩, ⟨5, ['1'], 3, 0, noSym, none⟩]
def qV1 : Val := .block 0 ⟨1, 1, 0, 0, 0⟩ [] [[.block 1 ⟨3, 2, 2, 0, 0⟩ [.int 1 false 0 5] [] []]] []
def qV2 : Val := .block 0 ⟨3, 1, 0, 0, 0⟩ [] [[.block 1 ⟨3, 2, 2, 0, 0⟩ [.int 1 false 2 5] [] []]] []

/-- **the text is not a fixpoint**: load, write (`⏎⏎K 1`), load, write (`⏎⏎K⏎⏎  1`) -/
theorem last_param_offset_unstable :
    (∃ s, runParseFile (qEnv qToks1) = .ok qV1 s) ∧ writeFile (qEnv qToks1) qV1 50 = "\n\nK 1".toList ∧
    (∃ s, runParseFile (qEnv qToks2) = .ok qV2 s) ∧ writeFile (qEnv qToks2) qV2 50 = "\n\nK\n\n  1".toList := by
  refine ⟨parses_of_beq (by decide +kernel), Eq.trans ?_ String.toList_ofList.symm, parses_of_beq (by decide +kernel),
    Eq.trans ?_ String.toList_ofList.symm⟩
  · decide +kernel
  · decide +kernel

def qLx : LexEnv := ⟨fun t => if t = ['K'] then 0 else noSym, fun _ => none⟩
def qStream : List WTok := [⟨0, ['K'], 2, 0⟩, ⟨5, ['1'], 0, 1⟩]

/-! ## position-restricted elements of one arm that are not in position order (`reserved-order`)

The writer puts position-restricted items into position order; the per-arm list of the reloaded value then has another
order than the list that was written (text stable from the first write on, the model is not equal). -/

/-- root keyword with a repeating keyword arm `R <int>` whose parameter is its position (like `RESERVED`) -/
def rTbl : Table :=
  [⟨0, .block false [] [⟨0, 1, false, true, false, 0, 0⟩] true⟩, ⟨1, .block false [.int 5] [] false⟩,
   ⟨2, .block false [.int 5, .int 5] [] false⟩]
def rCode : List CodeEntry := [⟨1, .block [] 0 false [] [] 1⟩]
def rEnv (toks : Array PTok) : Env :=
  { toks := toks, strict := false, table := rTbl, code := rCode, known := ⟨0, 2, 9⟩, symbols := #["R"] }
/-- tokens of `R 2 R 1` -/
def rToks1 : Array PTok :=
  #[⟨0, ['R'], 1, 0, 0, none⟩, ⟨5, ['2'], 1, 0, noSym, none⟩, ⟨0, ['R'], 1, 0, 0, none⟩, ⟨5, ['1'], 1, 0, noSym, none⟩]
/-- tokens of the written text ` R 1 R 2` -/
def rToks2 : Array PTok :=
  #[⟨0, ['R'], 1, 0, 0, none⟩, ⟨5, ['1'], 1, 0, noSym, none⟩, ⟨0, ['R'], 1, 0, 0, none⟩, ⟨5, ['2'], 1, 0, noSym, none⟩]
def rItem (uid : Nat) (p : Int) : Val := .block 1 ⟨1, uid, 0, 0, 0⟩ [.int p false 0 5] [] []
def rV1 : Val := .block 0 ⟨1, 1, 0, 0, 0⟩ [] [[rItem 2 2, rItem 3 1]] []
def rV2 : Val := .block 0 ⟨1, 1, 0, 0, 0⟩ [] [[rItem 2 1, rItem 3 2]] []

def rTag (uid : Nat) (p : Nat) (text : List Char) : TagInfo :=
  { isComment := false, tag := ['R'], uid := uid, line := 1, startOff := 0, endOff := 0, isBlock := false, text := text,
    pos := some p, included := false }

theorem posSort_swap (a b : TagInfo) (h : posLe b a = true ∧ posLe a b = false) : [a, b].mergeSort posLe = [b, a] :=
  mergeSort_of_perm_strict (fun x y z hxy hyz => by simp only [posLe, decide_eq_true_eq] at *; omega)
    (fun x y => by simp only [posLe, Bool.or_eq_true, decide_eq_true_eq]; omega) (List.Perm.swap b a [])
    (List.pairwise_pair.2 h)

theorem r_text (toks : Array PTok) : writeFile (rEnv toks) rV1 50 = " R 1 R 2".toList := by
  have hg : groupOf 49 (rEnv toks) 0 [⟨0, 1, false, true, false, 0, 0⟩] [[rItem 2 2, rItem 3 1]] =
      [rTag 2 2 " 2".toList, rTag 3 1 " 1".toList] := by
    simp [groupOf, groupOfArm, rItem, rTag, stringify, rEnv, rTbl, rCode, Table.lookup, writeItems, writeItem, posRestrict,
      codeLookup, symText, intTyOf, addWhitespace]
    decide
  have hsort : [rTag 2 2 " 2".toList, rTag 3 1 " 1".toList].mergeSort tagLe = [rTag 2 2 " 2".toList, rTag 3 1 " 1".toList] :=
    List.mergeSort_of_pairwise (by simp [rTag, tagLe])
  have hpos : applyPositionRestrictions [rTag 2 2 " 2".toList, rTag 3 1 " 1".toList] =
      [rTag 3 1 " 1".toList, rTag 2 2 " 2".toList] := by
    unfold applyPositionRestrictions
    simp only [rTag, List.filter, Option.isSome, List.length_cons, List.length_nil]
    rw [posSort_swap _ _ (by simp [posLe])]
    simp [refill]
  unfold writeFile rV1
  rw [stringify]
  simp only [rEnv, rTbl, Table.lookup, List.find?, beq_self_eq_true, Option.map_some, writeItems, List.nil_append, if_true,
    List.map_nil, List.append_nil]
  have hg' := hg
  simp only [rEnv, rTbl] at hg'
  rw [hg']
  unfold addGroup
  rw [hsort, hpos]
  simp [addGroupGo, rTag, bumpOff, addWhitespace]

/-- **the reloaded value is not equal to the written one up to layout**: the per-arm list comes back in position order -/
theorem reserved_order_model_differs :
    (∃ s, runParseFile (rEnv rToks1) = .ok rV1 s) ∧ writeFile (rEnv rToks1) rV1 50 = " R 1 R 2".toList ∧
    (∃ s, runParseFile (rEnv rToks2) = .ok rV2 s) ∧ ¬ LayoutEq rV1 rV2 := by
  refine ⟨parses_of_beq (by decide +kernel), r_text _, parses_of_beq (by decide +kernel), ?_⟩
  intro h
  cases h with
  | block hso heo hfid hf hlen hlen2 hch hcm =>
    have := hch 0 0 _ _ _ _ rfl rfl rfl rfl
    cases this with
    | block _ _ _ hf' _ _ _ _ => simp [normField, normElem] at hf'

end A2l.Tree.Counter
