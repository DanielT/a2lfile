import A2lVerif.Lemmas.Basics
import A2lVerif.Lemmas.ListOrder
import A2lVerif.Lemmas.RT.Canon
/-! # C01: the list lemmas of the parser strand, and the shapes of parameter values -/
namespace A2l.Tree
open A2l.G A2l.Sc

/-! ## two lists read at equal indices

`Canon`, `InOrder` and the loop invariant speak of a list of children and the list of their items through
`l₁[i]? = some a → l₂[i]? = some b → …`. -/

abbrev Pointwise {α β} (R : α → β → Prop) (l₁ : List α) (l₂ : List β) : Prop :=
  ∀ (i : Nat) (a : α) (b : β), l₁[i]? = some a → l₂[i]? = some b → R a b

theorem exists_getElem?_of_length_le {α β} {l₁ : List α} {l₂ : List β} {i : Nat} {a : α} (ha : l₁[i]? = some a)
    (h : l₁.length ≤ l₂.length) : ∃ b, l₂[i]? = some b :=
  ⟨l₂[i]'(Nat.lt_of_lt_of_le (List.getElem?_eq_some_iff.1 ha).1 h), List.getElem?_eq_getElem _⟩

theorem Pointwise.nil {α β} {R : α → β → Prop} : Pointwise R [] [] := by
  intro i a b h; simp at h

theorem Pointwise.cons {α β} {R : α → β → Prop} {x : α} {y : β} {l₁ : List α} {l₂ : List β} (h : R x y)
    (ht : Pointwise R l₁ l₂) : Pointwise R (x :: l₁) (y :: l₂)
  | 0, a, b, ha, hb => by
    rw [List.getElem?_cons_zero, Option.some.injEq] at ha hb
    rw [← ha, ← hb]; exact h
  | i + 1, a, b, ha, hb => ht i a b (by rwa [List.getElem?_cons_succ] at ha) (by rwa [List.getElem?_cons_succ] at hb)

theorem Pointwise.head {α β} {R : α → β → Prop} {x : α} {y : β} {l₁ : List α} {l₂ : List β}
    (h : Pointwise R (x :: l₁) (y :: l₂)) : R x y := h 0 x y rfl rfl

theorem Pointwise.tail {α β} {R : α → β → Prop} {x : α} {y : β} {l₁ : List α} {l₂ : List β}
    (h : Pointwise R (x :: l₁) (y :: l₂)) : Pointwise R l₁ l₂ := fun i a b ha hb => h (i + 1) a b ha hb

/-- the form in which `Canon.mk`, `InOrder.mk` and the loop invariant state a relation between the children and their items -/
theorem Pointwise.flat {α β} {Q : α → β → Prop} {l₁ : List (List α)} {l₂ : List (List β)} (h : Pointwise (Pointwise Q) l₁ l₂)
    (i j : Nat) (cs : List α) (ss : List β) (c : α) (o : β) (h1 : l₁[i]? = some cs) (h2 : l₂[i]? = some ss)
    (h3 : cs[j]? = some c) (h4 : ss[j]? = some o) : Q c o := h i cs ss h1 h2 j c o h3 h4

theorem Pointwise.unflat {α β} {Q : α → β → Prop} {l₁ : List (List α)} {l₂ : List (List β)}
    (h : ∀ (i j : Nat) (cs : List α) (ss : List β) (c : α) (o : β), l₁[i]? = some cs → l₂[i]? = some ss → cs[j]? = some c →
      ss[j]? = some o → Q c o) : Pointwise (Pointwise Q) l₁ l₂ := fun i cs ss h1 h2 j c o => h i j cs ss c o h1 h2

theorem Pointwise.snoc {α β} {R : α → β → Prop} {x : α} {y : β} {l₁ : List α} {l₂ : List β} (ht : Pointwise R l₁ l₂)
    (hlen : l₂.length = l₁.length) (h : R x y) : Pointwise R (l₁ ++ [x]) (l₂ ++ [y]) := by
  induction l₁ generalizing l₂ with
  | nil =>
    cases l₂ with
    | nil => exact Pointwise.cons h Pointwise.nil
    | cons _ _ => cases hlen
  | cons _ _ ih =>
    cases l₂ with
    | nil => cases hlen
    | cons _ _ => exact Pointwise.cons ht.head (ih ht.tail (Nat.succ.inj hlen))

-- `geLe` is `ListOrder.lexLe` on (uid, line, tag), like the writer's `tagLe`
theorem geLe_of_uid_lt {a b : GE} (ha : 0 < a.uid) (h : a.uid < b.uid) : geLe a b = true ∧ geLe b a = false :=
  ⟨ListOrder.lexLe_of_lt (Nat.ne_of_gt ha) h, ListOrder.lexLe_of_gt (Nat.ne_of_gt ha) h⟩

/-- a permutation of a list that is strictly sorted by positive uids is put into that order by the writer's sort -/
theorem mergeSort_of_perm_uid {l R : List GE} (hp : l.Perm R) (hs : R.Pairwise (fun a b => a.uid < b.uid))
    (hpos : ∀ g ∈ R, 0 < g.uid) : l.mergeSort geLe = R :=
  mergeSort_of_perm_strict (le := geLe) (fun _ _ _ h1 h2 => ListOrder.lexLe_trans _ _ _ _ _ _ _ _ _ h1 h2)
    (fun _ _ => ListOrder.lexLe_total ..) hp (hs.imp_of_mem fun {a _} ha _ h => geLe_of_uid_lt (hpos a ha) h)

theorem sorted_bound_snoc {R : List GE} {q q' : Nat} {g : GE} (hs : R.Pairwise (fun a b => a.uid < b.uid))
    (hb : ∀ x ∈ R, 0 < x.uid ∧ x.uid ≤ q) (h1 : q < g.uid) (h2 : g.uid ≤ q') :
    (R ++ [g]).Pairwise (fun a b => a.uid < b.uid) ∧ ∀ x ∈ R ++ [g], 0 < x.uid ∧ x.uid ≤ q' := by
  refine ⟨List.pairwise_append.2 ⟨hs, List.pairwise_singleton _ _, fun a ha b hb' => ?_⟩, fun x hx => ?_⟩
  · rw [List.mem_singleton.1 hb']; exact Nat.lt_of_le_of_lt (hb a ha).2 h1
  · rcases List.mem_append.1 hx with hx | hx
    · exact ⟨(hb x hx).1, Nat.le_trans (hb x hx).2 (Nat.le_trans (Nat.le_of_lt h1) h2)⟩
    · rw [List.mem_singleton.1 hx]; exact ⟨Nat.lt_of_le_of_lt (Nat.zero_le _) h1, h2⟩

theorem getElem?_map_nil {α β} {l : List α} {i : Nat} {x : List β} (h : (l.map fun _ => ([] : List β))[i]? = some x) :
    x = [] := by
  rw [List.getElem?_map, Option.map_eq_some_iff] at h
  exact h.choose_spec.2.symm

theorem refillG_self {α} (p : α → Bool) : ∀ l : List α, refillG p l (l.filter p) = l
  | [] => rfl
  | a :: l => by
    cases h : p a
    · simp only [refillG, h, List.filter_cons_of_neg, Bool.false_eq_true, not_false_eq_true, if_false, refillG_self p l]
    · simp only [refillG, h, List.filter_cons_of_pos, if_true, refillG_self p l]

/-- **position restrictions are idempotent**: a list whose restricted items already stand in position order is
    not changed -/
theorem applyPosG_of_sorted {α} (pos : α → Option Nat) (l : List α)
    (h : (l.filter (fun x => (pos x).isSome)).Pairwise (fun a b => (pos a).getD 0 ≤ (pos b).getD 0)) :
    applyPosG pos l = l := by
  unfold applyPosG
  simp only []
  split
  · rw [List.mergeSort_of_pairwise (le := posLeG pos) (h.imp (by intro a b hab; simpa [posLeG] using hab))]
    exact refillG_self _ l
  · rfl

/-! ## `setAt` -/

theorem setAt_length {α} (l : List (List α)) (i : Nat) (f : List α → List α) : (setAt l i f).length = l.length := by
  simp [setAt]

theorem setAt_getElem? {α} (l : List (List α)) (i j : Nat) (f : List α → List α) :
    (setAt l i f)[j]? = (l[j]?).map (fun x => if j = i then f x else x) := by
  simp [setAt, List.getElem?_mapIdx]

theorem Pointwise.setAt {α β} {R : List α → List β → Prop} {l₁ : List (List α)} {l₂ : List (List β)}
    (ht : Pointwise R l₁ l₂) (i : Nat) (f : List α → List α) (g : List β → List β)
    (h : ∀ a b, l₁[i]? = some a → l₂[i]? = some b → R a b → R (f a) (g b)) :
    Pointwise R (setAt l₁ i f) (setAt l₂ i g) := by
  intro j a b ha hb
  rw [setAt_getElem?, Option.map_eq_some_iff] at ha hb
  obtain ⟨a0, ha0, rfl⟩ := ha
  obtain ⟨b0, hb0, rfl⟩ := hb
  by_cases hji : j = i
  · rw [if_pos hji, if_pos hji]; subst hji
    exact h a0 b0 ha0 hb0 (ht j a0 b0 ha0 hb0)
  · rw [if_neg hji, if_neg hji]; exact ht j a0 b0 ha0 hb0

theorem setAt_cons_zero {α} (x : List α) (l : List (List α)) (f : List α → List α) : setAt (x :: l) 0 f = f x :: l := by
  apply List.ext_getElem?
  intro j
  rw [setAt_getElem?]
  cases j <;> simp

theorem setAt_cons_succ {α} (x : List α) (l : List (List α)) (i : Nat) (f : List α → List α) :
    setAt (x :: l) (i + 1) f = x :: setAt l i f := by
  simp [setAt, List.mapIdx_cons]

/-! ## group entries of accumulated children -/

theorem gesArm_append (symbols : Array String) (k : Nat) (a : Arm) (c : Val) (its : List OT) :
    ∀ (cs : List Val) (ss : List (List OT)), ss.length = cs.length →
      gesArm symbols k a (cs ++ [c]) (ss ++ [its]) = gesArm symbols k a cs ss ++ childGE symbols k a c its
  | [], [], _ => by simp [gesArm]
  | [], _ :: _, h => nomatch h
  | _ :: _, [], h => nomatch h
  | x :: cs, y :: ss, h => by
    simp only [List.cons_append, gesArm, List.append_assoc]
    rw [gesArm_append symbols k a c its cs ss (Nat.succ.inj h)]

theorem gesFrom_setAt (symbols : Array String) (c : Val) (its : List OT) :
    ∀ (arms : List Arm) (k i : Nat) (ch : List (List Val)) (sub : List (List (List OT))) (a : Arm),
      arms[i]? = some a → ch.length = arms.length → sub.length = arms.length →
      (∀ cs ss, ch[i]? = some cs → sub[i]? = some ss → ss.length = cs.length) →
      (gesFrom symbols k arms (setAt ch i (· ++ [c])) (setAt sub i (· ++ [its]))).Perm
        (gesFrom symbols k arms ch sub ++ childGE symbols (k + i) a c its)
  | [], _, _, _, _, _, ha, _, _, _ => nomatch ha
  | a0 :: arms, k, i, [], _, _, _, h, _, _ => nomatch h
  | a0 :: arms, k, i, _ :: _, [], _, _, _, h, _ => nomatch h
  | a0 :: arms, k, 0, cs :: ch, ss :: sub, a, ha, _, _, hpar => by
    simp only [List.getElem?_cons_zero, Option.some.injEq] at ha
    subst ha
    rw [setAt_cons_zero, setAt_cons_zero]
    simp only [gesFrom, Nat.add_zero]
    rw [gesArm_append symbols k a0 c its cs ss (hpar cs ss rfl rfl)]
    simp only [List.append_assoc]
    exact List.Perm.append_left _ List.perm_append_comm
  | a0 :: arms, k, i + 1, cs :: ch, ss :: sub, a, ha, h1, h2, hpar => by
    rw [setAt_cons_succ, setAt_cons_succ]
    simp only [gesFrom, List.append_assoc]
    apply List.Perm.append_left
    have := gesFrom_setAt symbols c its arms (k + 1) i ch sub a ha (Nat.succ.inj h1) (Nat.succ.inj h2)
      (fun cs' ss' h3 h4 => hpar cs' ss' h3 h4)
    rw [show k + 1 + i = k + (i + 1) by omega] at this
    exact this

theorem gesFrom_nil (symbols : Array String) : ∀ (arms : List Arm) (k : Nat),
    gesFrom symbols k arms (arms.map fun _ => []) (arms.map fun _ => []) = []
  | [], _ => rfl
  | a :: arms, k => by simp [gesFrom, gesArm, gesFrom_nil symbols arms (k + 1)]

/-! ## shapes of parameter values -/

theorem Val.eq_block_of_isBlock {v : Val} (h : Val.isBlock v = true) : ∃ ty info fs ch cm, v = .block ty info fs ch cm := by
  cases v <;> first | exact ⟨_, _, _, _, _, rfl⟩ | cases h

theorem ElemShape.of_isScalar {v : Val} (h : Val.isScalar v = true) : ElemShape v := by
  cases v <;> first | exact h | cases h

theorem ElemShape.of_norm {v : Val} (h : ElemShape (normElem v)) : ElemShape v := by
  cases v <;> exact h

/-- a value of element shape is no array or sequence: as a parameter it is normalised and written like an element -/
theorem ElemShape.asField {v : Val} (h : ElemShape v) : normField v = normElem v ∧ ∀ ind, fieldToks ind v = elemToks ind v := by
  cases v with
  | arr vs | seq vs => cases h
  | _ => exact ⟨rfl, fun _ => rfl⟩

theorem FieldShape.of_elem {v : Val} (h : ElemShape v) : FieldShape v := by
  cases v with
  | arr vs | seq vs => cases h
  | _ => exact h

theorem fieldShape_of_scalars {fs : List Val} (h : ∀ f ∈ fs, Val.isScalar f = true) : ∀ f ∈ fs, FieldShape f :=
  fun f hf => FieldShape.of_elem (ElemShape.of_isScalar (h f hf))

end A2l.Tree
