import A2lVerif.Lemmas.Sort15
/-! C15 at the level of the written text: what the writer makes of the module after calls of `sort_new_items` and pushes.
    A call maps the placed elements (uid ≠ 0) to the same elements with doubled uid, and gives new elements an odd uid
    or leaves them at 0 — so "was placed before the call" is recognisable afterwards as "uid even and not 0" — and
    doubling does not change how the writer compares two elements.
    After a call that places two or more new elements of one list these share a uid: the writer keeps them in list order
    (its sort is stable), and the next call re-sorts the list by (uid, line, name). If the elements of an object list
    that share a uid and a line stand in name order, sorting the object lists keeps every pair of placed elements that
    the writer cannot tell apart in its place (`pairs_presort`), and in the sorted lists a call renumbers member by member
    (`sortNewItems_presorted`); by `ListOrder.filter_mergeSort_eq_map` the written order of all placed elements then stays.
    Over k calls: the invariant `IterInv` (no duplicate keys, single sections single, object
    lists tie-sorted), why the object lists are tie-sorted after a call (`Renum.tieRel`), and the step that adds one
    call in front of k calls to the statement about the written order of the elements placed at the start
    (`placedK_step`). `push` of an element into the i-th list of the module, as the API user and `merge` do it: where the
    element lands in the concatenated lists, and what the sections are afterwards; the invariant survives a push of an
    element with fresh (tag, name, content) and without a position into a list (not into an `Option` field), so
    histories may interleave pushes and calls in any order and number (`Op`, `runOps`, `Admissible`). -/
namespace A2l.Srt.L15
open A2l.ListOrder

/-- placed: the element has a position of its own -/
def placed (e : Elem) : Bool := e.uid != 0
/-- after a call: the element was placed before the call -/
def wasPlaced (e : Elem) : Bool := e.uid != 0 && e.uid % 2 == 0
def dblE (e : Elem) : Elem := { e with uid := 2 * e.uid }

theorem placed_of_wasPlaced (e : Elem) (h : wasPlaced e = true) : placed e = true := by
  simp only [wasPlaced, Bool.and_eq_true] at h
  exact h.1

theorem writerLe_dblE (a b : Elem) : writerLe (dblE a) (dblE b) = writerLe a b :=
  lexLe_mul Nat.zero_lt_two ..

theorem filter_wasPlaced_of_renum {L L' : List Elem} (h : Forall₂ Renum L L') :
    L'.filter wasPlaced = (L.filter placed).map dblE := by
  induction h with
  | nil => rfl
  | @cons a _ _ _ r _ ih =>
    rw [List.filter_cons, List.filter_cons, ih]
    cases r with
    | of_placed hu _ =>
      have h2 : wasPlaced { a with uid := 2 * a.uid } = true := by
        simp only [wasPlaced, bne_iff_ne.2 (Nat.mul_ne_zero (show 2 ≠ 0 by decide) hu), Nat.mul_mod_right,
          beq_self_eq_true, Bool.and_self]
      rw [if_pos h2, if_pos (show placed a = true from bne_iff_ne.2 hu)]
      rfl
    | @of_new n hu hn =>
      have h2 : ¬ wasPlaced { a with uid := n } = true := by
        rcases hn with h0 | h0 <;> simp [wasPlaced, h0]
      rw [if_neg h2, if_neg (show ¬ placed a = true by simp [placed, hu])]

theorem sortNewItems_placed {m m' : RModule} (h : sortNewItems m = .ok m')
    (hwf : Singles m.sections) :
    (m'.toModule.all.filter wasPlaced).Perm ((m.toModule.all.filter placed).map dblE) := by
  rw [filter_wasPlaced_of_renum (sortNewItems_presorted h hwf)]
  exact ((presorted_perm m).filter placed).map dblE

open List

/-- elements of an object list that share a (non-zero) uid and a line stand in name order -/
def TieSortedList (es : List Elem) : Prop :=
  ∀ a b, [a, b] <+ es → a.uid ≠ 0 → a.uid = b.uid → a.line = b.line → a.name ≤ b.name

def TieSorted (m : RModule) : Prop := ∀ r ∈ m.sections, r.rule = .objectList → TieSortedList r.sec.elems

/-- the writer cannot tell the two apart by its key (uid, line, tag) -/
def Tie (a b : Elem) : Prop := writerLe a b = true ∧ writerLe b a = true

theorem dblE_injective : ∀ a b : Elem, dblE a = dblE b → a = b := by
  intro a b h
  cases a; cases b
  simp only [dblE, Elem.mk.injEq] at h ⊢
  obtain ⟨h1, h2, h3, h4, h5⟩ := h
  exact ⟨h1, h2, Nat.eq_of_mul_eq_mul_left Nat.zero_lt_two h3, h4, h5⟩

/-- a placed pair that the writer cannot tell apart keeps its order when the object lists are sorted: inside an object
    list it stands in name order already; with one member in each of two parts it has the parts' order -/
theorem pairs_presort (c : List Elem) (rs : List RSection)
    (hts : ∀ r ∈ rs, r.rule = .objectList → TieSortedList r.sec.elems) :
    (rs.flatMap (·.sec.elems) ++ c).Pairwise fun a b => placed a = true → Tie a b → [a, b] <+ rs.flatMap presort ++ c := by
  induction rs with
  | nil => exact List.pairwise_iff_forall_sublist.2 fun h _ _ => h
  | cons r rs ih =>
    rw [List.flatMap_cons, List.flatMap_cons, List.append_assoc, List.append_assoc]
    refine List.pairwise_append.2 ⟨List.pairwise_iff_forall_sublist.2 fun {a b} hab hpa htie => ?_,
      (ih fun r' hr' => hts r' (List.mem_cons_of_mem _ hr')).imp fun h pa t => (h pa t).trans (List.sublist_append_right _ _),
      fun a ha b hb _ _ => ?_⟩
    · refine .trans ?_ (List.sublist_append_left _ _)
      unfold presort
      split
      · next ho =>
        obtain ⟨hu, hl⟩ := lexLe_antisymm htie.1 htie.2
        have hn := hts r List.mem_cons_self ho a b hab (by simpa [placed] using hpa) hu hl
        exact List.pair_sublist_mergeSort newLe_trans newLe_total ((lexLe_iff ..).2 (.inr ⟨hu, hl, hn⟩)) hab
      · exact hab
    · exact (List.singleton_sublist.2 ((presort_perm r).mem_iff.2 ha)).append
        (List.singleton_sublist.2 (((flatMap_presort_perm rs).append_right c).mem_iff.2 hb))

def TieRel (a b : Elem) : Prop := a.uid ≠ 0 → a.uid = b.uid → a.line = b.line → a.name ≤ b.name

theorem tieSortedList_iff (es : List Elem) : TieSortedList es ↔ es.Pairwise TieRel :=
  ⟨fun h => List.pairwise_iff_forall_sublist.2 (fun hab => h _ _ hab),
    fun h _ _ hab => List.pairwise_iff_forall_sublist.1 h hab⟩

/-- two renumbered elements with the same uid were both placed (an even uid) or both new (an odd one) and had the same
    uid before: if they also share the line, the sort has put them in name order -/
theorem Renum.tieRel {a a' b b' : Elem} (ha : Renum a a') (hb : Renum b b') (hle : newLe a b = true) :
    TieRel a' b' := by
  intro hne hu hl
  rw [newLe_eq, lexLe_iff] at hle
  have key : a.uid = b.uid → a.line = b.line → a.name ≤ b.name := by
    intro h1 h2
    rcases hle with (⟨h0, h | h⟩ | ⟨_, h⟩) | ⟨_, _, hn⟩
    · exact absurd (h1.trans h) h0
    · exact absurd h1 (Nat.ne_of_lt h)
    · exact absurd h2 (Nat.ne_of_lt h)
    · exact hn
  cases ha with
  | of_placed _ _ =>
    cases hb with
    | of_placed _ _ => exact key (Nat.eq_of_mul_eq_mul_left Nat.zero_lt_two hu) hl
    | of_new _ hn => exact (hn.ne_double (fun h => hne (hu.trans h)) _ hu.symm).elim
  | of_new ha0 hn =>
    cases hb with
    | of_placed _ _ => exact (hn.ne_double hne _ hu).elim
    | of_new hb0 _ => exact key (ha0.trans hb0.symm) hl

/-- placed before the first of k calls: the uid is not 0 and divisible by 2^k -/
def placedK (k : Nat) (e : Elem) : Bool := e.uid != 0 && e.uid % 2 ^ k == 0
def dblK (k : Nat) (e : Elem) : Elem := { e with uid := 2 ^ k * e.uid }

/-- the invariant: no two elements with the same (tag, name, content); `Option` sections hold at most one element;
    elements of an object list that share a uid and a line stand in name order -/
structure IterInv (m : RModule) : Prop where
  keys : (m.toModule.all.map Elem.key).Nodup
  singles : ∀ r ∈ m.sections, isSingle r.rule → r.sec.elems.length ≤ 1
  ties : TieSorted m

theorem placedK_succ_dblK (k : Nat) (e : Elem) : placedK (k + 1) (dblK k e) = wasPlaced e := by
  have hpos : 0 < 2 ^ k := Nat.two_pow_pos k
  have hne : 2 ^ k ≠ 0 := Nat.ne_of_gt hpos
  simp only [placedK, dblK, wasPlaced]
  have h1 : (2 ^ k * e.uid != 0) = (e.uid != 0) := by
    rw [Bool.eq_iff_iff]
    simp only [bne_iff_ne, ne_eq, Nat.mul_eq_zero, hne, false_or]
  have h2 : (2 ^ k * e.uid % 2 ^ (k + 1) == 0) = (e.uid % 2 == 0) := by
    rw [Nat.pow_succ, Nat.mul_mod_mul_left, Bool.eq_iff_iff]
    simp only [beq_iff_eq, Nat.mul_eq_zero, hne, false_or]
  rw [h1, h2]

theorem placedK_succ_imp (k : Nat) (e : Elem) (h : placedK (k + 1) e = true) : placedK k e = true := by
  simp only [placedK, Bool.and_eq_true, bne_iff_ne, ne_eq, beq_iff_eq] at h ⊢
  refine ⟨h.1, ?_⟩
  have hd : 2 ^ (k + 1) ∣ e.uid := Nat.dvd_of_mod_eq_zero h.2
  have : 2 ^ k ∣ e.uid := Nat.dvd_trans ⟨2, by rw [Nat.pow_succ]⟩ hd
  exact Nat.mod_eq_zero_of_dvd this

theorem dblK_succ (k : Nat) (e : Elem) : dblK k (dblE e) = dblK (k + 1) e := by
  simp only [dblK, dblE, Nat.pow_succ]
  congr 1
  rw [Nat.mul_assoc]

/-- one more call in front of `k` calls, for the three written sequences -/
theorem placedK_step (k : Nat) {W W1 W' : List Elem} (hone : W1.filter wasPlaced = (W.filter placed).map dblE)
    (hk : W'.filter (placedK k) = (W1.filter placed).map (dblK k)) :
    W'.filter (placedK (k + 1)) = (W.filter placed).map (dblK (k + 1)) := by
  -- filtering by `placedK (k+1)` is filtering the `placedK k` part once more; on `dblK k e` it asks for `wasPlaced e`
  have hq : placedK (k + 1) ∘ dblK k = wasPlaced := funext (placedK_succ_dblK k)
  rw [← filter_filter_of_imp (placedK_succ_imp k) W', hk, List.filter_map, hq,
    filter_filter_of_imp placed_of_wasPlaced, hone, List.map_map]
  exact List.map_congr_left (fun e _ => dblK_succ k e)

theorem placedK_zero (W : List Elem) : W.filter (placedK 0) = (W.filter placed).map (dblK 0) := by
  have h1 : placedK 0 = placed := by
    funext e; simp [placedK, placed, Nat.mod_one]
  have h2 : dblK 0 = id := by
    funext e; simp [dblK]
  rw [h1, h2, List.map_id]

/-- `list.push(e)` on the i-th list of the module -/
def pushSec : List RSection → Nat → Elem → List RSection
  | [], _, _ => []
  | r :: rs, 0, e => { r with sec := { r.sec with elems := r.sec.elems ++ [e] } } :: rs
  | r :: rs, i + 1, e => r :: pushSec rs i e

def pushNew (m : RModule) (i : Nat) (e : Elem) : RModule := { m with sections := pushSec m.sections i e }

theorem pushSec_flatMap (rs : List RSection) (i : Nat) (e : Elem) :
    pushSec rs i e = rs ∨ ∃ A B, rs.flatMap (·.sec.elems) = A ++ B ∧
      (pushSec rs i e).flatMap (·.sec.elems) = A ++ e :: B := by
  induction rs generalizing i with
  | nil => exact .inl rfl
  | cons r rs ih =>
    cases i with
    | zero =>
      refine .inr ⟨r.sec.elems, rs.flatMap (·.sec.elems), rfl, ?_⟩
      rw [pushSec, List.flatMap_cons, List.append_assoc]
      rfl
    | succ i =>
      rcases ih i with h | ⟨A, B, h1, h2⟩
      · exact .inl (by rw [pushSec, h])
      · exact .inr ⟨r.sec.elems ++ A, B, by rw [List.flatMap_cons, h1, List.append_assoc],
          by rw [pushSec, List.flatMap_cons, h2, List.append_assoc]⟩

theorem pushNew_all (m : RModule) (i : Nat) (e : Elem) :
    pushNew m i e = m ∨ ∃ A B, m.toModule.all = A ++ B ∧ (pushNew m i e).toModule.all = A ++ e :: B := by
  rcases pushSec_flatMap m.sections i e with h | ⟨A, B, h1, h2⟩
  · exact .inl (by rw [pushNew, h])
  · refine .inr ⟨A, B ++ m.comments, ?_, ?_⟩
    · rw [all_eq, h1, List.append_assoc]
    · rw [all_eq]
      show (pushSec m.sections i e).flatMap (·.sec.elems) ++ m.comments = _
      rw [h2, List.append_assoc]
      rfl

theorem mem_pushSec {rs : List RSection} {i : Nat} {e : Elem} {r' : RSection} (h : r' ∈ pushSec rs i e) :
    r' ∈ rs ∨ ∃ r, rs[i]? = some r ∧ r' = { r with sec := { r.sec with elems := r.sec.elems ++ [e] } } := by
  induction rs generalizing i with
  | nil => cases h
  | cons r rs ih =>
    cases i with
    | zero =>
      rcases List.mem_cons.1 h with h | h
      · exact .inr ⟨r, rfl, h⟩
      · exact .inl (List.mem_cons_of_mem _ h)
    | succ i =>
      rcases List.mem_cons.1 h with h | h
      · exact .inl (h ▸ List.mem_cons_self)
      · rcases ih h with h | ⟨r0, h0, h1⟩
        · exact .inl (List.mem_cons_of_mem _ h)
        · exact .inr ⟨r0, by simpa using h0, h1⟩

inductive Op where
  | sni
  | push (i : Nat) (e : Elem)

def countSni : List Op → Nat
  | [] => 0
  | .sni :: ops => countSni ops + 1
  | .push _ _ :: ops => countSni ops

def runOps : List Op → RModule → Out RModule
  | [], m => .ok m
  | .sni :: ops, m =>
    match sortNewItems m with
    | .panic => .panic
    | .ok m1 => runOps ops m1
  | .push i e :: ops, m => runOps ops (pushNew m i e)

/-- what the caller of `push` respects: the new element has no position, its (tag, name, content) is not in the
    module yet, and it goes into a list (the `Option` fields are assigned, not pushed to) -/
def Admissible : List Op → RModule → Prop
  | [], _ => True
  | .sni :: ops, m => ∀ m1, sortNewItems m = .ok m1 → Admissible ops m1
  | .push i e :: ops, m =>
    e.uid = 0 ∧ e.key ∉ m.toModule.all.map Elem.key ∧ (∀ r, m.sections[i]? = some r → ¬ isSingle r.rule) ∧
      Admissible ops (pushNew m i e)

theorem runOps_sni_ok {ops : List Op} {m m' : RModule} (h : runOps (.sni :: ops) m = .ok m') :
    ∃ m1, sortNewItems m = .ok m1 ∧ runOps ops m1 = .ok m' := by
  rw [runOps] at h
  split at h
  · cases h
  · next m1 h1 => exact ⟨m1, h1, h⟩

theorem tieSortedList_push (es : List Elem) (e : Elem) (he : e.uid = 0) (h : TieSortedList es) :
    TieSortedList (es ++ [e]) := by
  rw [tieSortedList_iff] at h ⊢
  rw [List.pairwise_append]
  refine ⟨h, List.pairwise_singleton _ _, fun a _ b hb ha hu _ => ?_⟩
  rw [List.mem_singleton.1 hb, he] at hu
  exact absurd hu ha

/-! ### a list without a placed element (known finding C15-end-group) -/

theorem renumber_all_new : ∀ (es : List Elem), (∀ e ∈ es, e.uid = 0) → renumber 0 es = .ok es
  | [], _ => rfl
  | e :: es, h => by
    have he : e.uid = 0 := h e List.mem_cons_self
    have ih := renumber_all_new es (fun x hx => h x (List.mem_cons_of_mem _ hx))
    rw [renumber]
    simp only [he, ne_eq, not_true_eq_false, ↓reduceIte, ih]
    congr 2
    cases e
    simp_all

/-- among elements that are not placed the writer goes by line, then tag: an element pushed through the API (line 0)
    of a kind with a smaller tag is written in front of an earlier one -/
theorem writerLe_unplaced (a b : Elem) (ha : a.uid = 0) (hb : b.uid = 0) :
    writerLe a b = (if a.line = b.line then decide (a.tag ≤ b.tag) else decide (a.line ≤ b.line)) := by
  simp [writerLe, ha, hb]

end A2l.Srt.L15
