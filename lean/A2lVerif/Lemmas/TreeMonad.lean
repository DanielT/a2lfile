import A2lVerif.Model.Tree
import A2lVerif.Lemmas.Basics
/-!
What the parser monad `PM` and the cursor primitives of Model/Tree.lean do to the environment and the state, one
equation each; `expect_token` as a move over comments (`SkipTo`) followed by one look (`expectToken_run`); what one call
of `get_next_tag_or_comment` does, as a relation (`NextTag`); the loop body of the unknown-element skipper by token type.
-/
namespace A2l.Tree

theorem bind_def {α β} (m : PM α) (f : α → PM β) (e : Env) (s : PState) :
    (m >>= f) e s = match m e s with
      | .ok a s' => f a e s'
      | .err d s' => .err d s'
      | .panic => .panic
      | .fuel => .fuel := rfl

theorem pure_def {α} (a : α) (e : Env) (s : PState) : (pure a : PM α) e s = .ok a s := rfl

theorem bind_eq_ok {α β} {m : PM α} {f : α → PM β} {e : Env} {s : PState} {v : β} {s' : PState}
    (h : (m >>= f) e s = .ok v s') : ∃ a s1, m e s = .ok a s1 ∧ f a e s1 = .ok v s' := by
  rw [bind_def] at h
  cases hm : m e s with
  | ok a s1 => rw [hm] at h; exact ⟨a, s1, rfl, h⟩
  | err d s1 | panic | fuel => rw [hm] at h; cases h

/-- the shape of `let x ← if p then a else b; f x` as the `do` notation produces it -/
theorem ite_bind_eq {α β} {p : Prop} [Decidable p] (a b : PM α) (f : α → PM β) :
    (if p then a >>= f else b >>= f) = ((if p then a else b) >>= f) := by
  split <;> rfl

@[simp] theorem pure_bind_eval {α β} (a : α) (f : α → PM β) (e : Env) (s : PState) :
    ((Pure.pure a : PM α) >>= f) e s = f a e s := rfl
@[simp] theorem getEnv_bind {β} (f : Env → PM β) (e : Env) (s : PState) : (getEnv >>= f) e s = f e e s := rfl
@[simp] theorem getState_bind {β} (f : PState → PM β) (e : Env) (s : PState) : (getState >>= f) e s = f s e s := rfl
@[simp] theorem getTokenpos_bind {β} (f : Nat → PM β) (e : Env) (s : PState) :
    (getTokenpos >>= f) e s = f s.pos e s := rfl
@[simp] theorem peekToken_bind {β} (f : Option PTok → PM β) (e : Env) (s : PState) :
    (peekToken >>= f) e s = f e.toks[s.pos]? e s := rfl
@[simp] theorem setTokenpos_bind {β} (p : Nat) (f : Unit → PM β) (e : Env) (s : PState) :
    (setTokenpos p >>= f) e s = f () e { s with pos := p } := rfl
@[simp] theorem modifyState_bind {β} (g : PState → PState) (f : Unit → PM β) (e : Env) (s : PState) :
    (modifyState g >>= f) e s = f () e (g s) := rfl
@[simp] theorem getNextId_bind {β} (f : Nat → PM β) (e : Env) (s : PState) :
    (getNextId >>= f) e s = f (s.seqId + 1) e { s with seqId := s.seqId + 1 } := rfl

theorem getToken_eval (ctx : Ctx) (e : Env) (s : PState) :
    getToken ctx e s = match e.toks[s.pos]? with
      | some t => .ok t { s with pos := s.pos + 1, lastLine := t.line }
      | none => .err ⟨.unexpectedEOF, s.lastLine⟩ s := by
  unfold getToken
  simp only [getEnv_bind, getState_bind]
  cases e.toks[s.pos]? <;> rfl

theorem getToken_some (ctx : Ctx) (e : Env) (s : PState) (t : PTok) (h : e.toks[s.pos]? = some t) :
    getToken ctx e s = .ok t { s with pos := s.pos + 1, lastLine := t.line } := by
  rw [getToken_eval, h]

theorem getToken_none (ctx : Ctx) (e : Env) (s : PState) (h : e.toks[s.pos]? = none) :
    getToken ctx e s = .err ⟨.unexpectedEOF, s.lastLine⟩ s := by
  rw [getToken_eval, h]

theorem expectTokenAux_succ (ctx : Ctx) (ty fuel : Nat) :
    expectTokenAux ctx ty (fuel + 1) =
      (getToken ctx >>= fun t =>
        if t.ty = 6 then expectTokenAux ctx ty fuel
        else if t.ty ≠ ty then fail .unexpectedTokenType
        else pure t) := rfl

theorem expectToken_def (ctx : Ctx) (ty : Nat) (e : Env) (s : PState) :
    expectToken ctx ty e s = expectTokenAux ctx ty (e.toks.size + 1) e s := rfl

/-- the state after reading `t` -/
abbrev PState.step (s : PState) (t : PTok) : PState := { s with pos := s.pos + 1, lastLine := t.line }

/-- `s2` is `s` moved over comments, up to a token that is not one or to the end of the input -/
inductive SkipTo (e : Env) : PState → PState → Prop
  | stop {s : PState} : (∀ t, e.toks[s.pos]? = some t → t.ty ≠ 6) → SkipTo e s s
  | cmt {s s2 : PState} {t : PTok} : e.toks[s.pos]? = some t → t.ty = 6 → SkipTo e (s.step t) s2 → SkipTo e s s2

theorem SkipTo.nc {e : Env} {s s2 : PState} (h : SkipTo e s s2) : ∀ t, e.toks[s2.pos]? = some t → t.ty ≠ 6 := by
  induction h with
  | stop h => exact h
  | cmt _ _ _ ih => exact ih

/-- **`expect_token` moves over the comments and then looks at one token.** What is to be said of its outcome is a case
    analysis on that token; what is to be said of the comments is an induction on `SkipTo`. -/
theorem expectTokenAux_run {e : Env} (ctx : Ctx) (ty : Nat) : ∀ (fuel : Nat) (s : PState), e.toks.size - s.pos < fuel →
    ∃ s2, SkipTo e s s2 ∧ expectTokenAux ctx ty fuel e s =
      match e.toks[s2.pos]? with
      | some t => if t.ty ≠ ty then .err ⟨.unexpectedTokenType, t.line⟩ (s2.step t) else .ok t (s2.step t)
      | none => .err ⟨.unexpectedEOF, s2.lastLine⟩ s2
  | 0, _, h => absurd h (Nat.not_lt_zero _)
  | fuel + 1, s, h => by
    rw [expectTokenAux_succ, bind_def, getToken_eval]
    cases ht : e.toks[s.pos]? with
    | none => exact ⟨s, .stop fun t h' => (by rw [ht] at h'; cases h'), by rw [ht]⟩
    | some t =>
      dsimp only
      by_cases h6 : t.ty = 6
      · rw [if_pos h6]
        have hlt := getElem?_some_lt ht
        -- the budget that `expect_token` gives itself is enough: a token is consumed in every round
        obtain ⟨s2, hk, hr⟩ := expectTokenAux_run (e := e) ctx ty fuel (s.step t) (by show _ - (s.pos + 1) < fuel; omega)
        exact ⟨s2, .cmt ht h6 hk, hr⟩
      · rw [if_neg h6]
        refine ⟨s, .stop fun t' h' => (by rw [ht] at h'; cases h'; exact h6), ?_⟩
        rw [ht]
        dsimp only
        by_cases hne : t.ty ≠ ty
        · rw [if_pos hne, if_pos hne]; rfl
        · rw [if_neg hne, if_neg hne]; rfl

theorem expectToken_run {e : Env} (ctx : Ctx) (ty : Nat) (s : PState) :
    ∃ s2, SkipTo e s s2 ∧ expectToken ctx ty e s =
      match e.toks[s2.pos]? with
      | some t => if t.ty ≠ ty then .err ⟨.unexpectedTokenType, t.line⟩ (s2.step t) else .ok t (s2.step t)
      | none => .err ⟨.unexpectedEOF, s2.lastLine⟩ s2 :=
  expectTokenAux_run ctx ty _ s (Nat.lt_succ_of_le (Nat.sub_le _ _))

theorem expectToken_eval {e : Env} (ctx : Ctx) (ty : Nat) (s : PState) (t : PTok) (h : e.toks[s.pos]? = some t)
    (h6 : t.ty ≠ 6) :
    expectToken ctx ty e s =
      if t.ty ≠ ty then .err ⟨.unexpectedTokenType, t.line⟩ (s.step t) else .ok t (s.step t) := by
  obtain ⟨s2, hk, hr⟩ := expectToken_run (e := e) ctx ty s
  cases hk with
  | stop _ => rw [hr, h]
  | cmt ht h6' _ => rw [h] at ht; cases ht; exact absurd h6' h6

theorem expectToken_match (ctx : Ctx) (ty : Nat) (e : Env) (s : PState) (t : PTok)
    (h : e.toks[s.pos]? = some t) (hty : t.ty = ty) (hnc : ty ≠ 6) :
    expectToken ctx ty e s = .ok t { s with pos := s.pos + 1, lastLine := t.line } := by
  rw [expectToken_eval ctx ty s t h (hty ▸ hnc), if_neg (fun h' => h' hty)]

theorem undo_eval (e : Env) (s : PState) :
    undoGetToken e s = if s.pos = 0 then .panic else .ok () { s with pos := s.pos - 1 } := by
  unfold undoGetToken
  simp only [getState_bind]
  by_cases h : s.pos = 0
  · simp only [h, if_true]; rfl
  · simp only [h, if_false]; rfl

@[simp] theorem undo_bind {β} (f : Unit → PM β) (e : Env) (s : PState) :
    (undoGetToken >>= f) e s = if s.pos = 0 then .panic else f () e { s with pos := s.pos - 1 } := by
  rw [bind_def, undo_eval]
  by_cases h : s.pos = 0
  · rw [if_pos h, if_pos h]
  · rw [if_neg h, if_neg h]

theorem undoGetToken_succ (e : Env) (s : PState) (n : Nat) (h : s.pos = n + 1) :
    undoGetToken e s = .ok () { s with pos := n } := by
  have hn : s.pos - 1 = n := by omega
  rw [undo_eval, if_neg (by omega), hn]

theorem logWarning_eval (k : DK) (e : Env) (s : PState) :
    logWarning k e s = .ok () { s with log := ⟨k, s.lastLine⟩ :: s.log } := rfl

theorem errorOrLog_eval (k : DK) (e : Env) (s : PState) :
    errorOrLog k e s =
      if e.strict then .err ⟨k, s.lastLine⟩ s else .ok () { s with log := ⟨k, s.lastLine⟩ :: s.log } := by
  unfold errorOrLog
  simp only [getEnv_bind]
  cases e.strict <;> rfl

theorem errorOrLogNoLine_eval (k : DK) (e : Env) (s : PState) :
    errorOrLogNoLine k e s = if e.strict then .err ⟨k, 0⟩ s else .ok () { s with log := ⟨k, 0⟩ :: s.log } := by
  unfold errorOrLogNoLine
  simp only [getEnv_bind]
  cases e.strict <;> rfl

theorem getIdentifier_of_expect {ctx : Ctx} {e : Env} {s s1 : PState} {t : PTok} {c : Char} {cs : List Char}
    (h1 : expectToken ctx 0 e s = .ok t s1) (htext : t.text = c :: cs)
    (hv : e.strict = true → isAsciiDigit c = false ∧ utf8Len t.text ≤ 1024) :
    getIdentifier ctx e s = .ok t.text
      (if (isAsciiDigit c || decide (utf8Len t.text > 1024)) = true then
        { s1 with log := ⟨.invalidIdentifier, s1.lastLine⟩ :: s1.log } else s1) := by
  unfold getIdentifier
  rw [bind_def, h1]
  simp only [htext]
  rw [← htext]
  split
  · rename_i hbad
    have hns : e.strict = false := by
      cases hst : e.strict with
      | false => rfl
      | true =>
        obtain ⟨hd, hl⟩ := hv hst
        rw [hd, Bool.false_or, decide_eq_true_eq] at hbad
        exact absurd hl (Nat.not_le_of_gt hbad)
    rw [bind_def, errorOrLog_eval, hns]
    rfl
  · rfl

theorem getIdentifier_valid {ctx : Ctx} {e : Env} {s s1 : PState} {t : PTok} {c : Char} {cs : List Char}
    (h1 : expectToken ctx 0 e s = .ok t s1) (htext : t.text = c :: cs) (hd : isAsciiDigit c = false)
    (hl : utf8Len t.text ≤ 1024) : getIdentifier ctx e s = .ok t.text s1 := by
  rw [getIdentifier_of_expect h1 htext fun _ => ⟨hd, hl⟩, if_neg]
  rw [hd, Bool.false_or, decide_eq_true_eq]
  exact Nat.not_lt_of_le hl

/-- the value of `get_line_offset` with the cursor at `pos`; `none` where the Rust code panics. It reads the tokens
    and the cursor only, and leaves the state alone. -/
def lineOffset? (toks : Array PTok) (pos : Nat) : Option Nat :=
  if pos > 1 ∧ pos < toks.size then
    match toks[pos - 2]?, toks[pos - 1]? with
    | some prev, some cur =>
      if prev.fileid = cur.fileid then
        if cur.line < (if prev.ty = 6 then prev.line + countNewlines prev.text else prev.line) then none
        else some (cur.line - (if prev.ty = 6 then prev.line + countNewlines prev.text else prev.line))
      else some 2
    | _, _ => none
  else
    match toks[0]? with
    | some t => if t.line = 0 then none else some (t.line - 1)
    | none => none

theorem getLineOffset_eq (e : Env) (s : PState) :
    getLineOffset e s = match lineOffset? e.toks s.pos with
      | some n => .ok n s
      | none => .panic := by
  unfold getLineOffset lineOffset?
  simp only [getEnv_bind, getState_bind]
  by_cases hpos : s.pos > 1 ∧ s.pos < e.toks.size
  · rw [if_pos hpos, if_pos hpos]
    cases e.toks[s.pos - 2]? with
    | none => rfl
    | some prev =>
      cases e.toks[s.pos - 1]? with
      | none => rfl
      | some cur =>
        dsimp only
        by_cases hf : prev.fileid = cur.fileid
        · rw [if_pos hf, if_pos hf]
          generalize (if prev.ty = 6 then prev.line + countNewlines prev.text else prev.line) = prevLine
          by_cases hl : cur.line < prevLine
          · rw [if_pos hl, if_pos hl]
            rfl
          · rw [if_neg hl, if_neg hl]
            rfl
        · rw [if_neg hf, if_neg hf]
          rfl
  · rw [if_neg hpos, if_neg hpos]
    cases e.toks[0]? with
    | none => rfl
    | some t =>
      dsimp only
      by_cases hl : t.line = 0
      · rw [if_pos hl, if_pos hl]
        rfl
      · rw [if_neg hl, if_neg hl]
        rfl

theorem lineOffset?_two {toks : Array PTok} {p : Nat} (h2 : p + 2 < toks.size) {prev cur : PTok}
    (hp : toks[p]? = some prev) (hc : toks[p + 1]? = some cur) (hf : prev.fileid = cur.fileid) {d : Nat}
    (hd : d = if prev.ty = 6 then prev.line + countNewlines prev.text else prev.line) (hle : d ≤ cur.line) :
    lineOffset? toks (p + 2) = some (cur.line - d) := by
  unfold lineOffset?
  rw [if_pos ⟨Nat.succ_lt_succ (Nat.succ_pos p), h2⟩, Nat.add_sub_cancel, show p + 2 - 1 = p + 1 from rfl, hp, hc]
  dsimp only
  rw [if_pos hf, ← hd, if_neg (Nat.not_lt.2 hle)]

theorem lineOffset?_first {toks : Array PTok} {pos : Nat} (h : ¬ (pos > 1 ∧ pos < toks.size)) {t : PTok}
    (h0 : toks[0]? = some t) {l : Nat} (hl : t.line = l + 1) : lineOffset? toks pos = some l := by
  unfold lineOffset?
  rw [if_neg h, h0]
  dsimp only
  rw [hl, if_neg (Nat.succ_ne_zero l)]
  rfl

theorem getLineOffset_cases (e : Env) (s : PState) :
    getLineOffset e s = .panic ∨ ∃ n, getLineOffset e s = .ok n s := by
  rw [getLineOffset_eq]
  cases lineOffset? e.toks s.pos with
  | none => exact .inl rfl
  | some n => exact .inr ⟨n, rfl⟩

/-- neither a comment nor `/begin` at the cursor -/
def PlainAt (e : Env) (s : PState) : Prop := ∀ t0, e.toks[s.pos]? = some t0 → t0.ty ≠ 6 ∧ t0.ty ≠ 1

/-- what one call of `get_next_tag_or_comment` from `s` does, by the token at the cursor, the result of the
    `expect_token` behind it and the line offset -/
inductive NextTag (ctx : Ctx) (e : Env) (s : PState) : PRes BlockContent → Prop
  | comment {t : PTok} {off : Nat} : e.toks[s.pos]? = some t → t.ty = 6 → lineOffset? e.toks (s.pos + 1) = some off →
      NextTag ctx e s (.ok (.comment t off) { s with pos := s.pos + 1 })
  | block {tb t : PTok} {off : Nat} {s' : PState} : e.toks[s.pos]? = some tb → tb.ty = 1 →
      lineOffset? e.toks (s.pos + 1) = some off →
      expectToken ctx 0 e { s with pos := s.pos + 1, lastLine := tb.line } = .ok t s' →
      NextTag ctx e s (.ok (.block t true off) s')
  | blockErr {tb : PTok} {off : Nat} {d : Diag} {s' : PState} : e.toks[s.pos]? = some tb → tb.ty = 1 →
      lineOffset? e.toks (s.pos + 1) = some off →
      expectToken ctx 0 e { s with pos := s.pos + 1, lastLine := tb.line } = .err d s' →
      NextTag ctx e s (.err d { s' with pos := s.pos })
  | keyword {t : PTok} {off : Nat} {s' : PState} : PlainAt e s → expectToken ctx 0 e s = .ok t s' →
      lineOffset? e.toks s'.pos = some off → NextTag ctx e s (.ok (.block t false off) s')
  | none {off : Nat} {d : Diag} {s' : PState} : PlainAt e s → expectToken ctx 0 e s = .err d s' →
      lineOffset? e.toks s'.pos = some off → NextTag ctx e s (.ok .none { s' with pos := s.pos })
  | panic {p : Nat} : lineOffset? e.toks p = none → NextTag ctx e s .panic

theorem expectToken_ne_panic (ctx : Ctx) (ty : Nat) (e : Env) (s : PState) : expectToken ctx ty e s ≠ .panic := by
  obtain ⟨s2, _, hr⟩ := expectToken_run (e := e) ctx ty s
  rw [hr]
  split
  · split <;> nofun
  · nofun

theorem expectToken_ne_fuel (ctx : Ctx) (ty : Nat) (e : Env) (s : PState) : expectToken ctx ty e s ≠ .fuel := by
  obtain ⟨s2, _, hr⟩ := expectToken_run (e := e) ctx ty s
  rw [hr]
  split
  · split <;> nofun
  · nofun

theorem nextTag_rel (ctx : Ctx) (e : Env) (s : PState) : NextTag ctx e s (getNextTagOrComment ctx e s) := by
  unfold getNextTagOrComment
  simp only [getTokenpos_bind, peekToken_bind]
  generalize ho : e.toks[s.pos]? = o
  split
  · simp only [modifyState_bind]
    rw [bind_def, getLineOffset_eq]
    cases hl : lineOffset? e.toks (s.pos + 1) with
    | none => exact .panic hl
    | some off => exact .comment ho rfl hl
  · rw [bind_def, getToken_eval, ho]
    dsimp only
    rw [bind_def, getLineOffset_eq]
    cases hl : lineOffset? e.toks (s.pos + 1) with
    | none => exact .panic hl
    | some off =>
      dsimp only
      rw [bind_def]
      unfold attempt
      cases hx : expectToken ctx 0 e { s with pos := s.pos + 1, lastLine := _ } with
      | ok t s' => exact .block ho rfl hl hx
      | err d s' => exact .blockErr ho rfl hl hx
      | panic => exact absurd hx (expectToken_ne_panic _ _ _ _)
      | fuel => exact absurd hx (expectToken_ne_fuel _ _ _ _)
  · rename_i hn6 hn1
    have hpl : PlainAt e s := by
      intro t0 h0
      obtain ⟨ty0, text0, line0, fid0, sym0, fl0⟩ := t0
      refine ⟨fun h6 => ?_, fun h1 => ?_⟩
      · simp only at h6; subst h6; exact hn6 _ _ _ _ _ (ho.symm.trans h0)
      · simp only at h1; subst h1; exact hn1 _ _ _ _ _ (ho.symm.trans h0)
    rw [bind_def]
    unfold attempt
    cases hx : expectToken ctx 0 e s with
    | ok t s' =>
      dsimp only
      rw [bind_def, getLineOffset_eq]
      cases hl : lineOffset? e.toks s'.pos with
      | none => exact .panic hl
      | some off => exact .keyword hpl hx hl
    | err d s' =>
      dsimp only
      rw [bind_def, getLineOffset_eq]
      cases hl : lineOffset? e.toks s'.pos with
      | none => exact .panic hl
      | some off => exact .none hpl hx hl
    | panic => exact absurd hx (expectToken_ne_panic _ _ _ _)
    | fuel => exact absurd hx (expectToken_ne_fuel _ _ _ _)

/-- one turn of the loop of `handle_unknown_taggedstruct_tag`, after its `get_token` -/
def skipStep (ctx : Ctx) (itemTag : List Char) (itemIsBlock : Bool) (stop : List Nat) (balance : Int) (fuel : Nat)
    (t : PTok) : PM Unit :=
  match t.ty with
  | 1 => skipUnknownLoop ctx itemTag itemIsBlock stop (balance + 1) fuel
  | 2 =>
    if balance - 1 = -1 then undoGetToken
    else skipUnknownLoop ctx itemTag itemIsBlock stop (balance - 1) fuel
  | 0 =>
    if itemIsBlock then
      if balance = 0 then
        if t.text = itemTag then pure () else fail .incorrectEndTag
      else skipUnknownLoop ctx itemTag itemIsBlock stop balance fuel
    else
      if (balance = 0 ∨ balance = 1) ∧ stop.contains t.sym then do
        undoGetToken
        if balance = 1 then undoGetToken
      else skipUnknownLoop ctx itemTag itemIsBlock stop balance fuel
  | _ =>
    if itemIsBlock ∧ balance = 0 then fail .incorrectEndTag
    else skipUnknownLoop ctx itemTag itemIsBlock stop balance fuel

theorem skipStep_begin {ctx : Ctx} {tag : List Char} {ib : Bool} {stop : List Nat} {b : Int} {fuel : Nat} {t : PTok}
    (h : t.ty = 1) : skipStep ctx tag ib stop b fuel t = skipUnknownLoop ctx tag ib stop (b + 1) fuel := by
  simp only [skipStep, h]

theorem skipStep_end {ctx : Ctx} {tag : List Char} {ib : Bool} {stop : List Nat} {b : Int} {fuel : Nat} {t : PTok}
    (h : t.ty = 2) : skipStep ctx tag ib stop b fuel t =
      if b - 1 = -1 then undoGetToken else skipUnknownLoop ctx tag ib stop (b - 1) fuel := by
  simp only [skipStep, h]

theorem skipStep_ident_block {ctx : Ctx} {tag : List Char} {stop : List Nat} {b : Int} {fuel : Nat} {t : PTok}
    (h : t.ty = 0) : skipStep ctx tag true stop b fuel t =
      if b = 0 then (if t.text = tag then pure () else fail .incorrectEndTag)
      else skipUnknownLoop ctx tag true stop b fuel := by
  simp only [skipStep, h, ↓reduceIte]

theorem skipStep_ident_keyword {ctx : Ctx} {tag : List Char} {stop : List Nat} {b : Int} {fuel : Nat} {t : PTok}
    (h : t.ty = 0) : skipStep ctx tag false stop b fuel t =
      if (b = 0 ∨ b = 1) ∧ stop.contains t.sym then (do undoGetToken; if b = 1 then undoGetToken)
      else skipUnknownLoop ctx tag false stop b fuel := by
  simp only [skipStep, h, Bool.false_eq_true, ↓reduceIte]

theorem skipStep_other {ctx : Ctx} {tag : List Char} {ib : Bool} {stop : List Nat} {b : Int} {fuel : Nat} {t : PTok}
    (h0 : t.ty ≠ 0) (h1 : t.ty ≠ 1) (h2 : t.ty ≠ 2) : skipStep ctx tag ib stop b fuel t =
      if ib ∧ b = 0 then fail .incorrectEndTag else skipUnknownLoop ctx tag ib stop b fuel := by
  obtain ⟨n, hn⟩ : ∃ n, t.ty = n + 3 := ⟨t.ty - 3, by omega⟩
  simp only [skipStep, hn]

theorem skipUnknownLoop_succ (ctx : Ctx) (tag : List Char) (ib : Bool) (stop : List Nat) (b : Int) (fuel : Nat) :
    skipUnknownLoop ctx tag ib stop b (fuel + 1) = (getToken ctx >>= skipStep ctx tag ib stop b fuel) := rfl

end A2l.Tree
