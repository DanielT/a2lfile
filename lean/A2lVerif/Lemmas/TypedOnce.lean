import A2lVerif.Lemmas.TypedParsed
import A2lVerif.Lemmas.IfDataUid
import A2lVerif.Lemmas.TypedContent
/-!
# Typed IF_DATA access: what the interpreter builds for a flat definition fits the output types; the statements about
# content that the interpreter of C18 accepted

`shape_fits`: a value with the `Shape` of a flat definition `s` (Lemmas/TypedExact.lean: everything the interpreter
returns) is `Exact` for the output type `fixItem s`; `data_fits` is the same statement for the data of a tagged item / of
the root, after `parse_ifdata_make_block`. `Exact` is the hub: what is `Exact` decodes (`exact_load`), and in what is
`Exact` no member that is not declared `( ... )*` occurs twice (`exact_once`): `parse_ifdata_taggedstruct` rejects a
second occurrence (`InvalidMultiplicityTooMany`), which `Shape` records as `TagsOk` and `Exact` member by member;
`Once t g` is this condition alone, at every depth, the statement of `interpreted_no_repeat`.
-/
namespace A2l.Typed
open A2l.Tree A2l.Aml A2l.IfData

mutual
def Once : OTy → Gen → Prop
  | .array of _, g => ∀ gs, g = .array gs → ∀ x ∈ gs, Once of x
  | .struct items, g => ∀ line gs, g = .struct line gs → OnceL items gs
  | .seq of, g => ∀ gs, g = .seq gs → ∀ x ∈ gs, Once of x
  | .tagged _ ms, g => ∀ its, tagItems g = .ok its → OnceM ms its
  | _, _ => True
def OnceL : List OTy → List Gen → Prop
  | [], _ => True
  | t :: rest, gs => Once t (gs.headD .none) ∧ OnceL rest gs.tail
def OnceM : List (OTag OTy) → List (TItem Gen) → Prop
  | [], _ => True
  | m :: rest, its =>
    (m.rep = false → (itemsOf its m.tag).length ≤ 1) ∧
    (∀ it ∈ itemsOf its m.tag, ∀ line gs, it.data = .block line gs → OnceL m.items gs) ∧ OnceM rest its
end

/-- when the tags are pairwise different, the lookup finds every member under its own tag: the one place where the
    interpreter's first match and the generated code's reading by member meet -/
theorem lookupTagged_member : ∀ {l : List (Tagged Spec)} {t : Tagged Spec}, (l.map (·.tag)).Nodup → t ∈ l →
    lookupTagged l t.tag = some t
  | t' :: rest, t, hn, hm => by
    have hn := List.nodup_cons.1 (List.map_cons ▸ hn)
    rw [lookupTagged_cons]
    rcases List.mem_cons.1 hm with rfl | hm
    · exact if_pos rfl
    · exact (if_neg fun (he : t'.tag = t.tag) => hn.1 (he ▸ List.mem_map_of_mem hm)).trans (lookupTagged_member hn.2 hm)

theorem shapeT_member {l : List (Tagged Spec)} {t : Tagged Spec} {it : TItem Gen} (hn : (l.map (·.tag)).Nodup) (hm : t ∈ l)
    (ht : it.tag = t.tag) (h : ShapeT l it) : ShapeT1 t it := by
  obtain ⟨t', hl, h1⟩ := shapeT_iff.1 h
  rw [ht, lookupTagged_member hn hm] at hl
  exact Option.some.inj hl ▸ h1

theorem repOf_member {l : List (Tagged Spec)} {t : Tagged Spec} (hn : (l.map (·.tag)).Nodup) (hm : t ∈ l) :
    repOf l t.tag = t.rep := by
  unfold repOf
  rw [lookupTagged_member hn hm]

theorem shapeT_tag {l : List (Tagged Spec)} {it : TItem Gen} (h : ShapeT l it) : it.tag ∈ l.map (·.tag) :=
  have ⟨_, hl, _⟩ := shapeT_iff.1 h
  (lookupTagged_some hl).2 ▸ List.mem_map_of_mem (lookupTagged_some hl).1

theorem itemsOf_length_le (its : List (TItem Gen)) (rep : List Char → Bool) (tag : List Char)
    (h : TagsOk rep (its.map (·.tag))) (hr : rep tag = false) : (itemsOf its tag).length ≤ 1 := by
  have hp : TagsOk rep ((itemsOf its tag).map (·.tag)) := List.Pairwise.sublist (List.filter_sublist.map _) h
  match hi : itemsOf its tag with
  | [] => exact Nat.zero_le 1
  | [_] => exact Nat.le_refl 1
  | a :: b :: _ =>
    -- two items under the tag: `TagsOk` says that the tag repeats
    have ha := (mem_itemsOf (hi ▸ List.mem_cons_self ..)).2
    have hb := (mem_itemsOf (hi ▸ List.mem_cons_of_mem _ (List.mem_cons_self ..))).2
    rw [hi] at hp
    have : rep a.tag = true := (List.pairwise_cons.1 hp).1 b.tag (List.mem_cons_self ..) (ha.trans hb.symm)
    rw [ha, hr] at this
    cases this

theorem tagItems_ok_inv {g : Gen} {its : List (TItem Gen)} (h : tagItems g = .ok its) :
    g = .taggedStruct its ∨ g = .taggedUnion its := by
  cases g <;> simp [tagItems] at h
  · exact .inl (by rw [h])
  · exact .inr (by rw [h])

theorem ExactB.once {ts : List OTy} {gs : List Gen} (ih : ∀ gs, ExactL ts gs → OnceL ts gs) (h : ExactB ts gs) :
    OnceL ts gs := by
  rcases h with h | ⟨rfl, _⟩
  · exact ih gs h
  · trivial

theorem exact_once :
    (∀ t g, Exact t g → Once t g) ∧ (∀ ts gs, ExactL ts gs → OnceL ts gs) ∧ (∀ ms its, ExactM ms its → OnceM ms its) := by
  have tagged (u : Bool) (ms : List (OTag OTy)) (ih : ∀ its, ExactM ms its → OnceM ms its) (g : Gen) :
      Exact (.tagged u ms) g → Once (.tagged u ms) g := by
    intro ⟨its, hg, _, hm⟩ its' he
    rw [hg, tagItems_tagged] at he
    cases he
    exact ih its hm
  refine OTy.induct ?_ ?_ ?_ ?_ ?_ ?_ ?_ ?_ ?_ ?_ ?_ ?_ ?_ ?_ ?_
  · intro _ _; trivial
  · intro _ _ _; trivial
  · intro _ _; trivial
  · intro _ _; trivial
  · intro _ _; trivial
  · intro of dim ih g ⟨_, gs, hg, _, hall⟩ gs' he x hx
    cases hg.symm.trans he
    exact ih x (hall x hx)
  · intro _ _ _; trivial
  · intro items ih g ⟨_, gs, hg, hl⟩ _ gs' he
    cases hg.symm.trans he
    exact ih gs hl
  · intro of ih g ⟨_, gs, hg, hall⟩ gs' he x hx
    cases hg.symm.trans he
    exact ih x (hall x hx)
  · exact tagged
  · intro _ _; trivial
  · intro u ms rest ihm ihr gs ⟨g, gs', hgs, hg, hr⟩
    subst hgs
    exact ⟨tagged u ms ihm g hg, ihr gs' hr⟩
  · intro t rest _ iht ihr gs ⟨g, gs', hgs, hg, hr⟩
    subst hgs
    exact ⟨iht g hg, ihr gs' hr⟩
  · intro _ _; trivial
  · intro m rest ihm ihr its ⟨hlen, hit, hr⟩
    refine ⟨hlen, fun it hi line gs he => ?_, ihr its hr⟩
    obtain ⟨_, gs', he', hx⟩ := hit it hi
    cases he'.symm.trans he
    exact ExactB.once ihm hx

theorem data_fits {s : Spec} (hP : flat s = true → distinctTy (fixItem s) = true → ∀ g, Shape s g → Exact (fixItem s) g)
    (hf : (isNone s || flat s) = true) (hd : distinctL (blockItems s) = true) {d : Gen} (hs : Shape s d) :
    ExactB (blockItems s) (dataItems d) := by
  cases hn : isNone s with
  | true =>
    cases s <;> cases hn
    obtain rfl : d = .none := hs
    exact .inr ⟨rfl, rfl⟩
  | false =>
    rw [hn, Bool.false_or] at hf
    cases hst : isStruct s with
    | true =>
      cases s <;> cases hst
      rename_i items
      have hb : fixItems items = structItems items := (structItems_flat items hf).symm
      obtain ⟨line', gs', he, hl⟩ := hP hf (show distinctL (structItems items) = true from hb ▸ hd) d hs
      obtain ⟨gs, rfl, _⟩ := hs
      obtain ⟨-, rfl⟩ := Gen.struct.inj he
      exact .inl (show ExactL (fixItems items) gs from hb ▸ hl)
    | false =>
      have hb : blockItems s = [fixItem s] := by
        rw [blockItems_eq]
        cases s with
        | none => cases hn
        | struct items => cases hst
        | _ => rfl
      rw [hb] at hd ⊢
      rw [dataItems_of_shape hst hs]
      exact .inl ⟨d, [], rfl, hP hf (distinctL_cons hd).1 d hs, rfl⟩

def MembersFit (l : List (Tagged Spec)) : Prop :=
  ∀ its : List (TItem Gen), (∀ t ∈ l, ∀ it ∈ itemsOf its t.tag, ShapeT1 t it) →
    (∀ t ∈ l, t.rep = false → (itemsOf its t.tag).length ≤ 1) → ExactM (fixTagged l) its

theorem tagged_fits {l : List (Tagged Spec)} (u : Bool) (hm : distinctM (fixTagged l) = true → MembersFit l)
    (hd : distinctTy (.tagged u (fixTagged l)) = true) (its : List (TItem Gen)) (hall : ∀ it ∈ its, ShapeT l it)
    (hlen : (l.map (·.tag)).Nodup → ∀ t ∈ l, t.rep = false → (itemsOf its t.tag).length ≤ 1) :
    Exact (.tagged u (fixTagged l)) (if u then .taggedUnion its else .taggedStruct its) := by
  have hd : (nodupB (tagsOfM (fixTagged l)) && distinctM (fixTagged l)) = true := hd
  rw [tagsOfM_fixTagged, Bool.and_eq_true, nodupB_iff] at hd
  exact ⟨its, rfl, fun it hit => tagsOfM_fixTagged l ▸ shapeT_tag (hall it hit),
    hm hd.2 its (fun t ht it hit => shapeT_member hd.1 ht (mem_itemsOf hit).2 (hall it (mem_itemsOf hit).1)) (hlen hd.1)⟩

theorem shape_fits :
    (∀ s, flat s = true → distinctTy (fixItem s) = true → ∀ g, Shape s g → Exact (fixItem s) g) ∧
    (∀ l, flatL l = true → distinctL (fixItems l) = true → ∀ gs, ShapeL l gs → ExactL (fixItems l) gs) ∧
    (∀ l, flatT l = true → distinctM (fixTagged l) = true → MembersFit l) := by
  refine Spec.induct ?_ ?_ ?_ ?_ ?_ ?_ ?_ ?_ ?_ ?_ ?_ ?_ ?_ ?_
  · intro h; cases h
  · intro w _ _ g h; exact h
  · intro _ _ g h; exact h
  · intro _ _ g h; exact h
  · intro of dim ih hf hd g h
    have hf : (isChar of || isScalarS of) = true := hf
    have h : if isChar of then _ else _ := h
    rw [fixItem_array] at hd ⊢
    cases hc : isChar of with
    | true =>
      rw [hc, if_pos rfl] at h
      rw [if_pos rfl]
      exact h
    | false =>
      rw [hc] at h hf hd
      simp only [Bool.false_eq_true, if_false, Bool.false_or] at h hf hd ⊢
      obtain ⟨gs, rfl, _, hl, hall⟩ := h
      exact ⟨isTagged_fixItem (scalar_flat hf).2, gs, rfl, hl hf, fun x hx => ih (scalar_flat hf).1 hd x (hall x hx)⟩
  · intro items _ _ g h
    obtain ⟨off, s, rfl, hk⟩ := h
    exact ⟨off, s, rfl, lookupKV_contains items s hk⟩
  · intro items ih hf hd g h
    have hf : flatL items = true := hf
    have hd : distinctL (structItems items) = true := hd
    obtain ⟨gs, rfl, hl⟩ := h
    show Exact (.struct (structItems items)) _
    rw [structItems_flat items hf] at hd ⊢
    exact ⟨0, gs, rfl, ih hf hd gs hl⟩
  · intro of ih hf hd g h
    have hf : (!isSeq of && !isNone of && !isTaggedS of && flat of) = true := hf
    simp only [Bool.and_eq_true, Bool.not_eq_true'] at hf
    rw [fixItem_seq hf.1.1.1] at hd ⊢
    obtain ⟨gs, rfl, hall⟩ := h
    exact ⟨isTagged_fixItem hf.1.2, gs, rfl, fun x hx => ih hf.2 hd x (hall x hx)⟩
  · intro items ih hf hd g h
    obtain ⟨its, rfl, htags, hall⟩ := h
    exact tagged_fits false (ih hf) hd its hall fun hn t ht hrep =>
      itemsOf_length_le its (repOf items) t.tag htags (by rw [repOf_member hn ht, hrep])
  · intro items ih hf hd g h
    obtain ⟨its, rfl, hlen, hall⟩ := h
    exact tagged_fits true (ih hf) hd its hall fun _ t _ _ => Nat.le_trans (List.length_filter_le _ _) hlen
  · intro _ _ gs h
    exact h
  · intro s rest ihs ihr hf hd gs h
    have hf : flat s = true ∧ flatL rest = true := Bool.and_eq_true _ _ ▸ hf
    have hd : distinctTy (fixItem s) = true ∧ distinctL (fixItems rest) = true := distinctL_cons hd
    obtain ⟨g, gs', rfl, hg, hr⟩ := h
    exact ⟨g, gs', rfl, ihs hf.1 hd.1 g hg, ihr hf.2 hd.2 gs' hr⟩
  · intro _ _ _ _ _; trivial
  · intro t rest iht ihr hf hd its hsh hlen
    have hf : (isNone t.item || flat t.item) = true ∧ flatT rest = true := Bool.and_eq_true _ _ ▸ hf
    have hd : distinctL (blockItems t.item) = true ∧ distinctM (fixTagged rest) = true := distinctM_cons hd
    refine ⟨hlen t (List.mem_cons_self ..), fun it hit => ?_,
      ihr hf.2 hd.2 its (fun t' ht' => hsh t' (List.mem_cons_of_mem _ ht')) (fun t' ht' => hlen t' (List.mem_cons_of_mem _ ht'))⟩
    obtain ⟨hb, d, hd', hs⟩ := hsh t (List.mem_cons_self ..) it hit
    exact ⟨hb, dataItems d, hd' ▸ makeBlock_eq d it.line, data_fits iht hf.1 hd.1 hs⟩

/-- in the data `d` (the value that the interpreter built for the root definition `S`), no member of a tagged struct
    that is not declared `( ... )*` occurs more than once -/
def NoRepeatViolation (S : Spec) (d : Gen) : Prop := OnceL (rootItems S) (dataItems d)

theorem root_fits (S : Spec) (hf : Flat S) (hd : TagsDistinct S) (d : Gen) (hs : Shape S d) :
    ExactB (rootItems S) (dataItems d) :=
  data_fits (shape_fits.1 S) (by unfold Flat at hf; rw [hf, Bool.or_true]) hd hs

theorem noRepeatViolation_of_shape (S : Spec) (hf : Flat S) (hd : TagsDistinct S) (d : Gen) (hs : Shape S d) :
    NoRepeatViolation S d :=
  ExactB.once (exact_once.2.1 _) (root_fits S hf hd d hs)

theorem decode_of_shape (S : Spec) (hf : Flat S) (hd : TagsDistinct S) (d : Gen) (hs : Shape S d) (line u so eo : Nat) :
    ∃ v, typedLoadAt S (makeBlock d line) u so eo = .ok v ∧ Sim (typedStore S v) (makeBlock d line) := by
  rw [makeBlock_eq]
  obtain ⟨_, hl, fs, locs, rfl, hsim⟩ := block_sim (exact_load.2.1 (rootItems S) hd) (root_fits S hf hd d hs) line u so eo
  exact ⟨_, hl, hsim⟩

variable {e : Env}

theorem itemP_uidOk {f32 : List Char → Option (List Char)} {sp : Spec} {ctx : Ctx} {s s' : PState} {g : Gen}
    (h : itemP f32 sp ctx e s = .ok g s') : UidOk g :=
  MonoQ.ok (itemP_uid f32 sp ctx) h

theorem parseIfdata_valid_inv {f32 : List Char → Option (List Char)} {specs : List Spec} {ctx : Ctx} {s : PState}
    {g : Gen} {s' : PState} (h : parseIfdata f32 specs ctx e s = .ok (some g, true) s') :
    ∃ sp ∈ specs, ∃ d s0 s1, itemP f32 sp ctx e s0 = .ok d s1 ∧ g = makeBlock d ctx.line := by
  obtain ⟨_, sp, hm, s0, d, s1, _, hi, _, _, hg⟩ := IfData.parseIfdata_valid_run h
  exact ⟨sp, hm, d, s0, s1, hi, Option.some.inj hg⟩

end A2l.Typed
