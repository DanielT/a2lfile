import A2lVerif.Model.Typed
/-!
# Typed IF_DATA access: the predicates used in Props/C19.lean

* `TypedOk S v`: `v` is a value of the root type generated for `S` (decidable: a `Bool`-valued function), including
  the shape of the location tuples in `__block_info`.
* `TagsDistinct S`: the members of every tagged struct / union of the output types have pairwise different tags
  (two members with the same tag would be two struct fields with the same name: such a specification does not compile).
-/
namespace A2l.Typed
open A2l.Aml A2l.IfData

/-- `f` holds for corresponding elements of two lists of the same length -/
def all2 (f : TVal → Loc → Bool) : List TVal → List Loc → Bool
  | [], [] => true
  | v :: vs, l :: ls => f v l && all2 f vs ls
  | _, _ => false

/-- a value of a block / struct type whose fields are checked by `okf` -/
def okBlockWith (okf : List TVal → List Loc → Bool) (v : TVal) : Bool :=
  match v with
  | .struct info fs => okf fs info.locs
  | _ => false

/-- the field that a tagged member becomes: `Option<T>` for a plain member, `Vec<T>` for a `( ... )*` member -/
def okMemberWith (okf : List TVal → List Loc → Bool) (rep : Bool) (field : TVal) : Bool :=
  match field with
  | .opt none => !rep
  | .opt (some v) => !rep && okBlockWith okf v
  | .multi vs => rep && vs.all (okBlockWith okf)
  | _ => false

mutual

/-- `v` is a value of the Rust type of an item of type `t`, and `l` is a value of its location type; for a struct
    member: the layout is that of a struct (`__uid = 0`, offsets 0) and the location is the struct's line -/
def okItem : OTy → TVal → Loc → Bool
  | .none, _, _ => false
  | .int _, v, l =>
    match v, l with
    | .int _, .int _ _ => true
    | _, _ => false
  | .float, v, l =>
    match v, l with
    | .float _, .off _ => true
    | _, _ => false
  | .double, v, l =>
    match v, l with
    | .double _, .off _ => true
    | _, _ => false
  | .str, v, l =>
    match v, l with
    | .str _, .off _ => true
    | _, _ => false
  | .array of dim, v, l =>
    match v, l with
    | .array vs, .arr ls => vs.length == dim && all2 (okItem of) vs ls
    | _, _ => false
  | .enum names, v, l =>
    match v, l with
    | .enum s, .off _ => names.contains s
    | _, _ => false
  | .struct items, v, l =>
    match v, l with
    | .struct info fs, .off n =>
      n == info.line && info.uid == 0 && info.startOff == 0 && info.endOff == 0 && okFields items fs info.locs
    | _, _ => false
  | .seq of, v, l =>
    match v, l with
    | .seq vs, .seq ls => all2 (okItem of) vs ls
    | _, _ => false
  | .tagged _ _, _, _ => false

/-- the fields of a struct / block type with items `ts`, and its `item_location` -/
def okFields : List OTy → List TVal → List Loc → Bool
  | [], fs, locs => fs.isEmpty && locs.isEmpty
  | t :: rest, fs, locs =>
    match t with
    | .tagged _ members => okMembers members fs && okFields rest (fs.drop members.length) locs
    | t =>
      match fs, locs with
      | v :: fs', l :: locs' => okItem t v l && okFields rest fs' locs'
      | _, _ => false

/-- the first `members.length` fields are the fields of the members -/
def okMembers : List (OTag OTy) → List TVal → Bool
  | [], _ => true
  | m :: rest, fs =>
    match fs with
    | f :: fs' => okMemberWith (okFields m.items) m.rep f && okMembers rest fs'
    | [] => false

end

/-- **well-typed**: `v` is a value of the root type generated for the specification `S` -/
def TypedOk (S : Spec) (v : TVal) : Prop := okBlockWith (okFields (rootItems S)) v = true

instance (S : Spec) (v : TVal) : Decidable (TypedOk S v) := by unfold TypedOk; infer_instance

def nodupB : List (List Char) → Bool
  | [] => true
  | x :: xs => !xs.contains x && nodupB xs

mutual
def distinctTy : OTy → Bool
  | .array of _ => distinctTy of
  | .struct items => distinctL items
  | .seq of => distinctTy of
  | .tagged _ ms => nodupB (tagsOfM ms) && distinctM ms
  | _ => true
def distinctL : List OTy → Bool
  | [] => true
  | t :: rest => distinctTy t && distinctL rest
def distinctM : List (OTag OTy) → Bool
  | [] => true
  | m :: rest => distinctL m.items && distinctM rest
def tagsOfM : List (OTag OTy) → List (List Char)
  | [] => []
  | m :: rest => m.tag :: tagsOfM rest
end

/-- the members of every tagged struct / union of the types generated for `S` have pairwise different tags -/
def TagsDistinct (S : Spec) : Prop := distinctL (rootItems S) = true

instance (S : Spec) : Decidable (TagsDistinct S) := by unfold TagsDistinct; infer_instance

/-- the layout that `load_from_ifdata` gives to the root value: that of the `IfData` it is loaded from -/
def TVal.withLayout (v : TVal) (uid startOff endOff : Nat) : TVal :=
  match v with
  | .struct info fs => .struct { info with uid := uid, startOff := startOff, endOff := endOff } fs
  | v => v

def TVal.uid : TVal → Nat
  | .struct info _ => info.uid
  | _ => 0
def TVal.startOff : TVal → Nat
  | .struct info _ => info.startOff
  | _ => 0
def TVal.endOff : TVal → Nat
  | .struct info _ => info.endOff
  | _ => 0

end A2l.Typed
