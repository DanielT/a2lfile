import A2lVerif.Model.Sort
import A2lVerif.Lemmas.ListOrder
/-! C14: what `sort()` does to one section (`sortSection`: kind, keys, uids, names, a second call), then to the sequence of
    sections (`sortSections`, by induction with the running uid left general). -/
namespace A2l.Srt

@[simp] theorem length_assignSeq (u : Nat) (l : List Elem) : (assignSeq u l).length = l.length := by
  induction l generalizing u with
  | nil => rfl
  | cons e es ih => simp [assignSeq, ih]

theorem map_assignSeq {β} (f : Elem → β) (hf : ∀ e u, f { e with uid := u } = f e) (u : Nat) (l : List Elem) :
    (assignSeq u l).map f = l.map f := by
  induction l generalizing u with
  | nil => rfl
  | cons e es ih => rw [assignSeq, List.map_cons, List.map_cons, hf, ih]

theorem map_uid_assignSeq (u : Nat) (l : List Elem) :
    (assignSeq u l).map (·.uid) = List.range' u l.length := by
  induction l generalizing u with
  | nil => rfl
  | cons e es ih => simp [assignSeq, ih, List.range'_succ]

theorem assignSeq_assignSeq (u v : Nat) (l : List Elem) : assignSeq u (assignSeq v l) = assignSeq u l := by
  induction l generalizing u v with
  | nil => rfl
  | cons e es ih => simp [assignSeq, ih]

theorem nameLe_trans (a b c : Elem) : nameLe a b = true → nameLe b c = true → nameLe a c = true := by
  simp only [nameLe, decide_eq_true_eq]
  exact String.le_trans

theorem nameLe_total (a b : Elem) : (nameLe a b || nameLe b a) = true := by
  simp only [nameLe, Bool.or_eq_true, decide_eq_true_eq]
  exact String.le_total _ _

theorem pairwise_nameLe_mergeSort (l : List Elem) :
    (l.mergeSort nameLe).Pairwise (fun a b => nameLe a b = true) :=
  List.pairwise_mergeSort nameLe_trans nameLe_total l

theorem pairwise_nameLe_iff (l : List Elem) :
    l.Pairwise (fun a b => nameLe a b = true) ↔ (l.map (·.name)).Pairwise (· ≤ ·) := by
  rw [List.pairwise_map]
  simp [nameLe]

theorem pairwise_nameLe_assignSeq (u : Nat) (l : List Elem)
    (h : l.Pairwise (fun a b => nameLe a b = true)) :
    (assignSeq u l).Pairwise (fun a b => nameLe a b = true) := by
  rw [pairwise_nameLe_iff] at h ⊢
  rwa [map_assignSeq (·.name) (fun _ _ => rfl)]

theorem mergeSort_assignSeq_mergeSort (u : Nat) (l : List Elem) :
    (assignSeq u (l.mergeSort nameLe)).mergeSort nameLe = assignSeq u (l.mergeSort nameLe) :=
  List.mergeSort_of_pairwise (pairwise_nameLe_assignSeq u _ (pairwise_nameLe_mergeSort l))

/-- what `canonical` takes from one section -/
def canonSec (s : Section) : List Elem :=
  match s.kind with
  | .byName => s.elems.mergeSort nameLe
  | _ => s.elems

theorem canonical_eq (m : Module) : canonical m = m.sections.flatMap canonSec := rfl

theorem sortSection_kind (u : Nat) (s : Section) : (sortSection u s).1.kind = s.kind := by
  unfold sortSection; split <;> rfl

theorem sortSection_key (u : Nat) (s : Section) :
    (sortSection u s).1.elems.map Elem.key = (canonSec s).map Elem.key := by
  unfold sortSection canonSec
  split <;> rename_i hk <;> simp only [hk]
  · simp [Elem.key, Function.comp_def]
  · exact map_assignSeq _ (fun _ _ => rfl) _ _
  · exact map_assignSeq _ (fun _ _ => rfl) _ _

theorem canonSec_perm (s : Section) : (canonSec s).Perm s.elems := by
  unfold canonSec
  split
  · exact List.mergeSort_perm _ _
  · exact List.Perm.refl _

theorem sortSection_perm (u : Nat) (s : Section) :
    ((sortSection u s).1.elems.map Elem.key).Perm (s.elems.map Elem.key) := by
  rw [sortSection_key]
  exact (canonSec_perm s).map _

theorem sortSection_le (u : Nat) (s : Section) : u ≤ (sortSection u s).2 := by
  unfold sortSection; split <;> simp

/-- `hwf`: every element of a single gets the same uid `u` -/
theorem sortSection_uids (u : Nat) (s : Section) (hwf : s.kind = .single → s.elems.length ≤ 1) :
    ((sortSection u s).1.elems.map (·.uid)).Pairwise (· < ·) ∧
    ∀ x ∈ (sortSection u s).1.elems.map (·.uid), u ≤ x ∧ x < (sortSection u s).2 := by
  unfold sortSection
  split <;> rename_i hk
  · refine ⟨?_, fun x hx => ?_⟩
    · match s.elems, hwf hk with
      | [], _ => exact .nil
      | [e], _ => exact List.pairwise_singleton _ _
    · obtain ⟨e, he, rfl⟩ := List.mem_map.1 hx
      obtain ⟨_, _, rfl⟩ := List.mem_map.1 he
      exact ⟨Nat.le_refl _, Nat.lt_succ_self _⟩
  · simp only [map_uid_assignSeq]
    exact ⟨List.pairwise_lt_range', fun x hx => List.mem_range'_1.1 hx⟩
  · simp only [map_uid_assignSeq, List.length_mergeSort]
    exact ⟨List.pairwise_lt_range', fun x hx => List.mem_range'_1.1 hx⟩

theorem sortSection_idem (u : Nat) (s : Section) :
    sortSection u (sortSection u s).1 = sortSection u s := by
  obtain ⟨k, es⟩ := s
  cases k
  · simp [sortSection, Function.comp_def]
  · simp [sortSection, assignSeq_assignSeq]
  · simp [sortSection, mergeSort_assignSeq_mergeSort, assignSeq_assignSeq]

theorem sortSection_names (u : Nat) (s : Section) (hk : s.kind = .byName) :
    (sortSection u s).1.elems.Pairwise (fun a b => a.name ≤ b.name) := by
  have h := pairwise_nameLe_assignSeq u _ (pairwise_nameLe_mergeSort s.elems)
  unfold sortSection
  simp only [hk]
  simpa [nameLe] using h

theorem sortSections_cons (u : Nat) (s : Section) (ss : List Section) :
    sortSections u (s :: ss) = (sortSection u s).1 :: sortSections (sortSection u s).2 ss := rfl

/-- member by member: every section of the result is `sortSection` of the section in its place, at the uid reached there -/
theorem sortSections_rel (u : Nat) (ss : List Section) :
    ListOrder.Forall₂ (fun s s' => ∃ v, s' = (sortSection v s).1) ss (sortSections u ss) := by
  induction ss generalizing u with
  | nil => exact .nil
  | cons s ss ih => exact .cons ⟨u, rfl⟩ (ih _)

theorem length_sortSections (u : Nat) (ss : List Section) : (sortSections u ss).length = ss.length :=
  (sortSections_rel u ss).length_eq

theorem sortSections_getElem (u : Nat) (ss : List Section) (i : Nat) (h : i < ss.length)
    (h' : i < (sortSections u ss).length) :
    ((sortSections u ss)[i]).kind = (ss[i]).kind ∧
    (((sortSections u ss)[i]).elems.map Elem.key).Perm ((ss[i]).elems.map Elem.key) := by
  obtain ⟨v, hv⟩ := (sortSections_rel u ss).getElem h h'
  rw [hv]
  exact ⟨sortSection_kind v _, sortSection_perm v _⟩

theorem sortSections_key (u : Nat) (ss : List Section) :
    ((sortSections u ss).flatMap (·.elems)).map Elem.key = (ss.flatMap canonSec).map Elem.key := by
  induction ss generalizing u with
  | nil => rfl
  | cons s ss ih =>
    simp only [sortSections_cons, List.flatMap_cons, List.map_append, sortSection_key, ih]

theorem sortSections_uids (u : Nat) (ss : List Section)
    (hwf : ∀ s ∈ ss, s.kind = .single → s.elems.length ≤ 1) :
    (((sortSections u ss).flatMap (·.elems)).map (·.uid)).Pairwise (· < ·) ∧
    ∀ x ∈ ((sortSections u ss).flatMap (·.elems)).map (·.uid), u ≤ x := by
  induction ss generalizing u with
  | nil => simp [sortSections]
  | cons s ss ih =>
    have h1 := sortSection_uids u s (hwf s (by simp))
    have h2 := ih (sortSection u s).2 (fun t ht => hwf t (by simp [ht]))
    have hle := sortSection_le u s
    simp only [sortSections_cons, List.flatMap_cons, List.map_append, List.pairwise_append,
      List.mem_append]
    refine ⟨⟨h1.1, h2.1, ?_⟩, ?_⟩
    · intro a ha b hb
      exact Nat.lt_of_lt_of_le (h1.2 a ha).2 (h2.2 b hb)
    · intro x hx
      rcases hx with hx | hx
      · exact (h1.2 x hx).1
      · exact Nat.le_trans hle (h2.2 x hx)

theorem sortSections_idem (u : Nat) (ss : List Section) :
    sortSections u (sortSections u ss) = sortSections u ss := by
  induction ss generalizing u with
  | nil => rfl
  | cons s ss ih =>
    rw [sortSections_cons, sortSections_cons, sortSection_idem, ih]

theorem sortSections_names (u : Nat) (ss : List Section) (s : Section)
    (hs : s ∈ sortSections u ss) (hk : s.kind = .byName) :
    s.elems.Pairwise (fun a b => a.name ≤ b.name) := by
  obtain ⟨t, _, v, rfl⟩ := (sortSections_rel u ss).mem_right hs
  exact sortSection_names v t (sortSection_kind v t ▸ hk)

end A2l.Srt
