import A2lVerif.Lemmas.RT.Lists
import A2lVerif.Lemmas.RT.Canon
import A2lVerif.Lemmas.RT.File
import A2lVerif.Lemmas.RT.Writer
/-!
# C01 (save / reload stability): the composition of Lemmas/RT

Two values with the same ordered form, both in written order, are equal up to layout bookkeeping
(`layoutEq_of_inOrder`). A written file, tokenized into the written token stream, is read back as a value with the same
ordered form; its text is the same; if the original was in written order the two are equal up to layout
(`reload_written`, `reload_text`).
-/
namespace A2l.Tree
open A2l.G A2l.Sc

/-- same type, same line offsets, same parameters (up to struct layout) -/
def Compat : Val → Val → Prop
  | .block ty i f _ _, .block ty' i' f' _ _ =>
    ty = ty' ∧ i.startOff = i'.startOff ∧ i.endOff = i'.endOff ∧ f.map normField = f'.map normField
  | _, _ => False

/-- the item that the block child `c` of arm `i` with own items `its` is written as -/
def childOT (symbols : Array String) (i : Nat) (a : Arm) (c : Val) (its : List OT) : OT :=
  match c with
  | .block cty cinfo cfields _ _ =>
    .node i (symText symbols a.tag) a.block cty cinfo.startOff cinfo.endOff (cfields.map normField) its
  | _ => .cmt [] 0

theorem gesArm_ot (symbols : Array String) (k : Nat) (a : Arm) (cs : List Val) (ss : List (List OT))
    (hb : ∀ c ∈ cs, Val.isBlock c = true) :
    (gesArm symbols k a cs ss).map (·.ot) = List.zipWith (childOT symbols k a) cs ss := by
  induction cs generalizing ss with
  | nil => rfl
  | cons c cs ih =>
    cases ss with
    | nil => rfl
    | cons o ss =>
      obtain ⟨_, _, _, _, _, rfl⟩ := Val.eq_block_of_isBlock (hb c List.mem_cons_self)
      rw [gesArm, List.map_append, ih ss fun x hx => hb x (List.mem_cons_of_mem _ hx)]
      rfl

/-- equal entry lists of one arm: the children correspond one by one -/
theorem gesArm_eq (symbols : Array String) (k : Nat) (a : Arm) {cs cs' : List Val} {ss ss' : List (List OT)}
    (h1 : ss.length = cs.length) (h2 : ss'.length = cs'.length) (hb : ∀ c ∈ cs, Val.isBlock c = true)
    (hb' : ∀ c ∈ cs', Val.isBlock c = true)
    (h : (gesArm symbols k a cs ss).map (·.ot) = (gesArm symbols k a cs' ss').map (·.ot)) :
    cs.length = cs'.length ∧ ∀ (j : Nat) (c c' : Val) (o o' : List OT), cs[j]? = some c → cs'[j]? = some c' →
      ss[j]? = some o → ss'[j]? = some o' → o = o' ∧ Compat c c' := by
  rw [gesArm_ot _ _ _ _ _ hb, gesArm_ot _ _ _ _ _ hb'] at h
  refine ⟨?_, fun j c c' o o' hc hc' ho ho' => ?_⟩
  · have := congrArg List.length h
    rwa [List.length_zipWith, List.length_zipWith, h1, h2, Nat.min_self, Nat.min_self] at this
  · have := congrArg (·[j]?) h
    simp only [List.getElem?_zipWith, hc, hc', ho, ho', Option.some.injEq] at this
    obtain ⟨_, _, _, _, _, rfl⟩ := Val.eq_block_of_isBlock (hb c (List.mem_of_getElem? hc))
    obtain ⟨_, _, _, _, _, rfl⟩ := Val.eq_block_of_isBlock (hb' c' (List.mem_of_getElem? hc'))
    injection this with _ _ _ hty hso heo hf hits
    exact ⟨hits, hty, hso, heo, hf⟩

theorem cmts_layout (cm cm' : List Cmt) (h1 : ∀ x ∈ cm, x.included = false) (h2 : ∀ x ∈ cm', x.included = false)
    (h : cm.map (fun x => OT.cmt x.text x.startOff) = cm'.map (fun x => OT.cmt x.text x.startOff)) :
    cm.map (fun x => (x.text, x.startOff, x.included)) = cm'.map (fun x => (x.text, x.startOff, x.included)) := by
  -- on comments that are not included the triple is a function of the item
  have key : ∀ l : List Cmt, (∀ x ∈ l, x.included = false) → l.map (fun x => (x.text, x.startOff, x.included)) =
      (l.map (fun x => OT.cmt x.text x.startOff)).map fun o => match o with
        | .cmt t off => (t, off, false)
        | _ => ([], 0, false) := fun l hl => by
    rw [List.map_map]
    exact List.map_congr_left fun x hx => by rw [Function.comp_apply, hl x hx]
  rw [key cm h1, key cm' h2, h]

/-- **two values in written order with the same items are equal up to layout bookkeeping** -/
theorem layoutEq_of_inOrder (e : Env) {v : Val} {items : List OT} (h : InOrder e v items) :
    ∀ {v' : Val}, InOrder e v' items → Compat v v' → LayoutEq v v' := by
  induction h with
  | @mk ty info fields children comments isB its arms ht items hl sub hlen hsub hsub2 harm hcmo hblk hcm hnil hfid hch ih =>
    intro v' h' hcompat
    cases h' with
    | @mk ty' info' fields' children' comments' isB' its' arms' ht' _ hl' sub' hlen' hsub' hsub2' harm' hcmo' hblk' hcm' hnil' hfid' hch' =>
      obtain ⟨rfl, hso, heo, hf⟩ := hcompat
      rw [hl] at hl'
      simp only [Option.some.injEq, TyDef.block.injEq] at hl'
      obtain ⟨rfl, rfl, rfl, rfl⟩ := hl'
      cases ht with
      | false =>
        obtain ⟨rfl, rfl⟩ := hnil rfl
        obtain ⟨rfl, rfl⟩ := hnil' rfl
        exact LayoutEq.block hso heo (by rw [hfid, hfid']) hf rfl (by simp) (by simp) rfl
      | true =>
        have hl1 := hlen rfl
        have hl2 := hlen' rfl
        have key : ∀ (k : Nat) (cs cs' : List Val), children[k]? = some cs → children'[k]? = some cs' →
            cs.length = cs'.length ∧ ∀ (j : Nat) (c c' : Val), cs[j]? = some c → cs'[j]? = some c' → LayoutEq c c' := by
          intro k cs cs' hk hk'
          obtain ⟨a, ha⟩ := exists_getElem?_of_length_le hk (Nat.le_of_eq hl1)
          obtain ⟨ss, hss⟩ := exists_getElem?_of_length_le hk (Nat.le_of_eq hsub.symm)
          obtain ⟨ss', hss'⟩ := exists_getElem?_of_length_le hk' (Nat.le_of_eq hsub'.symm)
          have e1 := harm rfl k a cs ss ha hk hss
          have e2 := harm' rfl k a cs' ss' ha hk' hss'
          obtain ⟨hlen3, hpt⟩ := gesArm_eq e.symbols k a (hsub2 k cs ss hk hss) (hsub2' k cs' ss' hk' hss')
            (hblk cs (List.mem_of_getElem? hk)) (hblk' cs' (List.mem_of_getElem? hk')) (e1.trans e2.symm)
          refine ⟨hlen3, fun j c c' hc hc' => ?_⟩
          obtain ⟨o, ho⟩ := exists_getElem?_of_length_le hc (Nat.le_of_eq (hsub2 k cs ss hk hss).symm)
          obtain ⟨o', ho'⟩ := exists_getElem?_of_length_le hc' (Nat.le_of_eq (hsub2' k cs' ss' hk' hss').symm)
          obtain ⟨rfl, hcomp⟩ := hpt j c c' o o' hc hc' ho ho'
          exact ih k j cs ss c o hk hss hc ho (hch' k j cs' ss' c' o hk' hss' hc' ho') hcomp
        refine LayoutEq.block hso heo (by rw [hfid, hfid']) hf (by rw [hl1, hl2])
          (fun k cs cs' hk hk' => (key k cs cs' hk hk').1)
          (fun k j cs cs' c c' hk hk' hc hc' => (key k cs cs' hk hk').2 j c c' hc hc') ?_
        have e1 := hcmo rfl
        have e2 := hcmo' rfl
        have e3 : comments.map (fun cm => OT.cmt cm.text cm.startOff) = comments'.map (fun cm => OT.cmt cm.text cm.startOff) :=
          e1.trans e2.symm
        exact cmts_layout comments comments' hcm hcm' e3

/-- what `parse_version` needs of the first item: in strict mode it is the version keyword and carries the version the
    items were checked against; otherwise it is the version keyword or some other tag -/
def HeadOk (c : RCfg) : List OT → Prop
  | .node i tag blk ty so eo fields its :: _ =>
    if c.e.strict then
      ∃ major minor, IsVersionItem c (.node i tag blk ty so eo fields its) major minor ∧ versionOf major minor = some c.ver
    else
      (∃ major minor, IsVersionItem c (.node i tag blk ty so eo fields its) major minor) ∨
        c.lx.symOf tag ≠ c.e.known.tagAsap2Version
  | _ => False

/-- `items` can be written and read back: the hypotheses of `reload_written` about the ordered tree, bundled
    (`c.lx` = how the driver annotates tokens). None of them looks at `c.e.toks`. -/
structure Writable (c : RCfg) (rarms : List Arm) (items : List OT) : Prop where
  /-- the root type is a keyword without parameters whose tagged part is `rarms` (`A2lFile`) -/
  root : c.e.table.lookup c.e.known.tyA2lFile = some (.block false [] rarms true)
  /-- every item is well-formed (for the version found by `parse_version`; outside strict mode: for every version) -/
  ok : ∀ ver, (c.e.strict = true → ver = c.ver) → OT.okL { c with ver := ver } 0 rarms false items []
  mult : MultOk c.e.strict rarms items
  pos : PosSorted c.e.code items
  head : HeadOk c items

/-- the end of `parse_file` behind a version `ver` that satisfies the version conditions of the items -/
theorem parseFile_of_version (c : RCfg) {all : List WTok} (hT : Toks c.e c.lx all) (hne : all ≠ []) (rarms : List Arm)
    (items : List OT) (hw : Writable c rarms items) (ver : Nat) (hver : c.e.strict = true → ver = c.ver)
    (hall : all = OT.toksL 0 items) (fuel : Nat) (hf : OT.needL 0 items + 2 ≤ fuel) (s0 : PState)
    (hpv : ∀ ctx, ∃ s1, parseVersion fuel ctx c.e s0 = .ok ver s1 ∧ s1.pos = 0) :
    Reloads c fuel s0 items := by
  obtain ⟨s1, e1, p1⟩ := hpv (rootCtx c.e)
  obtain ⟨ch', cm', s2, e2, p2, v2, hc, ho⟩ := root_parse { c with ver := ver } hT hne c.e.known.tyA2lFile rarms items
    hw.root (hw.ok ver hver) hw.mult hw.pos hall (rootCtx c.e) rfl { s1 with ver := ver } p1 rfl fuel hf
  refine ⟨_, ch', cm', s2, ?_, rfl, rfl, hc, ho⟩
  rw [parseFile_unfold, bind_def, e1]
  simp only [modifyState_bind]
  rw [bind_def, e2]
  simp only [peekToken_bind, hT.none (n := s2.pos) (by rw [p2]; exact Nat.le_refl _)]
  rfl

/-- **a written file is read back**: `parse_file` on the written token stream succeeds with a value whose ordered form
    is `items` again, and that stands in written order -/
theorem reload_written (c : RCfg) (rarms : List Arm) (items : List OT) (hw : Writable c rarms items)
    (hT : Toks c.e c.lx (OT.toksL 0 items)) (fuel : Nat) (hf : OT.needL 0 items + 20 ≤ fuel) (s0 : PState) (hp0 : s0.pos = 0) :
    Reloads c fuel s0 items := by
  have hhead := hw.head
  cases items with
  | nil => exact absurd hhead (by simp [HeadOk])
  | cons o more =>
    cases o with
    | cmt _ _ => exact absurd hhead (by simp [HeadOk])
    | node i tag blk ty so eo fields its =>
      simp only [HeadOk] at hhead
      have hne : OT.toksL 0 (.node i tag blk ty so eo fields its :: more) ≠ [] := by
        cases blk <;> simp [OT.toksL, OT.toks, headToks]
      have hf20 : 20 ≤ fuel := Nat.le_trans (Nat.le_add_left 20 _) hf
      have hok1 : OT.ok c 0 rarms false (.node i tag blk ty so eo fields its) (OT.toksL 0 more) := by
        simpa [OT.okL] using (hw.ok c.ver fun _ => rfl).1
      -- the version `parse_version` comes up with: in strict mode the file starts with the version keyword, which carries
      -- the version the items were checked against; otherwise the items are well-formed for every version
      obtain ⟨ver, hver, hpv⟩ : ∃ ver, (c.e.strict = true → ver = c.ver) ∧
          ∀ ctx, ∃ s1, parseVersion fuel ctx c.e s0 = .ok ver s1 ∧ s1.pos = 0 := by
        cases hst : c.e.strict with
        | true =>
          rw [hst] at hhead
          simp only [if_true] at hhead
          obtain ⟨major, minor, hv, hvo⟩ := hhead
          exact ⟨_, fun _ => by rw [hvo]; rfl, fun ctx => parseVersion_strict c hT rarms _ more major minor hv hok1 rfl
            (by rw [hvo]; nofun) ctx s0 hp0 fuel hf20⟩
        | false =>
          rw [hst] at hhead
          simp only [Bool.false_eq_true, if_false] at hhead
          rcases hhead with ⟨major, minor, hv⟩ | hnv
          · exact ⟨_, nofun, fun ctx => parseVersion_strict c hT rarms _ more major minor hv hok1 rfl (fun _ => hst) ctx s0
              hp0 fuel hf20⟩
          · exact ⟨2, nofun, fun ctx => parseVersion_other c hT rarms i tag blk ty so eo fields its more hst hok1 rfl hnv ctx
              s0 hp0 fuel⟩
      exact parseFile_of_version c hT hne rarms _ hw ver hver rfl fuel
        (Nat.le_trans (Nat.add_le_add_left (by decide) _) hf) s0 hpv

/-- the text of a root value in canonical relation to `items` is the text of the written token stream: the items with
    the offsets behind line comments bumped (`OT.fixL`) -/
theorem write_root (e : Env) (ty : Nat) (info : Info) (ch : List (List Val)) (cm : List Cmt) (items : List OT)
    (h : Canon e (.block ty info [] ch cm) items) :
    ∃ F0, ∀ F, F0 ≤ F → writeFile e (.block ty info [] ch cm) F = renderToks (OT.toksL 0 (OT.fixL false items)) := by
  obtain ⟨F0, h0⟩ := canon_text e h
  refine ⟨F0, fun F hF => ?_⟩
  have := h0 F hF 0
  simpa [writeFile, Val.fieldsN, fieldsToks] using this

/-- **the second load and the second write**: `e0` = environment of the first load (its tokens are irrelevant), `v` a root
    value with ordered form `items`, written as `renderToks (OT.toksL 0 (OT.fixL false items))` (`write_root`), which the
    tokenizer reads back into the tokens of the second environment (`lex_written`). If the ordered tree is readable, the
    second load succeeds (for every sufficient parser fuel) with a value `v'` whose text is the same again, and that equals
    `v` up to layout bookkeeping if `v` stood in written order and no offset was bumped. -/
theorem reload_text (e0 : Env) (lx : LexEnv) (ver : Nat) (rarms : List Arm) (items : List OT)
    (info : Info) (ch : List (List Val)) (cm : List Cmt)
    (hcan : Canon e0 (.block e0.known.tyA2lFile info [] ch cm) items)
    (hw : Writable ⟨{ e0 with toks := (mkToks lx (OT.toksL 0 (OT.fixL false items))).toArray }, lx, ver⟩ rarms
      (OT.fixL false items)) (fuel : Nat) (hf : OT.needL 0 (OT.fixL false items) + 20 ≤ fuel) :
    ∃ v' s', parseFile fuel { e0 with toks := (mkToks lx (OT.toksL 0 (OT.fixL false items))).toArray } {} = .ok v' s' ∧
      (∃ F0, ∀ F, F0 ≤ F →
        writeFile { e0 with toks := (mkToks lx (OT.toksL 0 (OT.fixL false items))).toArray } v' F =
          writeFile e0 (.block e0.known.tyA2lFile info [] ch cm) F) ∧
      (InOrder e0 (.block e0.known.tyA2lFile info [] ch cm) items → OT.fixL false items = items →
        info.startOff = 0 → info.endOff = 0 → LayoutEq (.block e0.known.tyA2lFile info [] ch cm) v') := by
  obtain ⟨info', ch', cm', s', h1, hso, heo, hc', ho'⟩ := reload_written _ rarms _ hw rfl fuel hf {} rfl
  refine ⟨_, s', h1, ?_, fun ho hfix hs he => ?_⟩
  · -- both texts are the text of the token stream: bumping the offsets twice is bumping them once
    obtain ⟨F1, w1⟩ := write_root e0 _ info ch cm items hcan
    obtain ⟨F2, w2⟩ := write_root _ _ info' ch' cm' _ hc'
    rw [fixL_idem] at w2
    exact ⟨max F1 F2, fun F hF => by
      rw [w2 F (Nat.le_trans (Nat.le_max_right _ _) hF), w1 F (Nat.le_trans (Nat.le_max_left _ _) hF)]⟩
  · have ho' := ho'.congr (e' := e0) rfl rfl
    rw [hfix] at ho'
    exact layoutEq_of_inOrder e0 ho ho' ⟨rfl, by rw [hs, hso], by rw [he, heo], rfl⟩

end A2l.Tree
