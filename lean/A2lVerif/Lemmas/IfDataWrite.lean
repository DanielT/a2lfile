import A2lVerif.Lemmas.IfDataVals
import A2lVerif.Lemmas.TreeWriter
import A2lVerif.Model.IfData
/-!
# IF_DATA: what `GenericIfData::write` writes; the encoding at the hook boundary loses nothing

The text is the concatenation, in list order, of `white space ++ rendering` of the values `values top g`
(`writeG_render`), provided the tagged items carry increasing non-zero uids (`UidOk`), which is what the parser
produces (Lemmas/IfDataUid.lean): then the stable sort of `Writer::add_group` leaves the order as it is.

`Env.special` returns a `Val`; the IF_DATA model stores its `GenericIfData` (`Gen`) as `enc g` and the writer hook
decodes it again. `dec (enc g) = some g`: what the writer sees is what the parser produced.
-/
namespace A2l.IfData

section
open A2l.Tree A2l.Aml A2l.G A2l.Sc

/-- the text of a value behind the white space -/
def renderWV : WV → List Char
  | .ident s => s
  | .str s => ['"'] ++ escape s ++ ['"']
  | .int w v hex => printInt (intTyOf w) v hex
  | .f32 txt => txt
  | .f64 txt => txt
  | .begin_ => "/begin".toList
  | .end_ => "/end".toList

def renderPiece (p : List Char × WV) : List Char := p.1 ++ renderWV p.2

/-- the cases of `renderWV`, by `rfl`: its equation lemmas, which `simp [renderWV]` would have made, evaluate the two
    `String` literals -/
theorem renderWV_ident (s : List Char) : renderWV (.ident s) = s := rfl
theorem renderWV_str (s : List Char) : renderWV (.str s) = ['"'] ++ escape s ++ ['"'] := rfl
theorem renderWV_int (w : Nat) (v : Int) (hex : Bool) : renderWV (.int w v hex) = printInt (intTyOf w) v hex := rfl
theorem renderWV_f32 (txt : List Char) : renderWV (.f32 txt) = txt := rfl
theorem renderWV_f64 (txt : List Char) : renderWV (.f64 txt) = txt := rfl
theorem renderWV_begin : renderWV .begin_ = "/begin".toList := rfl
theorem renderWV_end : renderWV .end_ = "/end".toList := rfl

mutual
/-- the values with the white space that precedes each of them (`/end` behind the end offset the writer uses:
    `endOffOf`, i.e. 1 instead of 0 if `ends_in_line_comment` holds of the item's text) -/
def pieces (top : Bool) (indent : Nat) : Gen → List (List Char × WV)
  | .none => []
  | .int w off v hex => [(addWhitespace indent off, .int w v hex)]
  | .float off txt => [(addWhitespace indent off, .f32 txt)]
  | .double off txt => [(addWhitespace indent off, .f64 txt)]
  | .str off s => [(addWhitespace indent off, .str s)]
  | .array items => piecesL indent items
  | .enumItem off s => [(addWhitespace indent off, .ident s)]
  | .seq items => piecesL indent items
  | .taggedStruct items => piecesT indent items
  | .taggedUnion items => piecesT indent items
  | .struct _ items => piecesL indent items
  | .block _ items => if top then piecesL indent items else []
def piecesL (indent : Nat) : List Gen → List (List Char × WV)
  | [] => []
  | g :: rest => pieces false indent g ++ piecesL indent rest
def piecesT (indent : Nat) : List (TItem Gen) → List (List Char × WV)
  | [] => []
  | it :: rest =>
    (if it.isBlock then [(addWhitespace indent it.startOff, .begin_), ([' '], .ident it.tag)]
     else [(addWhitespace indent it.startOff, .ident it.tag)]) ++
    pieces true (indent + 1) it.data ++
    (if it.isBlock then
      [(addWhitespace indent (endOffOf it.endOff (writeG true (indent + 1) it.data)), .end_), ([' '], .ident it.tag)]
     else []) ++
    piecesT indent rest
end

mutual
/-- tagged items carry non-zero uids that increase along every list -/
def UidOk : Gen → Prop
  | .array items => UidOkL items
  | .seq items => UidOkL items
  | .struct _ items => UidOkL items
  | .block _ items => UidOkL items
  | .taggedStruct items => UidOkT items
  | .taggedUnion items => UidOkT items
  | _ => True
def UidOkL : List Gen → Prop
  | [] => True
  | g :: rest => UidOk g ∧ UidOkL rest
def UidOkT : List (TItem Gen) → Prop
  | [] => True
  | it :: rest => it.uid ≠ 0 ∧ (∀ x ∈ rest, it.uid < x.uid) ∧ UidOk it.data ∧ UidOkT rest
end

theorem uidOk_struct (l : Nat) (items : List Gen) : UidOk (.struct l items) = UidOkL items := rfl
theorem uidOk_block (l : Nat) (items : List Gen) : UidOk (.block l items) = UidOkL items := rfl
theorem uidOk_array (items : List Gen) : UidOk (.array items) = UidOkL items := rfl
theorem uidOk_seq (items : List Gen) : UidOk (.seq items) = UidOkL items := rfl
theorem uidOk_ts (items : List (TItem Gen)) : UidOk (.taggedStruct items) = UidOkT items := rfl
theorem uidOk_tu (items : List (TItem Gen)) : UidOk (.taggedUnion items) = UidOkT items := rfl
theorem uidOkL_cons (g : Gen) (rest : List Gen) : UidOkL (g :: rest) = (UidOk g ∧ UidOkL rest) := rfl
theorem uidOkL_nil : UidOkL [] = True := rfl
theorem uidOkT_nil : UidOkT [] = True := rfl
theorem uidOkT_cons (it : TItem Gen) (rest : List (TItem Gen)) : UidOkT (it :: rest) =
    (it.uid ≠ 0 ∧ (∀ x ∈ rest, it.uid < x.uid) ∧ UidOk it.data ∧ UidOkT rest) := rfl

mutual
theorem pieces_values (top : Bool) (indent : Nat) : ∀ g : Gen, (pieces top indent g).map (·.2) = values top g
  | .none => rfl
  | .int .. => rfl
  | .float .. => rfl
  | .double .. => rfl
  | .str .. => rfl
  | .array items => piecesL_values indent items
  | .enumItem .. => rfl
  | .seq items => piecesL_values indent items
  | .taggedStruct items => piecesT_values indent items
  | .taggedUnion items => piecesT_values indent items
  | .struct _ items => piecesL_values indent items
  | .block _ items => by
    cases top
    · rfl
    · exact piecesL_values indent items
theorem piecesL_values (indent : Nat) : ∀ l : List Gen, (piecesL indent l).map (·.2) = valuesL l
  | [] => rfl
  | g :: rest => by
    rw [piecesL, valuesL, List.map_append, pieces_values false indent g, piecesL_values indent rest]
theorem piecesT_values (indent : Nat) : ∀ l : List (TItem Gen), (piecesT indent l).map (·.2) = valuesT l
  | [] => rfl
  | it :: rest => by
    rw [piecesT, valuesT]
    simp only [List.map_append]
    rw [pieces_values true (indent + 1) it.data, piecesT_values indent rest]
    cases it.isBlock <;> rfl
end

/-- one entry of `tagInfos` -/
def _root_.A2l.Typed.tagInfo (indent : Nat) (it : TItem Gen) : TagInfo :=
  { isComment := false, tag := it.tag, uid := it.uid, line := it.line, startOff := it.startOff, endOff := it.endOff,
    isBlock := it.isBlock, text := writeG true (indent + 1) it.data, pos := none, included := false }

theorem tagInfos_map (indent : Nat) : ∀ l : List (TItem Gen), tagInfos indent l = l.map (Typed.tagInfo indent)
  | [] => rfl
  | it :: rest => congrArg (Typed.tagInfo indent it :: ·) (tagInfos_map indent rest)

theorem uidOkT_mem {l : List (TItem Gen)} (h : UidOkT l) :
    l.Pairwise (fun a b => a.uid < b.uid) ∧ ∀ x ∈ l, x.uid ≠ 0 ∧ UidOk x.data := by
  induction l with
  | nil => exact ⟨.nil, fun _ hx => nomatch hx⟩
  | cons it rest ih =>
    obtain ⟨h0, hlt, hd, hrest⟩ := h
    exact ⟨.cons hlt (ih hrest).1, List.forall_mem_cons.2 ⟨⟨h0, hd⟩, (ih hrest).2⟩⟩

theorem tagInfos_plain (indent : Nat) (l : List (TItem Gen)) : Plain (tagInfos indent l) :=
  tagInfos_map indent l ▸ List.forall_mem_map.2 fun _ _ => ⟨rfl, rfl⟩

theorem tagInfos_pairwise (indent : Nat) (l : List (TItem Gen)) (h : UidOkT l) :
    List.Pairwise (fun a b => tagLe a b = true) (tagInfos indent l) := by
  rw [tagInfos_map, List.pairwise_map]
  -- `tagLe` is `ListOrder.lexLe` on (uid, line, tag)
  exact (uidOkT_mem h).1.imp_of_mem fun ha _ hlt => ListOrder.lexLe_of_lt ((uidOkT_mem h).2 _ ha).1 hlt

theorem addGroup_tagInfos (indent : Nat) (l : List (TItem Gen)) (h : UidOkT l) :
    addGroup indent (tagInfos indent l) = (tagInfos indent l).flatMap (chunk indent) := by
  rw [addGroup_plain indent _ (tagInfos_plain indent l), List.mergeSort_of_pairwise (tagInfos_pairwise indent l h)]

mutual
theorem writeG_render (top : Bool) (indent : Nat) : ∀ g : Gen, UidOk g →
    writeG top indent g = (pieces top indent g).flatMap renderPiece
  | .none, _ => rfl
  | .int .., _ => by simp [writeG, pieces, renderPiece, renderWV_int]
  | .float .., _ => by simp [writeG, pieces, renderPiece, renderWV_f32]
  | .double .., _ => by simp [writeG, pieces, renderPiece, renderWV_f64]
  | .str .., _ => by simp [writeG, pieces, renderPiece, renderWV_str]
  | .enumItem .., _ => by simp [writeG, pieces, renderPiece, renderWV_ident]
  | .array items, h => writeItems_render indent items h
  | .seq items, h => writeItems_render indent items h
  | .struct _ items, h => writeItems_render indent items h
  | .block _ items, h => by
    cases top
    · rfl
    · exact writeItems_render indent items h
  | .taggedStruct items, h => (addGroup_tagInfos indent items h).trans (tagInfos_render indent items h)
  | .taggedUnion items, h => (addGroup_tagInfos indent items h).trans (tagInfos_render indent items h)
theorem writeItems_render (indent : Nat) : ∀ l : List Gen, UidOkL l →
    writeItems indent l = (piecesL indent l).flatMap renderPiece
  | [], _ => rfl
  | g :: rest, h => by
    rw [UidOkL] at h
    rw [writeItems, piecesL, List.flatMap_append, writeG_render false indent g h.1, writeItems_render indent rest h.2]
theorem tagInfos_render (indent : Nat) : ∀ l : List (TItem Gen), UidOkT l →
    (tagInfos indent l).flatMap (chunk indent) = (piecesT indent l).flatMap renderPiece
  | [], _ => rfl
  | it :: rest, h => by
    rw [UidOkT] at h
    rw [tagInfos, piecesT, List.flatMap_cons, tagInfos_render indent rest h.2.2.2]
    simp only [List.flatMap_append]
    rw [← writeG_render true (indent + 1) it.data h.2.2.1]
    unfold chunk
    cases it.isBlock <;> simp [renderPiece, renderWV_ident, renderWV_begin, renderWV_end]
end

end

section
open A2l.Tree

mutual
theorem dec_enc : ∀ g : Gen, dec (enc g) = some g
  | .none => rfl
  | .int .. => rfl
  | .float .. => rfl
  | .double .. => rfl
  | .str .. => rfl
  | .enumItem .. => rfl
  | .array items => congrArg (Option.map Gen.array) (decL_encL items)
  | .seq items => congrArg (Option.map Gen.seq) (decL_encL items)
  | .taggedStruct items => congrArg (Option.map Gen.taggedStruct) (decT_encT items)
  | .taggedUnion items => congrArg (Option.map Gen.taggedUnion) (decT_encT items)
  | .struct line items => congrArg (Option.map (Gen.struct line)) (decL_encL items)
  | .block line items => congrArg (Option.map (Gen.block line)) (decL_encL items)
theorem decL_encL : ∀ l : List Gen, decL (encL l) = some l
  | [] => rfl
  | g :: rest => by rw [encL, decL, dec_enc g, decL_encL rest]
theorem decT_encT : ∀ l : List (TItem Gen), decT (encT l) = some l
  | [] => rfl
  | it :: rest => by
    rw [encT, decT]
    dsimp only
    rw [dec_enc it.data, decT_encT rest]
    cases it with
    | mk line uid startOff endOff tag data isBlock => cases isBlock <;> rfl
end

/-- the two fields of an `IF_DATA` block value: `ifdata_items` and `ifdata_valid` -/
theorem decIfData_encIfData (items : Option Gen) (valid : Bool) : decIfData (encIfData items valid) = some (items, valid) := by
  cases items with
  | none => cases valid <;> rfl
  | some g =>
    unfold encIfData decIfData
    dsimp only
    rw [dec_enc g]
    cases valid <;> rfl

end

end A2l.IfData
