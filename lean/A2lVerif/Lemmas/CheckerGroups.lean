import A2lVerif.Model.Checker
/-! `check_group_structure`: functional correctness of the `HashMap<String, GroupInfo>` bookkeeping. After the first two
    loops the map holds, for every group name, the ROOT flag of the (last) group of that name and the list of the
    groups that list it under SUB_GROUP — with multiplicity, in the order of the group list — and the third loop
    classifies every group by these two values alone. -/
namespace A2l.Chk

/-- the names of the groups that list `k` under SUB_GROUP, once per listing, in list order -/
def parentsOf (gs : List Group) (k : Name) : List Name :=
  gs.flatMap fun g => ((g.subGroup.getD []).filter (· == k)).map fun _ => g.name

/-- the ROOT flag the map holds for `k`: that of the last group of that name (`HashMap::insert` overwrites) -/
def rootOf (gs : List Group) (k : Name) : Option Bool := (gs.reverse.find? (·.name == k)).map (·.root)

/-- the third loop's verdict as a function of the ROOT flag and the parents -/
def groupVerdict (name : Name) (root : Bool) (parents : List Name) : List Report :=
  if root && decide (parents.length > 1) then [.groupStructure name (s "root-multi") parents]
  else if root && parents.length == 1 then [.groupStructure name (s "root-one") (parents.take 1)]
  else if !root && decide (parents.length > 1) then [.groupStructure name (s "multi") parents]
  else if !root && parents.isEmpty then [.groupStructure name (s "orphan") []]
  else []

def verdictFor (gs : List Group) (g : Group) : List Report :=
  match rootOf gs g.name with
  | some r => groupVerdict g.name r (parentsOf gs g.name)
  | none => []

theorem groupVerdict_eq_nil (name : Name) (root : Bool) (parents : List Name)
    (h : parents.length = if root then 0 else 1) : groupVerdict name root parents = [] := by
  cases root
  · obtain ⟨p, rfl⟩ := List.length_eq_one_iff.1 h
    rfl
  · cases List.eq_nil_of_length_eq_zero h
    rfl

/-- what `get_mut(..).parents.push(..)`, repeated, does to an entry -/
def addParents (ps : List Name) (gi : GroupInfo) : GroupInfo := { gi with parents := gi.parents ++ ps }

theorem GMap.get_cons (k' : Name) (v' : GroupInfo) (rest : GMap) (k : Name) :
    GMap.get ((k', v') :: rest) k = if k' == k then some v' else GMap.get rest k := by
  simp only [GMap.get, List.find?_cons]
  cases k' == k <;> rfl

theorem GMap.get_insert (gm : GMap) (k : Name) (v : GroupInfo) (k0 : Name) :
    (gm.insert k v).get k0 = if k == k0 then some v else gm.get k0 := by
  induction gm with
  | nil => exact GMap.get_cons k v [] k0
  | cons e rest ih =>
    obtain ⟨k', v'⟩ := e
    simp only [GMap.insert]
    split
    · rename_i heq
      cases eq_of_beq heq
      simp only [GMap.get_cons]
      cases k == k0 <;> rfl
    · rename_i hne
      simp only [GMap.get_cons, ih]
      cases h1 : k' == k0
      · rfl
      · cases h2 : k == k0
        · rfl
        · exact absurd (BEq.trans h1 (BEq.symm h2)) hne

theorem GMap.pushParent_eq (gm : GMap) (k p : Name) :
    gm.pushParent k p = (gm.get k).map fun v => gm.insert k (addParents [p] v) := by
  induction gm with
  | nil => rfl
  | cons e rest ih =>
    obtain ⟨k', v'⟩ := e
    simp only [GMap.pushParent, GMap.get_cons, GMap.insert]
    cases h : k' == k
    · rw [ih, Option.map_map]
      rfl
    · cases eq_of_beq h
      rfl

theorem groupInit_get (gs : List Group) (k : Name) :
    (groupInit gs).get k = (rootOf gs k).map fun r => ⟨r, []⟩ := by
  unfold groupInit rootOf
  rw [List.foldl_eq_foldr_reverse, Option.map_map]
  induction gs.reverse with
  | nil => rfl
  | cons g l ih =>
    rw [List.foldr_cons, GMap.get_insert, List.find?_cons, ih]
    cases g.name == k <;> rfl

theorem map_addParents_nil (o : Option GroupInfo) : o.map (addParents []) = o := by
  cases o with
  | none => rfl
  | some gi => exact congrArg (fun ps => some (GroupInfo.mk gi.isRoot ps)) (List.append_nil _)

theorem map_addParents_map (ps qs : List Name) (o : Option GroupInfo) :
    (o.map (addParents ps)).map (addParents qs) = o.map (addParents (ps ++ qs)) := by
  cases o with
  | none => rfl
  | some gi => exact congrArg (fun ps => some (GroupInfo.mk gi.isRoot ps)) (List.append_assoc ..)

theorem groupLinkOne_get (parent : Name) (l : List Name) (gm : GMap) (k : Name) :
    (groupLinkOne parent l gm).1.get k = (gm.get k).map (addParents ((l.filter (· == k)).map fun _ => parent)) := by
  induction l generalizing gm with
  | nil => exact (map_addParents_nil _).symm
  | cons sg rest ih =>
    rw [groupLinkOne, GMap.pushParent_eq, List.filter_cons]
    cases hsg : gm.get sg with
    | some v =>
      dsimp only [Option.map_some]
      rw [ih, GMap.get_insert]
      cases h1 : sg == k
      · rfl
      · rw [← eq_of_beq h1, hsg]
        exact congrArg some (congrArg (GroupInfo.mk v.isRoot) (List.append_assoc ..))
    | none =>
      -- `sg` is no key of the map: nothing is pushed, and for `k = sg` there is no entry that could be extended
      show (groupLinkOne parent rest gm).1.get k = _
      rw [ih gm]
      cases h1 : sg == k
      · rfl
      · rw [← eq_of_beq h1, hsg]
        rfl

theorem groupLink_get (gs : List Group) (gm : GMap) (k : Name) :
    (groupLink gs gm).1.get k = (gm.get k).map (addParents (parentsOf gs k)) := by
  induction gs generalizing gm with
  | nil => exact (map_addParents_nil _).symm
  | cons g rest ih =>
    show _ = (gm.get k).map
      (addParents (((g.subGroup.getD []).filter (· == k)).map (fun _ => g.name) ++ parentsOf rest k))
    rw [groupLink]
    cases g.subGroup with
    | none => exact ih gm
    | some l =>
      dsimp only
      rw [ih, groupLinkOne_get, map_addParents_map]
      rfl

theorem groupJudge_eq (gm : GMap) (gs : List Group) (v : Group → List Report)
    (h : ∀ g ∈ gs, ∃ gi, gm.get g.name = some gi ∧ groupVerdict g.name gi.isRoot gi.parents = v g) :
    groupJudge gm gs = .ok (gs.flatMap v) := by
  induction gs with
  | nil => rfl
  | cons g rest ih =>
    obtain ⟨⟨root, parents⟩, hgi, hv⟩ := h g (List.mem_cons_self ..)
    rw [groupJudge, hgi, ih fun g' hg' => h g' (List.mem_cons_of_mem _ hg'), List.flatMap_cons, ← hv]
    -- `parents[0]` is read only when `parents.len() == 1`
    cases root <;> rcases parents with _ | ⟨p, _ | ⟨q, r⟩⟩ <;> rfl

theorem rootOf_isSome (gs : List Group) (k : Name) : (rootOf gs k).isSome = (gs.map (·.name)).contains k := by
  rw [Bool.eq_iff_iff]
  simp only [rootOf, Option.isSome_map, List.find?_isSome, List.mem_reverse, List.contains_iff_mem, List.mem_map,
    beq_iff_eq]

theorem rootOf_of_nodup (gs : List Group) (hnd : (gs.map (·.name)).Nodup) (g : Group) (hg : g ∈ gs) :
    rootOf gs g.name = some g.root := by
  unfold rootOf
  cases h : gs.reverse.find? (·.name == g.name) with
  | none => exact absurd (beq_self_eq_true g.name) (List.find?_eq_none.1 h g (List.mem_reverse.2 hg))
  | some g' =>
    have hmem : g' ∈ gs := List.mem_reverse.1 (List.mem_of_find?_eq_some h)
    have hname : g'.name = g.name := eq_of_beq (List.find?_some (p := fun x : Group => x.name == g.name) h)
    -- two members of a list whose names are pairwise different and equal names: the same member
    have hp := List.pairwise_map.1 hnd
    have : g' = g := List.Pairwise.forall_of_forall_of_flip (R := fun a b : Group => a.name = b.name → a = b)
      (fun _ _ _ => rfl) (hp.imp fun hne he => absurd he hne) (hp.imp fun hne he => absurd he.symm hne) hmem hg hname
    rw [this]
    rfl

/-- **`check_group_structure` in closed form** (any group list): the missing sub-groups, then one verdict per group from
    the ROOT flag held for its name and the groups that list it -/
theorem checkGroupStructure_eq (gs : List Group) :
    checkGroupStructure gs = .ok ((groupLink gs (groupInit gs)).2 ++ gs.flatMap (verdictFor gs)) := by
  have hj : groupJudge (groupLink gs (groupInit gs)).1 gs = .ok (gs.flatMap (verdictFor gs)) := by
    apply groupJudge_eq
    intro g hg
    obtain ⟨r, hr⟩ := Option.isSome_iff_exists.1
      ((rootOf_isSome gs g.name).trans (List.contains_iff_mem.2 (List.mem_map_of_mem hg)))
    exact ⟨⟨r, parentsOf gs g.name⟩, by rw [groupLink_get, groupInit_get, hr]; rfl, by simp only [verdictFor, hr]⟩
  unfold checkGroupStructure
  generalize groupLink gs (groupInit gs) = p at hj ⊢
  obtain ⟨gm, rl⟩ := p
  simp only [hj]

end A2l.Chk
