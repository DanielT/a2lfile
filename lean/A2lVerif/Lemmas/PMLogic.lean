import A2lVerif.Model.Tree
/-!
# Properties of programs of the parser monad that the cursor primitives keep

Many judgements about `PM` programs (the state is only changed in a certain way, the outcome depends on part of the
state only, the two modes agree, ...) are closed under the operations the cursor primitives of Model/Tree.lean are made
of. `PMRules e R` lists these closure rules for a property `R` of programs; the composite primitives (`expectToken`,
`getIdentifier`, `getString`, `getInteger`, `getDouble`, `getNextTagOrComment`, ...) then satisfy `R` by one walk each,
written here once. A judgement gives the rules for the base operations and gets every composite primitive from here.
-/
namespace A2l.Tree
open A2l.G A2l.Sc

theorem of_ite {α : Sort _} {P : α → Prop} {p : Prop} [Decidable p] {a b : α} (ha : P a) (hb : P b) :
    P (if p then a else b) := by
  split
  · exact ha
  · exact hb

/-- `>>=` is `attempt` with the error passed on: a rule for `attempt m >>= f` has the rule for `m >>= f` as a special case -/
theorem bind_eq_attempt {α β} (m : PM α) (f : α → PM β) :
    m >>= f = attempt m >>= fun r => match r with
      | .ok a => f a
      | .error d => fun _ s => .err d s := by
  funext e s
  dsimp only [Bind.bind, attempt]
  cases m e s <;> rfl

/-- a property `R` of programs run in `e` that the monad operations and the operations on the cursor keep. A continuation
    of `getEnv` must not read the mode flag: the mode is only looked at by `errorOrLog`, which is not among the rules,
    so that `R` may also compare the two modes. -/
structure PMRules (e : Env) (R : ∀ {α : Type}, PM α → Prop) : Prop where
  pure : ∀ {α} (a : α), R (Pure.pure a : PM α)
  fail : ∀ {α} (k : DK), R (fail k : PM α)
  panic : ∀ {α}, R (panic : PM α)
  outOfFuel : ∀ {α}, R (outOfFuel : PM α)
  bind : ∀ {α β} {m : PM α} {f : α → PM β}, R m → (∀ a, R (f a)) → R (m >>= f)
  getEnv_bind : ∀ {β} {f : Env → PM β}, (∀ b, f { e with strict := b } = f e) → R (f e) → R (getEnv >>= f)
  getTokenpos_bind : ∀ {β} {f : Nat → PM β}, (∀ p, R (f p)) → R (getTokenpos >>= f)
  peekToken_bind : ∀ {β} {f : Option PTok → PM β}, (∀ o, R (f o)) → R (peekToken >>= f)
  getToken : ∀ ctx, R (getToken ctx)
  getLineOffset : R getLineOffset
  setTokenpos : ∀ p, R (setTokenpos p)

namespace PMRules
variable {e : Env} {R : ∀ {α : Type}, PM α → Prop} (H : PMRules e R)
include H

theorem expectTokenAux (ctx : Ctx) (ty : Nat) : ∀ fuel, R (expectTokenAux ctx ty fuel)
  | 0 => H.outOfFuel
  | fuel + 1 => H.bind (H.getToken ctx) fun _ => of_ite (PMRules.expectTokenAux ctx ty fuel) (of_ite (H.fail _) (H.pure _))

theorem expectToken (ctx : Ctx) (ty : Nat) : R (expectToken ctx ty) :=
  H.getEnv_bind (fun _ => rfl) (H.expectTokenAux ctx ty _)

theorem getInteger (ctx : Ctx) (w : Nat) : R (getInteger ctx w) := by
  refine H.bind (H.expectToken ctx 5) fun t => ?_
  cases parseInt (intTyOf w) t.text with
  | none => exact H.fail _
  | some r => exact H.pure _

theorem getDouble (ctx : Ctx) : R (getDouble ctx) := by
  refine H.bind (H.expectToken ctx 5) fun t => ?_
  cases t.fl with
  | none => exact H.fail _
  | some r => exact H.pure _

/-- `get_next_tag_or_comment` looks at the outcome of `expect_token` and may pass its error on -/
theorem getNextTagOrComment
    (hA : ∀ {α β} {m : PM α} {f : Except Diag α → PM β}, R m → (∀ r, R (f r)) → R (attempt m >>= f))
    (hM : R (modifyState fun s => { s with pos := s.pos + 1 }))
    (hD : ∀ d, R (fun _ s => .err d s : PM BlockContent)) (ctx : Ctx) : R (getNextTagOrComment ctx) := by
  refine H.getTokenpos_bind fun pos => H.peekToken_bind fun o => ?_
  split
  · exact H.bind hM fun _ => H.bind H.getLineOffset fun _ => H.pure _
  · refine H.bind (H.getToken ctx) fun _ => H.bind H.getLineOffset fun _ => hA (H.expectToken ctx 0) fun r => ?_
    cases r with
    | ok tok => exact H.pure _
    | error d => exact H.bind (H.setTokenpos _) fun _ => hD d
  · refine hA (H.expectToken ctx 0) fun r => H.bind H.getLineOffset fun _ => ?_
    cases r with
    | ok tok => exact H.pure _
    | error d => exact H.bind (H.setTokenpos _) fun _ => H.pure _

theorem condF {β} {p : Prop} [Decidable p] {k : DK} {f : PUnit → PM β} (h : R (f ())) :
    R (if p then (A2l.Tree.fail k : PM PUnit) >>= f else f ()) :=
  of_ite (H.bind (H.fail k) fun _ => h) h

theorem condW {β} {p : Prop} [Decidable p] {k : DK} {f : PUnit → PM β} (hW : R (logWarning k)) (h : R (f ())) :
    R (if p then logWarning k >>= f else f ()) :=
  of_ite (H.bind hW fun _ => h) h

theorem withOff {α} {m : PM α} {g : α → Nat → Val} (h : R m) :
    R (m >>= fun v => A2l.Tree.getLineOffset >>= fun off => Pure.pure (g v off)) :=
  H.bind h fun _ => H.bind H.getLineOffset fun _ => H.pure _

end PMRules

/-- `R` is also kept by a complaint that is an error in strict mode only (deprecation notices, which are logged in
    both modes, are not among them) -/
structure PMRulesLog (e : Env) (R : ∀ {α : Type}, PM α → Prop) : Prop extends PMRules e R where
  errorOrLog : ∀ {k : DK}, k ≠ .blockRefDeprecated ∧ k ≠ .enumRefDeprecated → R (errorOrLog k)

namespace PMRulesLog
variable {e : Env} {R : ∀ {α : Type}, PM α → Prop} (H : PMRulesLog e R)
include H

theorem condE {β} {p : Prop} [Decidable p] {k : DK} {f : PUnit → PM β}
    (hk : k ≠ .blockRefDeprecated ∧ k ≠ .enumRefDeprecated) (h : R (f ())) :
    R (if p then A2l.Tree.errorOrLog k >>= f else f ()) :=
  of_ite (H.bind (H.errorOrLog hk) fun _ => h) h

theorem getIdentifier (ctx : Ctx) : R (getIdentifier ctx) := by
  refine H.bind (H.expectToken ctx 0) fun t => ?_
  cases t.text with
  | nil => exact H.panic
  | cons c cs => exact H.condE (by decide) (H.pure _)

theorem getString (ctx : Ctx) : R (getString ctx) := by
  refine H.peekToken_bind fun o => ?_
  split
  · exact H.bind (H.getIdentifier ctx) fun _ => H.bind (H.errorOrLog (by decide)) fun _ => H.pure _
  · refine H.bind (H.expectToken ctx 4) fun t => ?_
    cases unescape (stripQuotes t.text) with
    | ok r => exact H.pure _
    | panic => exact H.panic

theorem getStringMaxlen (ctx : Ctx) (n : Nat) : R (getStringMaxlen ctx n) :=
  H.bind (H.getString ctx) fun _ => H.condE (by decide) (H.pure _)

/-- the version checks read the state; the deprecation notice is logged in both modes -/
theorem parseEnum (hS : ∀ {β} {f : PState → PM β}, (∀ s0, R (f s0)) → R (getState >>= f))
    (hW : ∀ {k : DK}, R (logWarning k)) (items : List EnumItem) (ctx : Ctx) : R (parseEnum items ctx) := by
  refine H.bind (H.getIdentifier ctx) fun name => H.getEnv_bind (fun _ => rfl) (hS fun s0 => ?_)
  dsimp only
  split
  · exact H.condE (by decide) (H.condW hW (H.pure _))
  · exact H.fail _

end PMRulesLog

end A2l.Tree
