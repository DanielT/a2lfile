import A2lVerif.Model.Scalars
import A2lVerif.Lemmas.Basics
/-! helper lemmas for the scalar codecs (C01.1, C01.2, C02) -/
namespace A2l.Sc

/-- the decision taken by one iteration of the `unescape_string` loop on the pair `(a, b)` -/
def unescPair (a b : Char) : Option Char :=
  if (a = '\\' ∨ a = '"') ∧ b = '"' then some '"'
  else if a = '\\' ∧ b = '\'' then some '\''
  else if a = '\\' ∧ b = '\\' then some '\\'
  else if a = '\\' ∧ b = 'n' then some '\n'
  else if a = '\\' ∧ b = 'r' then some '\r'
  else if a = '\\' ∧ b = 't' then some '\t'
  else none

/-- list-recursive specification of `unescape_string` -/
def unescapeL : List Char → List Char
  | [] => []
  | [a] => [a]
  | a :: b :: rest =>
    match unescPair a b with
    | some c => c :: unescapeL rest
    | none => a :: unescapeL (b :: rest)

def Plain (c : Char) : Prop := c ≠ '\'' ∧ c ≠ '"' ∧ c ≠ '\\' ∧ c ≠ '\r' ∧ c ≠ '\n' ∧ c ≠ '\t'

theorem escChar_cases (c : Char) :
    (∃ d ∈ ['\'', '"', '\\', 'r', 'n', 't'], escChar c = ['\\', d] ∧ unescPair '\\' d = some c) ∨
      (Plain c ∧ escChar c = [c]) := by
  by_cases h1 : c = '\''
  · subst h1; exact Or.inl ⟨'\'', by decide, by decide, by decide⟩
  by_cases h2 : c = '"'
  · subst h2; exact Or.inl ⟨'"', by decide, by decide, by decide⟩
  by_cases h3 : c = '\\'
  · subst h3; exact Or.inl ⟨'\\', by decide, by decide, by decide⟩
  by_cases h4 : c = '\r'
  · subst h4; exact Or.inl ⟨'r', by decide, by decide, by decide⟩
  by_cases h5 : c = '\n'
  · subst h5; exact Or.inl ⟨'n', by decide, by decide, by decide⟩
  by_cases h6 : c = '\t'
  · subst h6; exact Or.inl ⟨'t', by decide, by decide, by decide⟩
  exact Or.inr ⟨⟨h1, h2, h3, h4, h5, h6⟩, by simp [escChar, h1, h2, h3, h4, h5, h6]⟩

theorem unescPair_none {c : Char} (h2 : c ≠ '"') (h3 : c ≠ '\\') (d : Char) : unescPair c d = none := by
  simp [unescPair, h2, h3]

theorem escape_cons (c : Char) (s : List Char) : escape (c :: s) = escChar c ++ escape s := by
  simp [escape]

theorem unescapeL_cons_plain {c : Char} (h2 : c ≠ '"') (h3 : c ≠ '\\') : ∀ l, unescapeL (c :: l) = c :: unescapeL l
  | [] => rfl
  | b :: _ => by rw [unescapeL, unescPair_none h2 h3 b]

theorem unescapeL_escape (s : List Char) : unescapeL (escape s) = s := by
  induction s with
  | nil => rfl
  | cons c s ih =>
    rw [escape_cons]
    rcases escChar_cases c with ⟨d, -, hd, hp⟩ | ⟨hpl, hd⟩
    · simp [hd, unescapeL, hp, ih]
    · rw [hd, List.singleton_append, unescapeL_cons_plain hpl.2.1 hpl.2.2.1, ih]

/-- without a backslash or a quote nothing is unescaped: the fast path of `unescape_string` agrees with its loop -/
theorem unescapeL_of_not_any (s : List Char) (h : s.any (fun c => c = '\\' ∨ c = '"') = false) : unescapeL s = s := by
  induction s with
  | nil => rfl
  | cons a s ih =>
    rw [List.any_cons, Bool.or_eq_false_iff, decide_eq_false_iff_not, not_or] at h
    rw [unescapeL_cons_plain h.1.2 h.1.1, ih h.2]

theorem unescLoop_step (cs : Array Char) (j : Nat) (acc : Array Char) (a b : Char) (ha : cs[j]? = some a)
    (hb : cs[j + 1]? = some b) :
    unescLoop cs (j + 1) acc =
      match unescPair a b with
      | some c => unescLoop cs (j + 3) (acc.push c)
      | none => unescLoop cs (j + 2) (acc.push a) := by
  obtain ⟨h, rfl⟩ := Array.getElem?_eq_some_iff.1 hb
  rw [unescLoop]
  -- the loop's chain of tests is that of `unescPair`; the `match` on its result moves into the branches
  simp only [dif_pos h, Nat.add_sub_cancel, ha, unescPair, apply_ite (fun o : Option Char => match o with
    | some c => unescLoop cs (j + 3) (acc.push c)
    | none => unescLoop cs (j + 2) (acc.push a))]

/-- what `unescape_string` does with the result of its loop -/
def unescFinish (cs : Array Char) : Out (Array Char × Nat) → Out (List Char)
  | .panic => .panic
  | .ok (acc, idx) =>
    if idx = cs.size then
      match cs[idx - 1]? with
      | some p => .ok (acc.push p).toList
      | none => .panic
    else .ok acc.toList

theorem unescape_eq (s : List Char) :
    unescape s = if s.any (fun c => c = '\\' ∨ c = '"') then unescFinish s.toArray (unescLoop s.toArray 1 #[])
      else .ok s := by
  unfold unescape
  split
  · simp only
    cases unescLoop s.toArray 1 #[] with
    | panic => rfl
    | ok p => rfl
  · rfl

theorem unescFinish_loop (cs : Array Char) (l : List Char) : ∀ (j : Nat) (acc : Array Char),
    cs.toList.drop j = l →
    unescFinish cs (unescLoop cs (j + 1) acc) = .ok (acc.toList ++ unescapeL l) := by
  fun_induction unescapeL l with
  | case1 =>
    intro j acc hl
    have hsz : cs.size ≤ j := Array.length_toList ▸ List.drop_eq_nil_iff.1 hl
    rw [unescLoop, dif_neg (Nat.not_lt.2 (Nat.le_succ_of_le hsz))]
    simp only [unescFinish, if_neg (Nat.ne_of_gt (Nat.lt_succ_of_le hsz)), List.append_nil]
  | case2 a =>
    intro j acc hl
    obtain ⟨ha, ht, hj'⟩ := drop_toList_eq_cons hl
    have hsz : j + 1 = cs.size := Nat.le_antisymm hj' (Array.length_toList ▸ List.drop_eq_nil_iff.1 ht)
    rw [unescLoop, dif_neg (Nat.not_lt.2 (Nat.le_of_eq hsz.symm))]
    simp only [unescFinish, if_pos hsz, Nat.add_sub_cancel, ha, Array.toList_push]
  | case3 a b rest c hu ih =>
    intro j acc hl
    obtain ⟨ha, ht, _⟩ := drop_toList_eq_cons hl
    obtain ⟨hb, ht', _⟩ := drop_toList_eq_cons ht
    rw [unescLoop_step cs j acc a b ha hb, hu]
    simp only
    rw [ih (j + 2) _ ht', Array.toList_push, List.append_assoc]
    rfl
  | case4 a b rest hu ih =>
    intro j acc hl
    obtain ⟨ha, ht, _⟩ := drop_toList_eq_cons hl
    obtain ⟨hb, _, _⟩ := drop_toList_eq_cons ht
    rw [unescLoop_step cs j acc a b ha hb, hu]
    simp only
    rw [ih (j + 1) _ ht, Array.toList_push, List.append_assoc]
    rfl

theorem unescape_ok (s : List Char) : unescape s = .ok (unescapeL s) := by
  rw [unescape_eq]
  split
  · exact unescFinish_loop s.toArray s 0 #[] rfl
  · next h => rw [unescapeL_of_not_any s (Bool.not_eq_true _ ▸ h)]

/-- left-to-right positional value with digit function `f` and base `b` -/
def digitsVal (f : Char → Option Nat) (b : Nat) (a : Nat) (cs : List Char) : Option Nat :=
  cs.foldlM (fun acc c => (f c).map (acc * b + ·)) a

theorem digitsVal_nil (f b a) : digitsVal f b a [] = some a := rfl
theorem digitsVal_cons (f b a c cs) :
    digitsVal f b a (c :: cs) = (f c).bind (fun d => digitsVal f b (a * b + d) cs) := by
  simp only [digitsVal, List.foldlM_cons]
  cases f c <;> rfl

theorem decDigits_eq (cs : List Char) (h : cs ≠ []) : decDigits cs = digitsVal digitVal 10 0 cs := by
  cases cs with
  | nil => exact absurd rfl h
  | cons c cs => rfl
theorem hexDigits_eq (cs : List Char) (h : cs ≠ []) : hexDigits cs = digitsVal hexVal 16 0 cs := by
  cases cs with
  | nil => exact absurd rfl h
  | cons c cs => rfl

/-- **what `natToDigits` prints**: the images under `digit` of a non-empty list of numbers below the base whose
    positional value is `n` -/
theorem natToDigits_spec (b : Nat) (digit : Nat → Char) (hb : 2 ≤ b) (n : Nat) :
    ∃ ds : List Nat, ds ≠ [] ∧ (∀ d ∈ ds, d < b) ∧ ds.foldl (· * b + ·) 0 = n ∧ natToDigits b digit n = ds.map digit := by
  have go : ∀ fuel n, n < fuel → ∃ ds : List Nat, ds ≠ [] ∧ (∀ d ∈ ds, d < b) ∧ ds.foldl (· * b + ·) 0 = n ∧
      ∀ acc, natToDigits.go b digit fuel n acc = ds.map digit ++ acc := by
    intro fuel
    induction fuel with
    | zero => intro n h; omega
    | succ fuel ih =>
      intro n h
      by_cases hlt : n < b
      · exact ⟨[n], List.cons_ne_nil _ _, List.forall_mem_singleton.2 hlt, by simp only [List.foldl, Nat.zero_mul, Nat.zero_add],
          fun acc => by rw [natToDigits.go, if_pos hlt]; rfl⟩
      · obtain ⟨ds, _, hds, hv, hgo⟩ := ih (n / b) (by have := Nat.div_lt_self (n := n) (k := b) (by omega) (by omega); omega)
        refine ⟨ds ++ [n % b], List.append_ne_nil_of_right_ne_nil _ (List.cons_ne_nil _ _), ?_, ?_, fun acc => ?_⟩
        · exact List.forall_mem_append.2 ⟨hds, List.forall_mem_singleton.2 (Nat.mod_lt _ (by omega))⟩
        · rw [List.foldl_append, hv]; exact Nat.div_add_mod' n b
        · rw [natToDigits.go, if_neg hlt, hgo, List.map_append, List.append_assoc]; rfl
  obtain ⟨ds, h1, h2, h3, h4⟩ := go (n + 1) n (Nat.lt_succ_self n)
  refine ⟨ds, h1, h2, h3, ?_⟩
  rw [natToDigits, if_neg (by omega), h4, List.append_nil]

theorem natToDigits_ne_nil (b : Nat) (digit : Nat → Char) (hb : 2 ≤ b) (n : Nat) : natToDigits b digit n ≠ [] := by
  obtain ⟨ds, hne, _, _, h⟩ := natToDigits_spec b digit hb n
  rw [h]
  exact mt List.map_eq_nil_iff.1 hne

theorem digitsVal_natToDigits (f : Char → Option Nat) (b : Nat) (digit : Nat → Char) (hb : 2 ≤ b)
    (hd : ∀ d, d < b → f (digit d) = some d) (n : Nat) :
    digitsVal f b 0 (natToDigits b digit n) = some n := by
  obtain ⟨ds, -, hds, rfl, h⟩ := natToDigits_spec b digit hb n
  rw [h]
  clear h
  generalize 0 = a
  induction ds generalizing a with
  | nil => rfl
  | cons d ds ih =>
    rw [List.map_cons, digitsVal_cons, hd d (hds d List.mem_cons_self), Option.bind_some,
      ih (fun x hx => hds x (List.mem_cons_of_mem _ hx))]
    rfl

theorem decDigits_natToDigits (n : Nat) : decDigits (natToDigits 10 (fun d => Char.ofNat (48 + d)) n) = some n := by
  rw [decDigits_eq _ (natToDigits_ne_nil _ _ (by omega) _)]
  exact digitsVal_natToDigits _ _ _ (by omega) (by decide) n
theorem hexDigits_natToDigits (n : Nat) : hexDigits (natToDigits 16 hexDigitUpper n) = some n := by
  rw [hexDigits_eq _ (natToDigits_ne_nil _ _ (by omega) _)]
  exact digitsVal_natToDigits _ _ _ (by omega) (by decide) n

theorem decDigits_nil : decDigits [] = none := rfl
theorem hexDigits_nil : hexDigits [] = none := rfl

/-- the classification used by `get_integer`: `0x`/`0X` followed by something -/
def IsHexLit (cs : List Char) : Prop :=
  match cs with
  | '0' :: x :: r => (x = 'x' ∨ x = 'X') ∧ r ≠ []
  | _ => False

/-- the `body` of `u64FromHex` -/
def hexBody (rest : List Char) : List Char := match rest with | '+' :: r => r | r => r

/-- the reader's value of a decimal literal -/
def decLit (cs : List Char) : Option Int :=
  match cs with
  | '-' :: r => (decDigits r).map (fun n => -(n : Int))
  | '+' :: r => (decDigits r).map Int.ofNat
  | r => (decDigits r).map Int.ofNat

theorem u64FromHex_eq (rest : List Char) :
    u64FromHex rest = match hexDigits (hexBody rest) with
      | some n => if n < 2 ^ 64 then some n else none
      | none => none := rfl

theorem parseInt_hex (t : IntTy) (x : Char) (rest : List Char) (hx : x = 'x' ∨ x = 'X') (hr : rest ≠ []) :
    parseInt t ('0' :: x :: rest) =
      match u64FromHex rest with
      | some n => if t.bits ≥ 64 ∨ n / 2 ^ t.bits = 0 then some (wrapTo t n, true) else none
      | none => none := by
  unfold parseInt
  exact if_pos ⟨hx, hr⟩

theorem literalValue_hex (x : Char) (rest : List Char) (hx : x = 'x' ∨ x = 'X') (hr : rest ≠ []) :
    literalValue ('0' :: x :: rest) = (hexDigits (hexBody rest)).map Int.ofNat := by
  unfold literalValue
  exact if_pos ⟨hx, hr⟩

theorem isHexLit_iff (cs : List Char) :
    IsHexLit cs ↔ ∃ x rest, cs = '0' :: x :: rest ∧ (x = 'x' ∨ x = 'X') ∧ rest ≠ [] := by
  constructor
  · intro h
    unfold IsHexLit at h
    split at h
    · exact ⟨_, _, rfl, h⟩
    · exact h.elim
  · rintro ⟨x, rest, rfl, h⟩
    exact h

theorem parseInt_nonhex (t : IntTy) (cs : List Char) (h : ¬ IsHexLit cs) :
    parseInt t cs = (parseDec t cs).map (·, false) := by
  unfold parseInt
  split
  · rename_i x rest
    have h' : ¬((x = 'x' ∨ x = 'X') ∧ rest ≠ []) := h
    rw [if_neg h']
  · rfl

theorem literalValue_nonhex (cs : List Char) (h : ¬ IsHexLit cs) : literalValue cs = decLit cs := by
  unfold literalValue
  split
  · rename_i x rest
    have h' : ¬((x = 'x' ∨ x = 'X') ∧ rest ≠ []) := h
    rw [if_neg h']; rfl
  · rfl
  · rfl
  · rename_i h1 h2 h3
    unfold decLit
    split
    · exact absurd rfl (h2 _)
    · exact absurd rfl (h3 _)
    · rfl

theorem IntTy.min_nonpos (t : IntTy) : t.min ≤ 0 := by cases t <;> decide
theorem IntTy.max_nonneg (t : IntTy) : 0 ≤ t.max := by cases t <;> decide
theorem IntTy.max_lt_pow (t : IntTy) : t.max < ((2 ^ t.bits : Nat) : Int) := by cases t <;> decide
theorem IntTy.bits_le (t : IntTy) : t.bits ≤ 64 := by cases t <;> decide
theorem IntTy.min_eq_zero_of_unsigned (t : IntTy) (h : t.signed = false) : t.min = 0 := by
  cases t <;> first | rfl | cases h

/-- the branches of `str::parse::<T>` without a minus sign -/
theorem parseDec_nonneg {t : IntTy} {r : List Char} {v : Int}
    (h : (match decDigits r with
          | some n => if (n : Int) ≤ t.max then some (n : Int) else none
          | none => none) = some v) :
    (decDigits r).map Int.ofNat = some v ∧ t.inRange v := by
  have hmin := t.min_nonpos
  generalize decDigits r = o at h ⊢
  cases o with
  | none => cases h
  | some n =>
    simp only at h
    split at h
    · cases h; exact ⟨rfl, by unfold IntTy.inRange; omega⟩
    · cases h

theorem parseDec_some {t : IntTy} {cs : List Char} {v : Int} (h : parseDec t cs = some v) :
    decLit cs = some v ∧ t.inRange v := by
  unfold parseDec at h
  split at h
  · rename_i r
    have hmax := t.max_nonneg
    split at h
    · cases hd : decDigits r with
      | none => rw [hd] at h; cases h
      | some n =>
        rw [hd] at h
        simp only at h
        split at h
        · cases h; exact ⟨by simp only [decLit, hd]; rfl, by unfold IntTy.inRange; omega⟩
        · cases h
    · cases h
  · exact parseDec_nonneg h
  · rename_i h1 h2
    have := parseDec_nonneg h
    unfold decLit
    split
    · exact absurd rfl (h1 _)
    · exact absurd rfl (h2 _)
    · exact this

/-- The only fact about the width that the range arguments below need; with `H = 2 ^ (bits - 1)` the range of the
    type is `[-H, H)` or `[0, 2 * H)` and everything is linear in `H`. -/
theorem IntTy.pow_bits (t : IntTy) : 2 ^ t.bits = 2 * 2 ^ (t.bits - 1) := by
  rw [← Nat.pow_succ', Nat.succ_eq_add_one, Nat.sub_add_cancel (by cases t <;> decide)]

theorem wrapTo_of_lt (t : IntTy) (n : Nat) (h : n < 2 ^ t.bits) :
    wrapTo t n = if t.signed = true ∧ n ≥ 2 ^ (t.bits - 1) then (n : Int) - (2 ^ t.bits : Nat) else n := by
  simp only [wrapTo, Nat.mod_eq_of_lt h]

theorem wrapTo_spec (t : IntTy) (n : Nat) (h : n < 2 ^ t.bits) :
    t.inRange (wrapTo t n) ∧ (t.signed = false → wrapTo t n = n) := by
  rw [wrapTo_of_lt t n h]
  unfold IntTy.inRange IntTy.min IntTy.max
  rw [t.pow_bits] at *
  generalize 2 ^ (t.bits - 1) = H at *
  cases t.signed
  · simp only [Bool.false_eq_true, false_and, if_false]
    exact ⟨by omega, fun _ => trivial⟩
  · simp only [true_and, if_true]
    refine ⟨?_, nofun⟩
    split <;> omega

/-- the two's complement image printed by `{:X}` reads back -/
theorem wrapTo_print (t : IntTy) (v : Int) (n : Nat) (h : t.inRange v)
    (hn : (n : Int) = if v < 0 then v + (2 ^ t.bits : Nat) else v) :
    n < 2 ^ t.bits ∧ wrapTo t n = v := by
  unfold IntTy.inRange IntTy.min IntTy.max at h
  have hpos : 0 < 2 ^ (t.bits - 1) := Nat.pow_pos (by decide)
  have hw := wrapTo_of_lt t n
  rw [t.pow_bits] at *
  generalize 2 ^ (t.bits - 1) = H at *
  generalize t.signed = sg at *
  have hlt : n < 2 * H := by
    cases sg <;> simp only [Bool.false_eq_true, if_true, if_false] at h <;> split at hn <;> omega
  refine ⟨hlt, ?_⟩
  rw [hw hlt]
  cases sg
  · simp only [Bool.false_eq_true, false_and, if_false] at h ⊢
    split at hn <;> omega
  · simp only [true_and, if_true] at h ⊢
    split at hn <;> split <;> omega

theorem printInt_hex_n (t : IntTy) (v : Int) (h : t.inRange v) :
    ∃ n : Nat, printInt t v true = '0' :: 'x' :: natToDigits 16 hexDigitUpper n ∧
      n < 2 ^ t.bits ∧ wrapTo t n = v := by
  refine ⟨if v < 0 then (v + (2 ^ t.bits : Nat)).toNat else v.toNat, rfl, ?_⟩
  apply wrapTo_print t v _ h
  have hmin : -((2 ^ t.bits : Nat) : Int) ≤ t.min := by
    unfold IntTy.min
    rw [t.pow_bits]
    split <;> omega
  have := h.1
  split <;> omega

theorem hexFits_iff (t : IntTy) (n : Nat) :
    (n < 2 ^ 64 ∧ (t.bits ≥ 64 ∨ n / 2 ^ t.bits = 0)) ↔ n < 2 ^ t.bits := by
  constructor
  · rintro ⟨h64, hc | hc⟩
    · rwa [Nat.le_antisymm t.bits_le hc]
    · exact Nat.lt_of_div_eq_zero (Nat.pow_pos (by omega)) hc
  · intro hn
    exact ⟨Nat.lt_of_lt_of_le hn (Nat.pow_le_pow_right (by omega) t.bits_le), Or.inr (Nat.div_eq_of_lt hn)⟩

/-- `get_integer` on a hex literal: accepted iff the magnitude fits the width -/
theorem parseInt_hex_spec (t : IntTy) (x : Char) (rest : List Char) (hx : x = 'x' ∨ x = 'X') (hr : rest ≠ []) :
    parseInt t ('0' :: x :: rest) =
      match hexDigits (hexBody rest) with
      | some n => if n < 2 ^ t.bits then some (wrapTo t n, true) else none
      | none => none := by
  rw [parseInt_hex t x rest hx hr, u64FromHex_eq]
  cases hexDigits (hexBody rest) with
  | none => rfl
  | some n =>
    -- the two tests together say that the magnitude fits the width
    dsimp only
    by_cases h64 : n < 2 ^ 64
    · rw [if_pos h64]
      simp only [(and_iff_right h64).symm.trans (hexFits_iff t n)]
    · rw [if_neg h64, if_neg fun hn => h64 ((hexFits_iff t n).2 hn).1]

/-- **what `get_integer` accepts**: a hex literal whose magnitude fits the width, stored wrapped, or a literal that is
    not hex whose value is in range -/
theorem parseInt_some {t : IntTy} {cs : List Char} {v : Int} {hex : Bool} (h : parseInt t cs = some (v, hex)) :
    (IsHexLit cs ∧ hex = true ∧ ∃ n : Nat, literalValue cs = some (n : Int) ∧ n < 2 ^ t.bits ∧ v = wrapTo t n) ∨
    (¬ IsHexLit cs ∧ hex = false ∧ literalValue cs = some v ∧ t.inRange v) := by
  by_cases hh : IsHexLit cs
  · obtain ⟨x, rest, rfl, hx, hr⟩ := (isHexLit_iff cs).1 hh
    rw [parseInt_hex_spec t x rest hx hr] at h
    rw [literalValue_hex x rest hx hr]
    cases hd : hexDigits (hexBody rest) with
    | none => rw [hd] at h; cases h
    | some n =>
      rw [hd] at h
      dsimp only at h
      split at h
      · next hn => cases h; exact .inl ⟨hh, rfl, n, rfl, hn, rfl⟩
      · cases h
  · rw [parseInt_nonhex t cs hh] at h
    rw [literalValue_nonhex cs hh]
    cases hd : parseDec t cs with
    | none => rw [hd] at h; cases h
    | some w => rw [hd] at h; cases h; exact .inr ⟨hh, rfl, parseDec_some hd⟩

theorem hexBody_eq_self_of_hexDigits {cs : List Char} {n : Nat} (h : hexDigits cs = some n) : hexBody cs = cs := by
  unfold hexBody
  split
  · rename_i r
    rw [hexDigits_eq _ (by simp), digitsVal_cons] at h
    have : hexVal '+' = none := by decide
    rw [this] at h; cases h
  · rfl

theorem parseInt_of_decDigits (t : IntTy) {cs : List Char} {n : Nat} (h : decDigits cs = some n) :
    parseInt t cs = if (n : Int) ≤ t.max then some ((n : Int), false) else none := by
  cases cs with
  | nil => cases h
  | cons c cs =>
    have hc := h
    rw [decDigits_eq _ (List.cons_ne_nil _ _), digitsVal_cons] at hc
    cases hd : digitVal c with
    | none => rw [hd] at hc; cases hc
    | some d =>
      rw [hd, Option.bind_some] at hc
      -- neither a sign nor the `x` of a hex literal is a digit
      have hnh : ¬ IsHexLit (c :: cs) := by
        rw [isHexLit_iff]
        rintro ⟨x, rest, heq, hx, _⟩
        cases heq
        rw [digitsVal_cons] at hc
        rcases hx with rfl | rfl
        · cases hc
        · cases hc
      rw [parseInt_nonhex t _ hnh]
      unfold parseDec
      split
      · rename_i heq; cases heq; cases hd
      · rename_i heq; cases heq; cases hd
      · simp only [h]
        split <;> rfl

theorem parseInt_neg (t : IntTy) {r : List Char} {n : Nat} (h : decDigits r = some n) (hs : t.signed = true)
    (hmin : t.min ≤ -(n : Int)) : parseInt t ('-' :: r) = some (-(n : Int), false) := by
  have hnh : ¬ IsHexLit ('-' :: r) := by
    rw [isHexLit_iff]
    rintro ⟨x, rest, heq, _⟩
    cases heq
  rw [parseInt_nonhex t _ hnh]
  simp only [parseDec, hs, if_true, h, if_pos hmin]
  rfl

end A2l.Sc
