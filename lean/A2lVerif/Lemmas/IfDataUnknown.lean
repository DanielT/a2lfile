import A2lVerif.Lemmas.IfData
import A2lVerif.Lemmas.IfDataVals
/-!
# IF_DATA: the fallback for content that no definition describes

`balanced` is an independent reading of "matching /begin and /end": a scanner with an explicit stack of open tags.
The recursive-descent fallback (`parse_unknown_ifdata_start`, `parse_unknown_ifdata`, `parse_unknown_taggedstruct`)
accepts exactly the balanced content in which no more than `MAX_NESTING_DEPTH` blocks are open at the same time (given
that every Number token is a number and, in strict mode, every identifier is a valid identifier), and it keeps every
value. `scanV` is the same scanner with the limit built in: its three verdicts (`accept`, `reject`, `tooDeep`) are
exactly the three ways in which the fallback can end (a result, an error other than `NestingTooDeep`, `NestingTooDeep`);
whichever problem comes first in the token stream decides, in the scanner as in the parser.

At the end: the statements about the interpreter and the fallback on the environment in which the hand-written parsers
run (`specialEnv`: `cfgS`, `good_safe`, `good_total`).
-/
namespace A2l.IfData
open A2l.Tree A2l.Aml A2l.G A2l.Sc

section

variable {e : Env} {f32 : List Char → Option (List Char)}

inductive Mode where
  | normal      -- between items
  | beginTag    -- behind `/begin`: comments, then the tag
  | endTag      -- behind `/end` of an inner block: comments, then the tag that was opened last
  deriving DecidableEq

/-- the scanner: `st` is the stack of the tags of the open blocks; the content is accepted when the `/end` that closes
    the enclosing IF_DATA block is reached -/
def scan : Mode → List (List Char) → List PTok → Bool
  | _, _, [] => false
  | .normal, st, t :: rest =>
    if t.ty = 1 then scan .beginTag st rest
    else if t.ty = 2 then
      match st with
      | [] => true
      | _ :: _ => scan .endTag st rest
    else scan .normal st rest
  | .beginTag, st, t :: rest =>
    if t.ty = 6 then scan .beginTag st rest
    else if t.ty = 0 then scan .normal (t.text :: st) rest
    else false
  | .endTag, st, t :: rest =>
    if t.ty = 6 then scan .endTag st rest
    else if t.ty = 0 then
      match st with
      | tag :: st' => if t.text = tag then scan .normal st' rest else false
      | [] => false
    else false

/-- the tokens from position `p` on are a sequence of items (identifiers, strings, numbers, comments, and blocks
    `/begin TAG items /end TAG`) followed by a `/end` -/
def balanced (toks : Array PTok) (p : Nat) : Bool := scan .normal [] (toks.toList.drop p)

inductive Verdict where
  | accept | reject | tooDeep
  deriving DecidableEq, Repr

/-- `scan` with a limit: the tag behind a `/begin` that would open block number `lim + 1` ends the scan with `tooDeep` -/
def scanV (lim : Nat) : Mode → List (List Char) → List PTok → Verdict
  | _, _, [] => .reject
  | .normal, st, t :: rest =>
    if t.ty = 1 then scanV lim .beginTag st rest
    else if t.ty = 2 then
      match st with
      | [] => .accept
      | _ :: _ => scanV lim .endTag st rest
    else scanV lim .normal st rest
  | .beginTag, st, t :: rest =>
    if t.ty = 6 then scanV lim .beginTag st rest
    else if t.ty = 0 then
      if lim ≤ st.length then .tooDeep else scanV lim .normal (t.text :: st) rest
    else .reject
  | .endTag, st, t :: rest =>
    if t.ty = 6 then scanV lim .endTag st rest
    else if t.ty = 0 then
      match st with
      | tag :: st' => if t.text = tag then scanV lim .normal st' rest else .reject
      | [] => .reject
    else .reject

/-- an independent reading of "not nested too deep": a counter of the open blocks that looks at the `/begin` and
    `/end` tokens only (no tags, no stack). `cur` blocks are open in front of the list; the walk ends at the `/end` that
    closes the content. No `/begin` is met while `lim` blocks are open. -/
def depthOk (lim : Nat) : Nat → List PTok → Bool
  | _, [] => true
  | cur, t :: rest =>
    if t.ty = 1 then decide (cur < lim) && depthOk lim (cur + 1) rest
    else if t.ty = 2 then
      match cur with
      | 0 => true
      | c + 1 => depthOk lim c rest
    else depthOk lim cur rest

/-- in the content that starts at position `p`, at most `MAX_NESTING_DEPTH` blocks are open at the same time -/
def nestingOk (toks : Array PTok) (p : Nat) : Bool := depthOk maxNestingDepth 0 (toks.toList.drop p)

def verdictOf (k : DK) : Verdict := if k = .nestingTooDeep then .tooDeep else .reject

/-- `get_integer::<i32>`, `::<i64>`, `::<u64>` or `get_double` reads the token -/
def NumOk (t : PTok) : Prop :=
  (parseInt (intTyOf 2) t.text).isSome ∨ (parseInt (intTyOf 3) t.text).isSome ∨ (parseInt (intTyOf 7) t.text).isSome ∨
  t.fl.isSome

instance (t : PTok) : Decidable (NumOk t) := by unfold NumOk; infer_instance

/-- `get_identifier` does not complain -/
def IdentOk (t : PTok) : Prop :=
  match t.text with
  | [] => True
  | c :: _ => ¬ (isAsciiDigit c || utf8Len t.text > 1024) = true

/-- the token kinds are the seven kinds of `A2lTokenType`; every Number token is a number; in strict mode every
    identifier is a valid identifier -/
def AtomsOk (e : Env) : Prop :=
  ∀ (i : Nat) (t : PTok), e.toks[i]? = some t →
    t.ty ≤ 6 ∧ (t.ty = 5 → NumOk t) ∧ (t.ty = 0 → e.strict = true → IdentOk t)

/-- the tokens consumed between `s` and `s'` do not change the state of the scanner when `n` blocks are open -/
def Neutral (e : Env) (n : Nat) (s s' : PState) : Prop :=
  ∀ st : List (List Char), st.length = n →
    scanV maxNestingDepth .normal st (e.toks.toList.drop s.pos) = scanV maxNestingDepth .normal st (e.toks.toList.drop s'.pos)

/-- with `n` blocks open, the scanner's verdict on the tokens from `s` on is `v`, whatever the open tags are -/
def Bad (e : Env) (n : Nat) (v : Verdict) (s : PState) : Prop :=
  ∀ st : List (List Char), st.length = n → scanV maxNestingDepth .normal st (e.toks.toList.drop s.pos) = v

theorem scan_nil (m : Mode) (st : List (List Char)) : scan m st [] = false := by cases m <;> rfl
theorem scan_normal (st : List (List Char)) (t : PTok) (rest : List PTok) :
    scan .normal st (t :: rest) =
      if t.ty = 1 then scan .beginTag st rest
      else if t.ty = 2 then (match st with | [] => true | _ :: _ => scan .endTag st rest)
      else scan .normal st rest := rfl
theorem scan_beginTag (st : List (List Char)) (t : PTok) (rest : List PTok) :
    scan .beginTag st (t :: rest) =
      if t.ty = 6 then scan .beginTag st rest
      else if t.ty = 0 then scan .normal (t.text :: st) rest
      else false := rfl
theorem scan_endTag (st : List (List Char)) (t : PTok) (rest : List PTok) :
    scan .endTag st (t :: rest) =
      if t.ty = 6 then scan .endTag st rest
      else if t.ty = 0 then (match st with | tag :: st' => if t.text = tag then scan .normal st' rest else false | [] => false)
      else false := rfl

theorem scanV_nil (lim : Nat) (m : Mode) (st : List (List Char)) : scanV lim m st [] = .reject := by cases m <;> rfl
theorem scanV_normal (lim : Nat) (st : List (List Char)) (t : PTok) (rest : List PTok) :
    scanV lim .normal st (t :: rest) =
      if t.ty = 1 then scanV lim .beginTag st rest
      else if t.ty = 2 then (match st with | [] => .accept | _ :: _ => scanV lim .endTag st rest)
      else scanV lim .normal st rest := rfl
theorem scanV_beginTag (lim : Nat) (st : List (List Char)) (t : PTok) (rest : List PTok) :
    scanV lim .beginTag st (t :: rest) =
      if t.ty = 6 then scanV lim .beginTag st rest
      else if t.ty = 0 then (if lim ≤ st.length then .tooDeep else scanV lim .normal (t.text :: st) rest)
      else .reject := rfl
theorem scanV_endTag (lim : Nat) (st : List (List Char)) (t : PTok) (rest : List PTok) :
    scanV lim .endTag st (t :: rest) =
      if t.ty = 6 then scanV lim .endTag st rest
      else if t.ty = 0 then
        (match st with | tag :: st' => if t.text = tag then scanV lim .normal st' rest else .reject | [] => .reject)
      else .reject := rfl

theorem depthOk_cons (lim cur : Nat) (t : PTok) (rest : List PTok) :
    depthOk lim cur (t :: rest) =
      if t.ty = 1 then decide (cur < lim) && depthOk lim (cur + 1) rest
      else if t.ty = 2 then (match cur with | 0 => true | c + 1 => depthOk lim c rest)
      else depthOk lim cur rest := rfl

theorem depthOk_skip (lim cur : Nat) {t : PTok} (rest : List PTok) {k : Nat} (h : t.ty = k) (h1 : k ≠ 1) (h2 : k ≠ 2) :
    depthOk lim cur (t :: rest) = depthOk lim cur rest := by
  rw [depthOk_cons, h, if_neg h1, if_neg h2]

theorem Neutral.refl {n : Nat} (s : PState) : Neutral e n s s := fun _ _ => rfl
theorem Neutral.trans {n : Nat} {s s1 s2 : PState} (h1 : Neutral e n s s1) (h2 : Neutral e n s1 s2) : Neutral e n s s2 :=
  fun st hst => (h1 st hst).trans (h2 st hst)
theorem Neutral.samePos {n : Nat} {s s1 s2 : PState} (h : Neutral e n s s1) (hp : s2.pos = s1.pos) : Neutral e n s s2 := by
  unfold Neutral at *; rw [hp]; exact h
theorem Neutral.fromPos {n : Nat} {s s0 s2 : PState} (h : Neutral e n s s2) (hp : s0.pos = s.pos) : Neutral e n s0 s2 := by
  unfold Neutral at *; rw [hp]; exact h
theorem Bad.of_neutral {n : Nat} {v : Verdict} {s s1 : PState} (h : Neutral e n s s1) (hb : Bad e n v s1) : Bad e n v s :=
  fun st hst => (h st hst).trans (hb st hst)

theorem neutral_atom {n : Nat} {s : PState} {t : PTok} (ht : e.toks[s.pos]? = some t) (h1 : t.ty ≠ 1) (h2 : t.ty ≠ 2) :
    Neutral e n s (s.step t) := by
  intro st _
  show scanV _ .normal st (e.toks.toList.drop s.pos) = scanV _ .normal st (e.toks.toList.drop (s.pos + 1))
  rw [drop_eq_cons ht, scanV_normal, if_neg h1, if_neg h2]

theorem scanV_comment (lim : Nat) (m : Mode) (st : List (List Char)) {t : PTok} (rest : List PTok) (h6 : t.ty = 6) :
    scanV lim m st (t :: rest) = scanV lim m st rest := by
  cases m with
  | normal => rw [scanV_normal, h6, if_neg (by decide), if_neg (by decide)]
  | beginTag => rw [scanV_beginTag, if_pos h6]
  | endTag => rw [scanV_endTag, if_pos h6]

/-- the scanner with the limit against the scanner without it and the counter: what it accepts is balanced; on
    balanced content the verdict is `accept` or `tooDeep`, and the counter says which (`st.length` blocks are open; behind
    a `/begin` the block that is being opened counts, behind a `/end` the block that is being closed does not) -/
theorem scanV_scan (lim : Nat) : ∀ (l : List PTok) (m : Mode) (st : List (List Char)),
    (scanV lim m st l = .accept → scan m st l = true) ∧
    (scan m st l = true → scanV lim m st l =
      match m with
      | .normal => if depthOk lim st.length l = true then .accept else .tooDeep
      | .beginTag => if (decide (st.length < lim) && depthOk lim (st.length + 1) l) = true then .accept else .tooDeep
      | .endTag => if depthOk lim (st.length - 1) l = true then .accept else .tooDeep)
  | [], m, st => by
    rw [scanV_nil, scan_nil]
    exact ⟨nofun, nofun⟩
  | t :: rest, .normal, st => by
    rw [scanV_normal, scan_normal]
    dsimp only
    rw [depthOk_cons]
    by_cases h1 : t.ty = 1
    · rw [if_pos h1, if_pos h1, if_pos h1]
      exact scanV_scan lim rest .beginTag st
    rw [if_neg h1, if_neg h1, if_neg h1]
    by_cases h2 : t.ty = 2
    · rw [if_pos h2, if_pos h2, if_pos h2]
      cases st with
      | nil => exact ⟨fun _ => rfl, fun _ => rfl⟩
      | cons tag st' => exact scanV_scan lim rest .endTag (tag :: st')
    · rw [if_neg h2, if_neg h2, if_neg h2]
      exact scanV_scan lim rest .normal st
  | t :: rest, .beginTag, st => by
    rw [scanV_beginTag, scan_beginTag]
    dsimp only
    by_cases h6 : t.ty = 6
    · rw [if_pos h6, if_pos h6, depthOk_skip lim _ rest h6 (by decide) (by decide)]
      exact scanV_scan lim rest .beginTag st
    rw [if_neg h6, if_neg h6]
    by_cases h0 : t.ty = 0
    · rw [if_pos h0, if_pos h0, depthOk_skip lim _ rest h0 (by decide) (by decide)]
      by_cases hl : lim ≤ st.length
      · rw [if_pos hl, decide_eq_false (Nat.not_lt.2 hl)]
        exact ⟨nofun, fun _ => rfl⟩
      · rw [if_neg hl, decide_eq_true (Nat.lt_of_not_le hl)]
        exact scanV_scan lim rest .normal (t.text :: st)
    · rw [if_neg h0, if_neg h0]
      exact ⟨nofun, nofun⟩
  | t :: rest, .endTag, st => by
    rw [scanV_endTag, scan_endTag]
    dsimp only
    by_cases h6 : t.ty = 6
    · rw [if_pos h6, if_pos h6, depthOk_skip lim _ rest h6 (by decide) (by decide)]
      exact scanV_scan lim rest .endTag st
    rw [if_neg h6, if_neg h6]
    by_cases h0 : t.ty = 0
    · rw [if_pos h0, if_pos h0, depthOk_skip lim _ rest h0 (by decide) (by decide)]
      cases st with
      | nil => exact ⟨nofun, nofun⟩
      | cons tag st' =>
        dsimp only
        by_cases htag : t.text = tag
        · rw [if_pos htag, if_pos htag]
          exact scanV_scan lim rest .normal st'
        · rw [if_neg htag, if_neg htag]
          exact ⟨nofun, nofun⟩
    · rw [if_neg h0, if_neg h0]
      exact ⟨nofun, nofun⟩

theorem scanV_accept_iff (lim : Nat) (st : List (List Char)) (l : List PTok) :
    scanV lim .normal st l = .accept ↔ scan .normal st l = true ∧ depthOk lim st.length l = true := by
  constructor
  · intro h
    have hs := (scanV_scan lim l _ _).1 h
    refine ⟨hs, ?_⟩
    rw [(scanV_scan lim l _ _).2 hs] at h
    dsimp only at h
    split at h
    · assumption
    · cases h
  · rintro ⟨hs, hd⟩
    rw [(scanV_scan lim l _ _).2 hs]
    dsimp only
    rw [if_pos hd]

theorem scanV_tooDeep_of (lim : Nat) (st : List (List Char)) (l : List PTok) (hs : scan .normal st l = true)
    (hd : depthOk lim st.length l = false) : scanV lim .normal st l = .tooDeep := by
  rw [(scanV_scan lim l _ _).2 hs]
  dsimp only
  rw [if_neg (by rw [hd]; exact Bool.false_ne_true)]

theorem scanV_ne_accept_of (lim : Nat) (st : List (List Char)) (l : List PTok) (hs : scan .normal st l = false) :
    scanV lim .normal st l ≠ .accept := by
  intro h
  rw [(scanV_scan lim l _ _).1 h] at hs
  cases hs

theorem scanV_comments (lim : Nat) (m : Mode) (st : List (List Char)) (l : List PTok) :
    ∀ {cs : List PTok}, (∀ x ∈ cs, x.ty = 6) → scanV lim m st (cs ++ l) = scanV lim m st l
  | [], _ => rfl
  | c :: cs, h => by
    rw [List.cons_append, scanV_comment lim m st _ (h c List.mem_cons_self)]
    exact scanV_comments lim m st l fun x hx => h x (List.mem_cons_of_mem _ hx)

/-- the scanner does not see the comments that `expect_token` skipped -/
theorem _root_.A2l.Tree.OneTok.scanV {s s' : PState} {t : PTok} (h : OneTok e s t s') (lim : Nat) (m : Mode)
    (st : List (List Char)) :
    scanV lim m st (e.toks.toList.drop s.pos) = scanV lim m st (t :: e.toks.toList.drop s'.pos) := by
  obtain ⟨cs, h1, h2⟩ := h.tail
  exact (congrArg _ h1).trans (scanV_comments lim m st _ h2)

theorem _root_.A2l.Tree.SkipTo.scanV {s s2 : PState} (h : SkipTo e s s2) (lim : Nat) (m : Mode) (st : List (List Char)) :
    scanV lim m st (e.toks.toList.drop s.pos) = scanV lim m st (e.toks.toList.drop s2.pos) := by
  induction h with
  | stop _ => rfl
  | cmt ht h6 _ ih => rw [drop_eq_cons ht, scanV_comment lim m st _ h6]; exact ih

/-- where `expect_token(Identifier)` fails (the input ends, or another token follows the comments), the scanner behind
    `/begin` or `/end` rejects -/
theorem expectToken_reject {ctx : Ctx} {s : PState} {d : Diag} {s' : PState} (h : expectToken ctx 0 e s = .err d s') :
    d.kind ≠ .nestingTooDeep ∧ ∀ lim m st, m ≠ .normal → scanV lim m st (e.toks.toList.drop s.pos) = .reject := by
  obtain ⟨s2, hk, hr⟩ := expectToken_run (e := e) ctx 0 s
  rw [h] at hr
  cases ht : e.toks[s2.pos]? with
  | none =>
    rw [ht] at hr; cases hr
    exact ⟨nofun, fun lim m st _ => by rw [hk.scanV, drop_eq_nil ht, scanV_nil]⟩
  | some t =>
    rw [ht] at hr
    dsimp only at hr
    split at hr
    · rename_i h0
      cases hr
      refine ⟨nofun, fun lim m st hm => ?_⟩
      rw [hk.scanV, drop_eq_cons ht]
      cases m with
      | normal => exact absurd rfl hm
      | beginTag => rw [scanV_beginTag, if_neg (hk.nc t ht), if_neg h0]
      | endTag => rw [scanV_endTag, if_neg (hk.nc t ht), if_neg h0]
    · cases hr

theorem spec_bind {α β} {P : PRes β → Prop} {m : PM α} {f : α → PM β} {s : PState}
    (hpanic : P .panic) (hfuel : P .fuel) (herr : ∀ d s1, m e s = .err d s1 → P (.err d s1))
    (hok : ∀ a s1, m e s = .ok a s1 → P (f a e s1)) : P ((m >>= f) e s) := by
  rw [bind_def]
  cases h : m e s with
  | ok a s1 => exact hok a s1 h
  | err d s1 => exact herr d s1 h
  | panic => exact hpanic
  | fuel => exact hfuel

theorem spec_lineOffset {β} {P : PRes β → Prop} {f : Nat → PM β} {s : PState}
    (hpanic : P .panic) (h : ∀ n, P (f n e s)) : P ((getLineOffset >>= f) e s) := by
  rw [bind_def]
  rcases getLineOffset_cases e s with h1 | ⟨n, h1⟩
  · rw [h1]; exact hpanic
  · rw [h1]; exact h n

theorem getIdentifier_at (ctx : Ctx) {s : PState} {t : PTok} (ht : e.toks[s.pos]? = some t) (h0 : t.ty = 0) :
    getIdentifier ctx e s = .panic ∨ (∃ s1, getIdentifier ctx e s = .ok t.text s1 ∧ s1.pos = s.pos + 1) ∨
    (∃ d s1, getIdentifier ctx e s = .err d s1 ∧ e.strict = true ∧ ¬ IdentOk t) := by
  unfold getIdentifier IdentOk
  rw [bind_def, expectToken_eval ctx 0 s t ht (by omega), if_neg (by simp [h0])]
  dsimp only
  cases htext : t.text with
  | nil => exact .inl rfl
  | cons c tl =>
    dsimp only
    split
    · rename_i hbad
      rw [bind_def]
      unfold errorOrLog
      simp only [getEnv_bind]
      by_cases hst : e.strict = true
      · rw [if_pos hst]
        exact .inr (.inr ⟨_, _, rfl, hst, fun h => h hbad⟩)
      · rw [if_neg hst]
        exact .inr (.inl ⟨_, rfl, rfl⟩)
    · exact .inr (.inl ⟨_, rfl, rfl⟩)

theorem getString_at (ctx : Ctx) {s : PState} {t : PTok} (ht : e.toks[s.pos]? = some t) (h4 : t.ty = 4) :
    ∃ r, getString ctx e s = .ok r (s.step t) := by
  unfold getString
  simp only [peekToken_bind]
  rw [ht]
  have hx := expectToken_eval ctx 4 s t ht (by omega)
  rw [if_neg (by simp [h4])] at hx
  obtain ⟨ty, text, line, fileid, sym, fl⟩ := t
  dsimp only at h4
  subst h4
  show ∃ r, (expectToken ctx 4 >>= fun t => match unescape (stripQuotes t.text) with
    | .ok s => pure s
    | .panic => Tree.panic) e s = _
  rw [bind_def, hx]
  dsimp only
  rw [unescape_ok]
  exact ⟨_, rfl⟩

/-! In the specifications of the three functions of the fallback, `n` is the number of blocks that are open where the
function starts (the length of the scanner's stack). -/

def UOk (e : Env) (f32 : List Char → Option (List Char)) (isB : Bool) (n : Nat) (acc : List Gen) (s : PState) (g : Gen)
    (s' : PState) : Prop :=
  ∃ new, g = .struct 0 (acc.reverse ++ new) ∧ Rel e f32 s s' (valuesL new) ∧ Neutral e n s s' ∧
    ∃ t, e.toks[s'.pos]? = some t ∧ (t.ty = 2 ∨ (isB = false ∧ t.ty = 1))

/-- inside a block the loop stops at a `/end` only -/
theorem stop_block {t : PTok} (h : t.ty = 2 ∨ (true = false ∧ t.ty = 1)) : t.ty = 2 :=
  h.elim id fun h => nomatch h.1

/-- the shape the specifications of the functions of the fallback share: a result satisfies `ok`; an error is the
    verdict of the scanner on the tokens from `s` on, whatever the `n` open tags are -/
def FSpec {α : Type} (e : Env) (n : Nat) (s : PState) (ok : α → PState → Prop) : PRes α → Prop
  | .ok a s' => ok a s'
  | .err d _ => Bad e n (verdictOf d.kind) s
  | .panic => True
  | .fuel => True

theorem FSpec.of_neutral {α : Type} {n : Nat} {s s1 : PState} {ok ok' : α → PState → Prop} {r : PRes α}
    (hn : Neutral e n s s1) (hok : ∀ a s', ok' a s' → ok a s') (h : FSpec e n s1 ok' r) : FSpec e n s ok r := by
  cases r with
  | ok a s' => exact hok a s' h
  | err d s' => exact Bad.of_neutral hn h
  | panic => trivial
  | fuel => trivial

theorem FSpec.bind {α β : Type} {n : Nat} {s s0 : PState} {okm : α → PState → Prop} {ok : β → PState → Prop} {m : PM α}
    {f : α → PM β} (hm : FSpec e n s okm (m e s0)) (hf : ∀ a s1, okm a s1 → FSpec e n s ok (f a e s1)) :
    FSpec e n s ok ((m >>= f) e s0) :=
  spec_bind trivial trivial (fun _ _ h => by rw [h] at hm; exact hm) fun a s1 h => hf a s1 (by rw [h] at hm; exact hm)

def USpec (e : Env) (f32 : List Char → Option (List Char)) (isB : Bool) (n : Nat) (acc : List Gen) (s : PState) :
    PRes Gen → Prop :=
  FSpec e n s (UOk e f32 isB n acc s)

def TSSpec (e : Env) (f32 : List Char → Option (List Char)) (n : Nat) (s : PState) : PRes Gen → Prop :=
  FSpec e n s fun g s' => ∃ items, g = .taggedStruct items ∧ Rel e f32 s s' (valuesT items) ∧ Neutral e n s s'

def LSpec (e : Env) (f32 : List Char → Option (List Char)) (n : Nat) (acc : List (TItem Gen)) (s : PState) :
    PRes (List (TItem Gen)) → Prop :=
  FSpec e n s fun items s' => ∃ new, items = acc.reverse ++ new ∧ Rel e f32 s s' (valuesT new) ∧ Neutral e n s s' ∧
    (∀ t, e.toks[s'.pos]? = some t → t.ty = 1 → Bad e n .reject s')

/-- `parse_unknown_ifdata` at depth `dp ≤ MAX_NESTING_DEPTH`: inside a block (`isB`) `dp` blocks are open; the content of
    a keyword item (`isB = false`) contains no blocks, so there the number of open blocks does not matter.
    `parse_unknown_taggedstruct` at depth `dp` is entered at a `/begin` with `dp` blocks open. Its loop calls
    `parse_unknown_ifdata` with `dp + 1` for keyword items as well; when `dp = MAX_NESTING_DEPTH` that call fails although
    no block is opened, but the loop never gets there: its first item is a block, which fails first. -/
structure AllSpec (e : Env) (f32 : List Char → Option (List Char)) (fuel : Nat) : Prop where
  u : ∀ ctx isB dp n acc s, s.pos ≤ e.toks.size → dp ≤ maxNestingDepth → (isB = true → n = dp) →
    USpec e f32 isB n acc s (unknownIfdata fuel ctx isB dp acc e s)
  ts : ∀ ctx dp s, s.pos ≤ e.toks.size → (∃ t, e.toks[s.pos]? = some t ∧ t.ty = 1) →
    TSSpec e f32 dp s (unknownTaggedstruct fuel ctx dp e s)
  l : ∀ ctx dp acc s, s.pos ≤ e.toks.size → (dp < maxNestingDepth ∨ ∃ t, e.toks[s.pos]? = some t ∧ t.ty = 1) →
    LSpec e f32 dp acc s (unknownTsLoop fuel ctx dp acc e s)

theorem allSpec_zero : AllSpec e f32 0 := by
  constructor
  · intro ctx isB dp n acc s _ _ _; rw [unknownIfdata_zero]; trivial
  · intro ctx dp s _ _; rw [unknownTaggedstruct_zero]; trivial
  · intro ctx dp acc s _ _; rw [unknownTsLoop_zero]; trivial

theorem USpec.step {isB : Bool} {n : Nat} {acc : List Gen} {s s1 : PState} {x : Gen}
    {r : PRes Gen} (hrel : Rel e f32 s s1 (values false x)) (hn : Neutral e n s s1)
    (h : USpec e f32 isB n (x :: acc) s1 r) : USpec e f32 isB n acc s r :=
  FSpec.of_neutral hn (fun _ _ ⟨new, hg, hr, hn', hstop⟩ =>
    ⟨x :: new, by simp [hg], by rw [valuesL]; exact hrel.trans hr, hn.trans hn', hstop⟩) h

theorem USpec.skip {isB : Bool} {n : Nat} {acc : List Gen} {s s1 : PState}
    {r : PRes Gen} (hrel : Rel e f32 s s1 []) (hn : Neutral e n s s1)
    (h : USpec e f32 isB n acc s1 r) : USpec e f32 isB n acc s r :=
  FSpec.of_neutral hn (fun _ _ ⟨new, hg, hr, hn', hstop⟩ =>
    ⟨new, hg, by simpa using hrel.trans hr, hn.trans hn', hstop⟩) h

theorem u_spec_step (hat : AtomsOk e) {fuel : Nat} (ih : AllSpec e f32 fuel)
    (ctx : Ctx) (isB : Bool) (dp n : Nat) (acc : List Gen) (s : PState) (hs : s.pos ≤ e.toks.size)
    (hdp : dp ≤ maxNestingDepth) (hn : isB = true → n = dp) :
    USpec e f32 isB n acc s (unknownIfdata (fuel + 1) ctx isB dp acc e s) := by
  -- an item `x` read from the token `t` at the cursor, then the loop goes on behind it
  have hitem : ∀ (t : PTok) (x : Gen), e.toks[s.pos]? = some t → t.ty ≠ 1 → t.ty ≠ 2 →
      Rel e f32 s (s.step t) (values false x) →
      USpec e f32 isB n acc s (unknownIfdata fuel ctx isB dp (x :: acc) e (s.step t)) :=
    fun t x ht h1 h2 hrel =>
      USpec.step hrel (neutral_atom ht h1 h2) (ih.u ctx isB dp n _ _ (getElem?_some_lt ht) hdp hn)
  refine unknownIfdata_step (P := USpec e f32 isB n acc s) (fun h => absurd h (by omega))
    (fun h st _ => by rw [drop_eq_nil h, scanV_nil]; rfl) ?_ ?_ ?_ ?_ ?_ ?_ ?_ ?_
  · intro t ht h0
    rcases getIdentifier_at ctx ht h0 with h | ⟨s1, h, hp⟩ | ⟨d, s1, h, hst, hbad⟩
    · rw [bind_def, h]; trivial
    · rw [bind_def, h]
      refine spec_lineOffset trivial fun off => ?_
      refine USpec.step (x := .enumItem off t.text) (getIdentifier_ok f32 h)
        ((neutral_atom ht (by omega) (by omega)).samePos (by rw [hp])) ?_
      exact ih.u ctx isB dp n _ s1 (by have := getElem?_some_lt ht; omega) hdp hn
    · exact absurd ((hat _ _ ht).2.2 h0 hst) hbad
  · intro t ht h4
    obtain ⟨r, h⟩ := getString_at ctx ht h4
    rw [bind_def, h]
    exact spec_lineOffset trivial fun off => hitem t (.str off r) ht (by omega) (by omega) (getString_ok f32 h)
  · intro t ht h5 g hg
    refine spec_lineOffset trivial fun off => ?_
    cases hg with
    | int w v hex hp => exact hitem t (.int w off v hex) ht (by omega) (by omega) (rel_adv ht (by omega) ⟨h5, hp⟩)
    | double r hfl => exact hitem t (.double off r) ht (by omega) (by omega) (rel_adv ht (by omega) ⟨h5, hfl⟩)
  · intro t ht h5 h2 h3 h7 hfl
    -- excluded by `NumOk`
    rcases (hat _ _ ht).2.1 h5 with h | h | h | h
    · rw [h2] at h; cases h
    · rw [h3] at h; cases h
    · rw [h7] at h; cases h
    · rw [hfl] at h; cases h
  · intro t ht h1 hb
    obtain rfl := hn hb
    refine FSpec.bind (ih.ts ctx n s hs ⟨t, ht, h1⟩) ?_
    rintro _ s1 ⟨items, rfl, hr, hn'⟩
    exact USpec.step (x := .taggedStruct items) hr hn' (ih.u ctx isB n n _ s1 hr.2.1 hdp hn)
  · intro t ht h
    exact ⟨[], by simp, Rel.refl f32 s hs, Neutral.refl s, t, ht, h.imp id fun h => ⟨h.2, h.1⟩⟩
  · intro t _ _
    exact ih.u ctx isB dp n acc s hs hdp hn
  · intro t ht h6
    have h6' : t.ty = 6 := by have := (hat _ _ ht).1; omega
    exact USpec.skip (rel_adv_comment ht h6') (neutral_atom ht (by omega) (by omega))
      (ih.u ctx isB dp n acc _ (getElem?_some_lt ht) hdp hn)

def SkipSpec (e : Env) (f32 : List Char → Option (List Char)) (s : PState) : PRes Unit → Prop
  | .ok _ s1 => Rel e f32 s s1 [] ∧ ∀ n, Neutral e n s s1
  | .err _ _ => False
  | .panic => False
  | .fuel => True

theorem _root_.A2l.Tree.SkipTo.neutral {s s2 : PState} (h : SkipTo e s s2) (n : Nat) : Neutral e n s s2 :=
  fun st _ => h.scanV _ .normal st

theorem skipComments_spec (f32 : List Char → Option (List Char)) (ctx : Ctx) : ∀ (fuel : Nat) (s : PState),
    s.pos ≤ e.toks.size → SkipSpec e f32 s (skipComments ctx fuel e s) := by
  intro fuel s hs
  rcases skipComments_run ctx fuel s with h | ⟨s2, h, hk⟩ <;> rw [h]
  · trivial
  · exact ⟨hk.rel hs, hk.neutral⟩

theorem skipComments_nop (ctx : Ctx) (fuel : Nat) {s : PState} {t : PTok} (ht : e.toks[s.pos]? = some t) (h6 : t.ty ≠ 6) :
    skipComments ctx (fuel + 1) e s = .ok () s := by
  rw [skipComments]
  simp only [peekToken_bind]
  rw [ht]
  dsimp only
  rw [if_neg h6]
  rfl

/-- the `/end TAG` of an inner block, as the scanner sees it -/
def EndSpec (e : Env) (tag : List Char) (s : PState) : PRes Nat → Prop
  | .ok _ s' => ∀ st, scanV maxNestingDepth .normal (tag :: st) (e.toks.toList.drop s.pos) =
      scanV maxNestingDepth .normal st (e.toks.toList.drop s'.pos)
  | .err d _ => d.kind ≠ .nestingTooDeep ∧
      ∀ st, scanV maxNestingDepth .normal (tag :: st) (e.toks.toList.drop s.pos) = .reject
  | .panic => True
  | .fuel => True

theorem endOfTagged_block_spec (newctx : Ctx) (tag : List Char) {s : PState} {t : PTok}
    (ht : e.toks[s.pos]? = some t) (h2 : t.ty = 2) : EndSpec e tag s (endOfTagged newctx tag true e s) := by
  unfold endOfTagged
  rw [if_pos rfl, bind_def, expectToken_eval newctx 2 s t ht (by omega), if_neg (by simp [h2])]
  dsimp only
  have hd := drop_eq_cons ht
  refine spec_lineOffset trivial ?_
  intro off
  rw [bind_def]
  -- the scanner at the `/end`, with `tag` on top of its stack, goes on to read a tag
  have hend : ∀ st, scanV maxNestingDepth .normal (tag :: st) (e.toks.toList.drop s.pos) =
      scanV maxNestingDepth .endTag (tag :: st) (e.toks.toList.drop (s.step t).pos) := by
    intro st
    rw [hd, scanV_normal, h2, if_neg (by decide), if_pos rfl]
  cases hr : expectToken newctx 0 e (s.step t) with
  | ok tok s1 =>
    obtain ⟨o, h0, -, -⟩ := expectToken_ok hr
    have hscan : ∀ st, scanV maxNestingDepth .normal (tag :: st) (e.toks.toList.drop s.pos) =
        if tok.text = tag then scanV maxNestingDepth .normal st (e.toks.toList.drop s1.pos) else .reject := by
      intro st
      rw [hend, o.scanV, scanV_endTag, h0, if_neg (by decide), if_pos rfl]
    dsimp only
    split
    · rename_i hne
      exact ⟨by simp, fun st => by rw [hscan, if_neg hne]⟩
    · rename_i heq
      exact fun st => by rw [hscan, if_pos (by simpa using heq)]
  | err d s1 =>
    have hx := expectToken_reject hr
    exact ⟨hx.1, fun st => by rw [hend]; exact hx.2 _ .endTag _ nofun⟩
  | panic => trivial
  | fuel => trivial

theorem LSpec.step {n : Nat} {acc : List (TItem Gen)} {s s1 : PState} {it : TItem Gen}
    {r : PRes (List (TItem Gen))} (hrel : Rel e f32 s s1 (valuesT [it])) (hn : Neutral e n s s1)
    (h : LSpec e f32 n (it :: acc) s1 r) : LSpec e f32 n acc s r :=
  FSpec.of_neutral hn (fun _ _ ⟨new, hg, hr, hn', hstop⟩ =>
    ⟨it :: new, by simp [hg], by rw [valuesT_cons]; exact hrel.trans hr, hn.trans hn', hstop⟩) h

theorem LSpec.skip {n : Nat} {acc : List (TItem Gen)} {s s1 : PState}
    {r : PRes (List (TItem Gen))} (hrel : Rel e f32 s s1 []) (hn : Neutral e n s s1)
    (h : LSpec e f32 n acc s1 r) : LSpec e f32 n acc s r :=
  FSpec.of_neutral hn (fun _ _ ⟨new, hg, hr, hn', hstop⟩ =>
    ⟨new, hg, by simpa using hrel.trans hr, hn.trans hn', hstop⟩) h

theorem l_spec_step {fuel : Nat}
    (ih : AllSpec e f32 fuel) (ctx : Ctx) (dp : Nat) (acc : List (TItem Gen)) (s : PState) (hs : s.pos ≤ e.toks.size)
    (hpre : dp < maxNestingDepth ∨ ∃ t, e.toks[s.pos]? = some t ∧ t.ty = 1) :
    LSpec e f32 dp acc s (unknownTsLoop (fuel + 1) ctx dp acc e s) := by
  rw [unknownTsLoop_succ]
  have ho := nextTag_rel ctx e s
  rw [bind_def]
  unfold attempt
  generalize getNextTagOrComment ctx e s = r0 at ho
  cases ho with
  | panic => trivial
  | @comment tok off ht h6 =>
    have hlt := getElem?_some_lt ht
    have hdp : dp < maxNestingDepth := by
      rcases hpre with h | ⟨t, ht', h1⟩
      · exact h
      · rw [ht] at ht'; cases ht'; omega
    exact LSpec.skip (rel_adv_comment ht h6) (neutral_atom ht (by omega) (by omega)) (ih.l ctx dp acc _ hlt (.inl hdp))
  | @block tb tok off s1 ho hb1 _ hr =>
    -- the only place where the scanner's stack moves: `hscan` pushes the tag, the content is read with `dp + 1` blocks
    -- open (`ih.u`), `endOfTagged_block_spec` pops the tag again
    obtain ⟨o, h0, -, -⟩ := expectToken_ok hr
    have hrel : Rel e f32 s s1 [.begin_, .ident tok.text] :=
      (rel_adv (w := .begin_) ho (by omega) hb1).trans (o.rel (w := .ident tok.text) ⟨h0, rfl⟩)
    have hscan : ∀ st : List (List Char), st.length = dp → scanV maxNestingDepth .normal st (e.toks.toList.drop s.pos) =
        if maxNestingDepth ≤ dp then .tooDeep
        else scanV maxNestingDepth .normal (tok.text :: st) (e.toks.toList.drop s1.pos) := fun st hst => by
      rw [← hst, drop_eq_cons ho, scanV_normal, if_pos hb1,
        show e.toks.toList.drop (s.pos + 1) = e.toks.toList.drop (s.step tb).pos from rfl,
        o.scanV, scanV_beginTag, h0, if_neg (by decide), if_pos rfl]
    dsimp only
    simp only [getNextId_bind]
    by_cases hdp : dp + 1 ≤ maxNestingDepth
    · have hnd : ¬ maxNestingDepth ≤ dp := Nat.not_le.2 hdp
      have hu := ih.u ⟨tok.text, tok.fileid, tok.line⟩ true (dp + 1) (dp + 1) [] { s1 with seqId := s1.seqId + 1 }
        hrel.2.1 hdp (fun _ => rfl)
      refine spec_bind trivial trivial ?_ ?_
      · intro d s2 h
        rw [h] at hu
        intro st hst
        rw [hscan st hst, if_neg hnd]
        exact hu _ (by simp [hst])
      · intro result s2 h
        rw [h] at hu
        obtain ⟨new, hres, hr2, hn2, t2, ht2, hstop⟩ := hu
        have hes := endOfTagged_block_spec ⟨tok.text, tok.fileid, tok.line⟩ tok.text ht2 (stop_block hstop)
        refine spec_bind trivial trivial ?_ ?_
        · intro d s3 h3
          rw [h3] at hes
          intro st hst
          rw [hscan st hst, if_neg hnd, hn2 (tok.text :: st) (by simp [hst]), hes.2 st]
          unfold verdictOf
          rw [if_neg hes.1]
        · intro endOff s3 h3
          rw [h3] at hes
          have hr3 := endOfTagged_ok f32 h3 hr2.2.1
          rw [if_pos rfl] at hr3
          have hr2' : Rel e f32 s1 s2 (valuesL new) := hr2.fromPos rfl
          refine LSpec.step (it := ⟨tok.line, s1.seqId + 1, off, endOff, tok.text, result, true⟩) ?_ ?_
            (ih.l ctx dp _ s3 hr3.2.1 (.inl (by omega)))
          · have := (hrel.trans hr2').trans hr3
            subst hres
            simpa [valuesT, values] using this
          · intro st hst
            rw [hscan st hst, if_neg hnd, hn2 (tok.text :: st) (by simp [hst])]
            exact hes st
    · -- the item would be block number `MAX_NESTING_DEPTH + 1`
      rw [bind_def]
      cases fuel with
      | zero => rw [unknownIfdata_zero]; trivial
      | succ fuel =>
        rw [unknownIfdata_deep fuel _ true (dp + 1) [] _ (by omega)]
        intro st hst
        rw [hscan st hst, if_pos (Nat.le_of_not_lt hdp)]
        rfl
  | @keyword tok off s1 hpl hr =>
    obtain ⟨o, h0, -, -⟩ := expectToken_ok hr
    have hrel : Rel e f32 s s1 [.ident tok.text] := o.rel (w := .ident tok.text) ⟨h0, rfl⟩
    have hn : ∀ n, Neutral e n s s1 := fun n st _ => by
      rw [o.scanV, scanV_normal, h0, if_neg (by decide), if_neg (by decide)]
    have hnb : ∀ t, e.toks[s.pos]? = some t → t.ty ≠ 1 := fun t ht => (hpl t ht).2
    dsimp only
    simp only [getNextId_bind]
    have hdp : dp < maxNestingDepth := by
      rcases hpre with h | ⟨t, ht', h1⟩
      · exact h
      · exact absurd h1 (hnb t ht')
    have hu := ih.u ⟨tok.text, tok.fileid, tok.line⟩ false (dp + 1) dp [] { s1 with seqId := s1.seqId + 1 } hrel.2.1
      (by omega) (fun h => by cases h)
    refine FSpec.bind (FSpec.of_neutral (hn dp) (fun _ _ h => h) hu) ?_
    intro result s2 ⟨new, hres, hr2, hn2, _⟩
    have hr2' : Rel e f32 s1 s2 (valuesL new) := hr2.fromPos rfl
    have hn2' : Neutral e dp s1 s2 := hn2.fromPos rfl
    unfold endOfTagged
    rw [if_neg (by simp), pure_bind_eval]
    refine LSpec.step (it := ⟨tok.line, s1.seqId + 1, off, 0, tok.text, result, false⟩) ?_ ((hn dp).trans hn2')
      (ih.l ctx dp _ s2 hr2.2.1 (.inl hdp))
    have := hrel.trans hr2'
    subst hres
    simpa [valuesT, values] using this
  | none hpl =>
    exact ⟨[], by simp, Rel.refl f32 s hs, Neutral.refl s, fun t ht h1 => absurd h1 (hpl t ht).2⟩
  | @blockErr tb _ d s1 ho hb1 _ hr =>
    refine ⟨[], by simp, Rel.refl f32 s hs, Neutral.refl s, fun _ _ _ st _ => ?_⟩
    show scanV _ .normal st (e.toks.toList.drop s.pos) = _
    rw [drop_eq_cons ho, scanV_normal, if_pos hb1]
    exact (expectToken_reject hr).2 _ .beginTag st nofun

theorem ts_spec_step {fuel : Nat}
    (ih : AllSpec e f32 fuel) (ctx : Ctx) (dp : Nat) (s : PState) (hs : s.pos ≤ e.toks.size)
    (hb : ∃ t, e.toks[s.pos]? = some t ∧ t.ty = 1) :
    TSSpec e f32 dp s (unknownTaggedstruct (fuel + 1) ctx dp e s) := by
  rw [unknownTaggedstruct_succ]
  simp only [getEnv_bind]
  obtain ⟨tb, htb, hb1⟩ := hb
  rw [bind_def, skipComments_nop ctx _ htb (by omega)]
  dsimp only
  refine FSpec.bind (ih.l ctx dp [] s hs (.inr ⟨tb, htb, hb1⟩)) ?_
  intro items s2 ⟨new, hitems, hr2, hn2, hstop⟩
  subst hitems
  simp only [peekToken_bind]
  cases ht : e.toks[s2.pos]? with
  | none => exact ⟨items, rfl, hr2, hn2⟩
  | some t =>
    dsimp only
    split
    · rename_i h1
      exact Bad.of_neutral hn2 (hstop t ht h1)
    · exact ⟨items, rfl, hr2, hn2⟩

theorem allSpec (hat : AtomsOk e) :
    ∀ fuel, AllSpec e f32 fuel
  | 0 => allSpec_zero
  | fuel + 1 =>
    have ih := allSpec hat fuel
    ⟨fun ctx isB dp n acc s hs hdp hn => u_spec_step hat ih ctx isB dp n acc s hs hdp hn,
     fun ctx dp s hs hb => ts_spec_step ih ctx dp s hs hb,
     fun ctx dp acc s hs hpre => l_spec_step ih ctx dp acc s hs hpre⟩

/-- `parse_unknown_ifdata_start`: a result means `accept`, `NestingTooDeep` means `tooDeep`, any other error `reject` -/
def USSpec (e : Env) (f32 : List Char → Option (List Char)) (s : PState) : PRes Gen → Prop :=
  FSpec e 0 s fun g s' => Rel e f32 s s' (values true g) ∧ Neutral e 0 s s' ∧ AtEnd e s'

theorem USSpec.of_u {s : PState} {r : PRes Gen} (h : USpec e f32 true 0 [] s r) : USSpec e f32 s r :=
  FSpec.of_neutral (Neutral.refl s) (fun _ _ ⟨new, hg, hr, hn, t, ht, hstop⟩ => by
    subst hg
    exact ⟨by simpa [values] using hr, hn, t, ht, stop_block hstop⟩) h

/-- "temporarily undo the previous token, so that we can get its end offset": behind a token the cursor comes back to
    where it was, with that token as the last one read -/
theorem undo_reread {γ} {P : PRes γ → Prop} (ctx : Ctx) (K : Nat → γ) {s2 : PState} (h1 : 1 ≤ s2.pos)
    (h2 : s2.pos ≤ e.toks.size) (hpanic : P .panic)
    (hok : ∀ endOff (t : PTok), P (.ok (K endOff) { s2 with lastLine := t.line })) :
    P ((undoGetToken >>= fun _ => getLineOffset >>= fun endOff =>
      attempt (getToken ctx) >>= fun _ => pure (K endOff)) e s2) := by
  simp only [undo_bind]
  rw [if_neg (by omega)]
  refine spec_lineOffset hpanic fun endOff => ?_
  rw [bind_def]
  unfold attempt
  rw [getToken_eval]
  dsimp only
  rw [getElem?_pos e.toks (s2.pos - 1) (by omega)]
  have hp : s2.pos - 1 + 1 = s2.pos := by omega
  dsimp only
  rw [hp]
  exact hok endOff _

theorem unknownStart_spec (hat : AtomsOk e)
    (ctx : Ctx) (s : PState) (hs : s.pos ≤ e.toks.size) : USSpec e f32 s (unknownStart ctx e s) := by
  unfold unknownStart
  simp only [getEnv_bind, peekToken_bind]
  have hA := allSpec (f32 := f32) hat (unknownFuel e.toks.size)
  have h0 : 0 ≤ maxNestingDepth := Nat.zero_le _
  cases ht : e.toks[s.pos]? with
  | none => exact USSpec.of_u (hA.u ctx true 0 0 [] s hs h0 (fun _ => rfl))
  | some t =>
    have hlt := getElem?_some_lt ht
    dsimp only
    split
    · rename_i h0'
      rw [bind_def, getToken_eval, ht]
      dsimp only
      refine spec_lineOffset trivial ?_
      intro startOff
      simp only [getNextId_bind]
      have hu := hA.u ⟨t.text, t.fileid, t.line⟩ true 0 0 []
        { pos := s.pos + 1, lastLine := t.line, seqId := s.seqId + 1, log := s.log, ver := s.ver } hlt h0 (fun _ => rfl)
      refine FSpec.bind (FSpec.of_neutral (neutral_atom ht (by omega) (by omega)) (fun _ _ h => h) hu) ?_
      · intro result s2 ⟨new, hres, hr2, hn2, t2, ht2, hstop⟩
        have hr2' : Rel e f32 (s.step t) s2 (valuesL new) := hr2.fromPos rfl
        have hn2' : Neutral e 0 (s.step t) s2 := hn2.fromPos rfl
        have r1 : Rel e f32 s (s.step t) [.ident t.text] := rel_adv ht (by omega) ⟨h0', rfl⟩
        refine undo_reread ctx _ (Nat.le_trans (Nat.le_add_left 1 _) hr2'.1) hr2'.2.1 trivial fun endOff tk =>
          ⟨?_, (neutral_atom ht (by omega) (by omega)).trans hn2', t2, ht2, stop_block hstop⟩
        have := (r1.trans hr2').samePos (s2 := { s2 with lastLine := tk.line }) rfl
        subst hres
        simpa [values, valuesL, valuesT] using this
    · exact USSpec.of_u (hA.u ctx true 0 0 [] s hs h0 (fun _ => rfl))

end

/-- the configuration "everything is tracked" on the environment of the hand-written parsers -/
def cfgS (toks : Array PTok) (strict : Bool) (hk : TokOk toks) (hne : toks.size ≠ 0) : Cfg (specialEnv toks strict) :=
  cfgFull (specialEnv toks strict) hk (Nat.pos_of_ne_zero hne) (specialEnv_tableOk toks strict)
    (specialEnv_specialOk toks strict)

theorem good_safe {α} {F : Prop} {toks : Array PTok} {strict : Bool} {hk : TokOk toks} {hne : toks.size ≠ 0} {s : PState}
    {r : PRes α} {Q : α → PState → Prop} (h : Good F (cfgS toks strict hk hne) s.pos s.log r Q) :
    r ≠ .panic ∧
    (∀ a s', r = .ok a s' → s.pos ≤ s'.pos ∧ s'.pos ≤ toks.size ∧ ∃ l, s'.log = l ++ s.log) ∧
    (∀ d s', r = .err d s' → s'.pos ≤ toks.size ∧ ∃ l, s'.log = l ++ s.log) := by
  refine ⟨?_, ?_, ?_⟩
  · intro hp; rw [hp] at h; exact h.1 trivial
  · intro a s' hr; rw [hr] at h; exact ⟨(h.1.1 trivial).1, (h.1.1 trivial).2, h.1.2.1⟩
  · intro d s' hr; rw [hr] at h; exact ⟨h.1.1 trivial, h.1.2⟩

theorem good_total {α} {toks : Array PTok} {strict : Bool} {hk : TokOk toks} {hne : toks.size ≠ 0} {s : PState}
    {r : PRes α} {Q : α → PState → Prop} (h : Good True (cfgS toks strict hk hne) s.pos s.log r Q) :
    r ≠ .panic ∧ r ≠ .fuel :=
  ⟨(good_safe h).1, h.2 trivial trivial⟩

/-- the configuration "strict mode, the log only" on the environment of the hand-written parsers -/
def cfgSS (toks : Array PTok) : Cfg (specialEnv toks true) :=
  cfgStrict (specialEnv toks true) rfl (by
    intro ty ctx off s
    refine ⟨fun v s' h => (by cases h), fun d s' h => ?_⟩
    cases h
    exact Clean.refl _)

def verdictAt (toks : Array PTok) (p : Nat) : Verdict := scanV maxNestingDepth .normal [] (toks.toList.drop p)

/-- On well-formed tokens the fallback returns, and how it ends is the verdict of the scanner with the limit: a result
    (the cursor in front of the closing `/end`, all values kept) is `accept`, the error `NestingTooDeep` is `tooDeep`,
    any other error is `reject`. -/
theorem unknownStart_verdict (toks : Array PTok) (strict : Bool) (f32 : List Char → Option (List Char))
    (hk : TokOk toks) (hne : toks.size ≠ 0) (hni : NoInc (specialEnv toks strict))
    (hat : AtomsOk (specialEnv toks strict)) (ctx : Ctx) (s : PState) (hs : s.pos ≤ toks.size) :
    match unknownStart ctx (specialEnv toks strict) s with
    | .ok g s' => verdictAt toks s.pos = .accept ∧ AtEnd (specialEnv toks strict) s' ∧
        Rel (specialEnv toks strict) f32 s s' (values true g)
    | .err d _ => verdictAt toks s.pos = verdictOf d.kind
    | .panic => False
    | .fuel => False := by
  have htot := good_total (unknownStart_good (F := True) (cfgS toks strict hk hne) (fun _ _ => hni) ctx s (fun _ => hs))
  have hspec := unknownStart_spec (f32 := f32) hat ctx s hs
  cases hr : unknownStart ctx (specialEnv toks strict) s with
  | panic => exact absurd hr htot.1
  | fuel => exact absurd hr htot.2
  | ok g s' =>
    rw [hr] at hspec
    obtain ⟨hrel, hn, t, ht, h2⟩ := hspec
    refine ⟨(hn [] rfl).trans ?_, ⟨t, ht, h2⟩, hrel⟩
    rw [drop_eq_cons ht, scanV_normal, h2, if_neg (by decide), if_pos rfl]
  | err d s' =>
    rw [hr] at hspec
    exact hspec [] rfl

/-- non-empty content that no definition accepts goes to the fallback, from the cursor at which it starts; what the
    fallback returns is stored and flagged invalid -/
theorem parseIfdata_fallback {e : Env} {f32 : List Char → Option (List Char)} {specs : List Spec} {ctx : Ctx} {s s1 : PState}
    (hne : NonEmpty e s) (htry : trySpecs f32 ctx specs e s = .ok none s1) :
    s1.pos = s.pos ∧ s1.pos < e.toks.size ∧
      parseIfdata f32 specs ctx e s = (unknownStart ctx >>= fun g => pure (some g, false)) e s1 := by
  have hp : s1.pos = s.pos := (trySpecs_inv specs s none s1 htry).elim (·.2.1) fun ⟨_, _, _, _, _, _, hr⟩ => nomatch hr
  refine ⟨hp, hp ▸ getElem?_some_lt hne.choose_spec.1, ?_⟩
  rw [parseIfdata_nonEmpty hne, bind_def, htry]

end A2l.IfData
