import A2lVerif.Lemmas.TreeTotal
import A2lVerif.Lemmas.PMItems
/-!
# helper lemmas for C06 (strict vs non-strict runs of the generic parser, Props/C06.lean)

Two runs of the same program from the same state are compared: one in `nonStrict e`, one in `strictOf e`.
Three relations on programs `P : PM α` (all quantify over the start state):

* `Indep e P`: both runs give the same result (programs that never reach `errorOrLog` nor a `special` parser);
* `Sim e P`  : the non-strict run only extends the log, and if it ends in `ok`/`err` having added deprecation notices
  only, the strict run ends in the same result (used for `clean_nonstrict_implies_strict`);
* `Fwd e P`  : if the strict run ends in `ok`, so does the non-strict run, with the same value and state
  (used for `strict_implies_nonstrict_partial`).

All three say of every start state `s` that some relation `K s` holds between the two results (`Rel2`). A `K` that is
kept by `bind` and holds of the steps that do not look at the mode (`ModeCore`; all three are such) has the closure rules
`PMRules` of Lemmas/PMLogic.lean, hence holds of `expect_token`, the number parsers, `get_next_tag_or_comment`, and also of
the skip loop and of the items that `quietItem` accepts. What the walk over all functions of Model/Tree.lean needs in
addition is `ModeRules` (`error_or_log`, the `special` parsers, the element of a sequence); `allRel` is that walk, `Sim` and
`Fwd` are its two instances. They differ at the greedy sequence loop, which turns an error of the element into a value:
`Sim` passes through `attempt`; `Fwd` does not and needs an element that does not depend on the mode at all.
-/
namespace A2l.Tree
open A2l.G A2l.Sc

def nonStrict (e : Env) : Env := { e with strict := false }
def strictOf (e : Env) : Env := { e with strict := true }

/-- item types whose parsers never call `error_or_log`: numbers only (arrays and structs of them) -/
def quietItem (tbl : Table) : Nat → ItemTy → Bool
  | _, .int _ => true
  | _, .double => true
  | _, .float => true
  | fuel + 1, .arr of _ => quietItem tbl fuel of
  | fuel + 1, .structRef ty => match tbl.lookup ty with
    | some (.block false items [] false) => items.all (quietItem tbl fuel)
    | _ => false
  | _, _ => false

/-- tables in which no sequence element can call `error_or_log`: then no strict-mode error is ever swallowed by the
    greedy sequence loop (`sequence_item.is_err()`), the one place where the two modes can take different paths -/
def seqSafe (tbl : Table) : Bool :=
  tbl.all fun en => match en.def_ with
    | .block _ items _ _ => items.all fun it => match it with
      | .seq of _ => quietItem tbl tbl.length of
      | _ => true
    | _ => true

/-- the hand-written parsers of the special types, as far as C06 is concerned -/
def SpecialSim (e : Env) : Prop :=
  ∀ ty ctx off s,
    (∀ v s', e.special ty ctx off e.toks false s = .ok v s' →
        (∃ l, s'.log = l ++ s.log ∧ ∀ d ∈ l, IsNotice d) → e.special ty ctx off e.toks true s = .ok v s') ∧
    (∀ v s', e.special ty ctx off e.toks true s = .ok v s' → e.special ty ctx off e.toks false s = .ok v s') ∧
    (∀ d s', e.special ty ctx off e.toks true s = .err d s' →
        e.special ty ctx off e.toks false s = .err d s' ∨
        ∃ v s'', e.special ty ctx off e.toks false s = .ok v s'' ∧ ∃ l, s''.log = l ++ s.log ∧ ∃ d' ∈ l, ¬ IsNotice d')

/-- what `SpecialSim` does not say and `clean_nonstrict_implies_strict` needs: in non-strict mode the special parsers
    only add to the log (also when they fail: the log of a failed element of a sequence stays), and a non-strict
    failure without problems logged is also a strict failure (the sequence loop turns failures into values) -/
def SpecialSimMore (e : Env) : Prop :=
  ∀ ty ctx off s,
    (∀ d s', e.special ty ctx off e.toks false s = .err d s' →
        (∃ l, s'.log = l ++ s.log ∧ ∀ d ∈ l, IsNotice d) → e.special ty ctx off e.toks true s = .err d s') ∧
    (∀ v s', e.special ty ctx off e.toks false s = .ok v s' → ∃ l, s'.log = l ++ s.log) ∧
    (∀ d s', e.special ty ctx off e.toks false s = .err d s' → ∃ l, s'.log = l ++ s.log)

/-- every sequence inside the item, also below arrays, has a quiet element type -/
def seqSafeItem (tbl : Table) : ItemTy → Bool
  | .seq of _ => quietItem tbl tbl.length of
  | .arr of _ => seqSafeItem tbl of
  | _ => true

/-- `seqSafe`, also for sequences nested in arrays -/
def seqSafeDeep (tbl : Table) : Bool :=
  tbl.all fun en => match en.def_ with
    | .block _ items _ _ => items.all (seqSafeItem tbl)
    | _ => true

@[simp] theorem nonStrict_toks (e : Env) : (nonStrict e).toks = e.toks := rfl
@[simp] theorem strictOf_toks (e : Env) : (strictOf e).toks = e.toks := rfl
@[simp] theorem nonStrict_table (e : Env) : (nonStrict e).table = e.table := rfl
@[simp] theorem strictOf_table (e : Env) : (strictOf e).table = e.table := rfl
@[simp] theorem nonStrict_known (e : Env) : (nonStrict e).known = e.known := rfl
@[simp] theorem strictOf_known (e : Env) : (strictOf e).known = e.known := rfl

theorem Clean.split {a b c : List Diag} (h1 : LExt a b) (h2 : LExt b c) (h : Clean a c) : Clean a b ∧ Clean b c := by
  obtain ⟨l1, rfl⟩ := h1
  obtain ⟨l2, rfl⟩ := h2
  obtain ⟨l, hl, hn⟩ := h
  have : l2 ++ l1 = l := by
    rw [← List.append_assoc] at hl
    exact List.append_cancel_right hl
  subst this
  exact ⟨⟨l1, rfl, fun d hd => hn d (List.mem_append.2 (.inr hd))⟩,
    ⟨l2, rfl, fun d hd => hn d (List.mem_append.2 (.inl hd))⟩⟩

theorem LExt.cons (d : Diag) (a : List Diag) : LExt a (d :: a) := ⟨[d], rfl⟩

theorem Clean.cons_inv {d : Diag} {a : List Diag} (h : Clean a (d :: a)) : IsNotice d := by
  obtain ⟨l, hl, hn⟩ := h
  have : [d] = l := List.append_cancel_right (bs := a) hl
  subst this
  exact hn d (List.mem_singleton.2 rfl)

variable {e : Env}

/-- `K s r₁ r₂` relates the result of the non-strict run from `s` to that of the strict run -/
def Rel2 (e : Env) (K : ∀ {α : Type}, PState → PRes α → PRes α → Prop) {α : Type} (P : PM α) : Prop :=
  ∀ s, K s (P (nonStrict e) s) (P (strictOf e) s)

theorem Rel2.getState_bind {K : ∀ {α : Type}, PState → PRes α → PRes α → Prop} {β} {f : PState → PM β}
    (h : ∀ s0, Rel2 e K (f s0)) : Rel2 e K (getState >>= f) :=
  fun s => h s s

def Indep2 (e : Env) {α} (P1 P2 : PM α) : Prop := ∀ s, P1 (strictOf e) s = P2 (nonStrict e) s
def Indep (e : Env) {α} (P : PM α) : Prop := Indep2 e P P

theorem Indep.pure {α} (a : α) : Indep e (Pure.pure a : PM α) := fun _ => rfl
theorem Indep.fail {α} (k : DK) : Indep e (fail k : PM α) := fun _ => rfl
theorem Indep.panic {α} : Indep e (panic : PM α) := fun _ => rfl
theorem Indep.outOfFuel {α} : Indep e (outOfFuel : PM α) := fun _ => rfl

theorem Indep.bind {α β} {m : PM α} {f : α → PM β} (h1 : Indep e m) (h2 : ∀ a, Indep e (f a)) : Indep e (m >>= f) := by
  intro s
  rw [bind_def, bind_def, h1 s]
  cases m (nonStrict e) s with
  | ok a s1 => exact h2 a s1
  | err d s1 | panic | fuel => rfl

theorem Indep.attempt {α} {m : PM α} (h : Indep e m) : Indep e (attempt m) := by
  intro s
  unfold A2l.Tree.attempt
  rw [h s]

theorem Indep.getToken (ctx : Ctx) : Indep e (getToken ctx) := by
  intro s; rw [getToken_eval, getToken_eval]; rfl
theorem Indep.undoGetToken : Indep e undoGetToken := by
  intro s; rw [undo_eval, undo_eval]
theorem Indep.getLineOffset : Indep e getLineOffset := by
  intro s
  rw [getLineOffset_eq, getLineOffset_eq]
  rfl
theorem Indep.modifyState (g : PState → PState) : Indep e (modifyState g) := fun _ => rfl
theorem Indep.getNextId : Indep e getNextId := fun _ => rfl
theorem Indep.logWarning (k : DK) : Indep e (logWarning k) := fun _ => rfl

/-- in non-strict mode the program only adds to the log -/
def Quiet (e : Env) {α} (P : PM α) : Prop :=
  ∀ s, match P (nonStrict e) s with
    | .ok _ s' => LExt s.log s'.log | .err _ s' => LExt s.log s'.log | _ => True

/-- a relation that is kept by `bind` and holds of the steps that do not look at the mode -/
structure ModeCore (e : Env) (K : ∀ {α : Type}, PState → PRes α → PRes α → Prop) : Prop where
  bind : ∀ {α β} {m : PM α} {f : α → PM β}, Rel2 e K m → (∀ a, Rel2 e K (f a)) → Rel2 e K (m >>= f)
  same : ∀ {α} {P : PM α}, Indep e P → Quiet e P → Rel2 e K P

section core
variable {K : ∀ {α : Type}, PState → PRes α → PRes α → Prop} (C : ModeCore e K)
include C

theorem ModeCore.modify (g : PState → PState) (hg : ∀ s, (g s).log = s.log) : Rel2 e K (modifyState g) :=
  C.same (Indep.modifyState g) (fun s => by show LExt s.log (g s).log; rw [hg s]; exact LExt.refl _)

theorem ModeCore.getNextId : Rel2 e K getNextId := C.same Indep.getNextId (fun _ => LExt.refl _)
theorem ModeCore.logWarning (k : DK) : Rel2 e K (logWarning k) := C.same (Indep.logWarning k) (fun _ => LExt.cons _ _)
theorem ModeCore.undoGetToken : Rel2 e K undoGetToken :=
  C.same Indep.undoGetToken (fun s => by
    rw [undo_eval]
    by_cases h : s.pos = 0
    · rw [if_pos h]; trivial
    · rw [if_neg h]; exact LExt.refl _)

/-- the reader rules hold for every `K`: the two runs start from the same state and the same tokens -/
theorem ModeCore.rules : PMRules e (Rel2 e K) where
  pure := fun a => C.same (Indep.pure a) (fun _ => LExt.refl _)
  fail := fun k => C.same (Indep.fail k) (fun _ => LExt.refl _)
  panic := C.same Indep.panic (fun _ => trivial)
  outOfFuel := C.same Indep.outOfFuel (fun _ => trivial)
  bind := C.bind
  getEnv_bind := fun {_ f} hf h s => by
    show K s (f (nonStrict e) (nonStrict e) s) (f (strictOf e) (strictOf e) s)
    rw [show f (nonStrict e) = f e from hf false, show f (strictOf e) = f e from hf true]
    exact h s
  getTokenpos_bind := fun h s => h s.pos s
  peekToken_bind := fun h s => h e.toks[s.pos]? s
  getToken := fun ctx => C.same (Indep.getToken ctx) (fun s => by
    rw [getToken_eval]
    cases (nonStrict e).toks[s.pos]? <;> exact LExt.refl _)
  getLineOffset := C.same Indep.getLineOffset (fun s => by
    rcases getLineOffset_cases (nonStrict e) s with h | ⟨n, h⟩ <;> rw [h]
    · trivial
    · exact LExt.refl _)
  setTokenpos := fun p => C.modify _ (fun _ => rfl)

theorem ModeCore.getNextTagOrComment
    (hA : ∀ {α β} {m : PM α} {f : Except Diag α → PM β}, Rel2 e K m → (∀ r, Rel2 e K (f r)) → Rel2 e K (attempt m >>= f))
    (ctx : Ctx) : Rel2 e K (getNextTagOrComment ctx) :=
  C.rules.getNextTagOrComment hA (C.modify _ (fun _ => rfl)) (fun _ => C.same (fun _ => rfl) (fun _ => LExt.refl _)) ctx

theorem skipUnknownLoop_rel (ctx : Ctx) (itemTag : List Char) (isB : Bool) (stop : List Nat) :
    ∀ (fuel : Nat) (balance : Int), Rel2 e K (skipUnknownLoop ctx itemTag isB stop balance fuel)
  | 0, _ => C.rules.outOfFuel
  | fuel + 1, balance => by
    have ih := skipUnknownLoop_rel ctx itemTag isB stop fuel
    have L := C.rules
    rw [skipUnknownLoop_succ]
    refine C.bind (L.getToken ctx) (fun t => ?_)
    by_cases h1 : t.ty = 1
    · rw [skipStep_begin h1]
      exact ih _
    by_cases h2 : t.ty = 2
    · rw [skipStep_end h2]
      exact of_ite C.undoGetToken (ih _)
    by_cases h0 : t.ty = 0
    · cases isB with
      | true =>
        rw [skipStep_ident_block h0]
        exact of_ite (of_ite (L.pure _) (L.fail _)) (ih _)
      | false =>
        rw [skipStep_ident_keyword h0]
        exact of_ite (C.bind C.undoGetToken (fun _ => of_ite C.undoGetToken (L.pure _))) (ih _)
    · rw [skipStep_other h0 h1 h2]
      exact of_ite (L.fail _) (ih _)

theorem foldlM_rel {X : Type} (F : Unit → X → PM Unit) (hF : ∀ u x, Rel2 e K (F u x)) :
    ∀ (l : List X) (u : Unit), Rel2 e K (List.foldlM F u l)
  | [], u => by rw [List.foldlM_nil]; exact C.rules.pure _
  | x :: l, u => by
    rw [List.foldlM_cons]
    exact C.bind (hF u x) (fun u' => foldlM_rel F hF l u')

theorem quiet_rel : ∀ (n : Nat) (it : ItemTy), quietItem e.table n it = true →
    ∀ fuel ctx, Rel2 e K (parseItem fuel ctx it)
  | _, _, _, 0, _ => C.rules.outOfFuel
  | _, .int w, _, fuel + 1, ctx => by
    rw [parseItem]
    exact C.bind (C.rules.getInteger ctx w) (fun _ => C.bind C.rules.getLineOffset (fun _ => C.rules.pure _))
  | _, .double, _, fuel + 1, ctx | _, .float, _, fuel + 1, ctx => by
    rw [parseItem]
    exact C.rules.withOff (C.rules.getDouble ctx)
  | n + 1, .arr of dim, h, fuel + 1, ctx => by
    rw [parseItem]
    exact C.bind (C.rules.parseArr (quiet_rel n of h) fuel ctx dim) (fun _ => C.rules.pure _)
  | n + 1, .structRef ty, h, fuel + 1, ctx => by
    unfold quietItem at h
    split at h
    · rename_i items hlk
      rw [parseItem]
      refine C.rules.parseType_plain C.getNextId hlk ?_ fuel ctx 0
      intro fuel' ctx'
      exact C.rules.parseItems fuel' ctx' items (fun it hit => quiet_rel n it (List.all_eq_true.1 h it hit))
    · cases h
  | 0, .arr _ _, h, _ + 1, _ | 0, .structRef _, h, _ + 1, _ | _, .ident, h, _ + 1, _ | _, .string, h, _ + 1, _
  | _, .strMax _, h, _ + 1, _ | _, .enumRef _, h, _ + 1, _ | _, .seq _ _, h, _ + 1, _ => by simp [quietItem] at h

end core

theorem indepCore : ModeCore e (fun _ r₁ r₂ => r₂ = r₁) := ⟨Indep.bind, fun h _ => h⟩

/-- `r1`: result of the non-strict run, `r2`: of the strict run, `lg`: the log at the start -/
def SimR {α} (lg : List Diag) (r1 r2 : PRes α) : Prop :=
  match r1 with
  | .ok a s' => LExt lg s'.log ∧ (Clean lg s'.log → r2 = .ok a s')
  | .err d s' => LExt lg s'.log ∧ (Clean lg s'.log → r2 = .err d s')
  | .panic => True
  | .fuel => True

def Sim (e : Env) {α} (P : PM α) : Prop := ∀ s, SimR s.log (P (nonStrict e) s) (P (strictOf e) s)

/-- the rest of a run that has extended the log from `lg` to `lg1`; the whole strict run `r2'` is the rest `r2` if
    that extension is clean -/
theorem SimR.after {α} {lg lg1 : List Diag} {r1 r2 r2' : PRes α} (hx : LExt lg lg1) (h : SimR lg1 r1 r2)
    (hc : Clean lg lg1 → r2' = r2) : SimR lg r1 r2' := by
  cases r1 with
  | ok a s' | err a s' =>
    exact ⟨hx.trans h.1, fun hcl => (hc (Clean.split hx h.1 hcl).1).trans (h.2 (Clean.split hx h.1 hcl).2)⟩
  | panic | fuel => trivial

theorem Sim.bind {α β} {m : PM α} {f : α → PM β} (h1 : Sim e m) (h2 : ∀ a, Sim e (f a)) : Sim e (m >>= f) := by
  intro s
  rw [bind_def, bind_def]
  have h1s := h1 s
  cases hm : m (nonStrict e) s with
  | ok a s1 =>
    rw [hm] at h1s
    exact SimR.after h1s.1 (h2 a s1) (fun hc => by rw [h1s.2 hc])
  | err d s1 =>
    rw [hm] at h1s
    exact ⟨h1s.1, fun hc => by rw [h1s.2 hc]⟩
  | panic | fuel => trivial

theorem Sim.attempt {α} {m : PM α} (h : Sim e m) : Sim e (attempt m) := by
  intro s
  unfold A2l.Tree.attempt
  have hs := h s
  cases hm : m (nonStrict e) s with
  | ok a s1 | err a s1 =>
    rw [hm] at hs
    refine ⟨hs.1, fun hc => ?_⟩
    rw [hs.2 hc]
  | panic | fuel => trivial

theorem simCore : ModeCore e (fun s => SimR s.log) where
  bind := Sim.bind
  same := fun {_ P} hi hl s => by
    have h1 := hl s
    show SimR s.log (P (nonStrict e) s) (P (strictOf e) s)
    rw [hi s]
    cases h : P (nonStrict e) s with
    | ok a s' | err a s' => rw [h] at h1; exact ⟨h1, fun _ => rfl⟩
    | panic | fuel => trivial

theorem Sim.scalar {α} {m : PM α} {g : α → Nat → Val} (h : Sim e m) :
    Sim e (m >>= fun v => A2l.Tree.getLineOffset >>= fun off => Pure.pure (g v off)) :=
  simCore.rules.withOff h

structure AllSim (e : Env) (fuel : Nat) : Prop where
  item : ∀ ctx it, Sim e (parseItem fuel ctx it)
  arr : ∀ ctx of n, Sim e (parseArr fuel ctx of n)
  seq : ∀ ctx of stop acc, Sim e (parseSeq fuel ctx of stop acc)
  items : ∀ ctx its, Sim e (parseItems fuel ctx its)
  tagged : ∀ ctx arms pib ch cm, Sim e (parseTagged fuel ctx arms pib ch cm)
  type : ∀ ty ctx off, Sim e (parseType fuel ty ctx off)

def Fwd (e : Env) {α} (P : PM α) : Prop :=
  ∀ s a s', P (strictOf e) s = .ok a s' → P (nonStrict e) s = .ok a s'

theorem Fwd.of_indep {α} {P : PM α} (h : Indep e P) : Fwd e P := fun s a s' hr => by rw [← h s]; exact hr

theorem fwdCore : ModeCore e (fun _ r₁ r₂ => ∀ a s', r₂ = .ok a s' → r₁ = .ok a s') where
  bind := fun {_ _ m f} h1 h2 s b s2 hr => by
    obtain ⟨a, s1, hm, hf⟩ := bind_eq_ok hr
    rw [bind_def, h1 s a s1 hm]
    exact h2 a s1 b s2 hf
  same := fun hi _ => Fwd.of_indep hi

structure AllFwd (e : Env) (fuel : Nat) : Prop where
  item : ∀ ctx it, seqSafeItem e.table it = true → Fwd e (parseItem fuel ctx it)
  arr : ∀ ctx of n, seqSafeItem e.table of = true → Fwd e (parseArr fuel ctx of n)
  seq : ∀ ctx of stop acc, quietItem e.table e.table.length of = true → Fwd e (parseSeq fuel ctx of stop acc)
  items : ∀ ctx its, its.all (seqSafeItem e.table) = true → Fwd e (parseItems fuel ctx its)
  tagged : ∀ ctx arms pib ch cm, Fwd e (parseTagged fuel ctx arms pib ch cm)
  type : ∀ ty ctx off, Fwd e (parseType fuel ty ctx off)

theorem Fwd.scalar {α} {m : PM α} {g : α → Nat → Val} (h : Fwd e m) :
    Fwd e (m >>= fun v => A2l.Tree.getLineOffset >>= fun off => Pure.pure (g v off)) :=
  fwdCore.rules.withOff h

/-- what the walk over the generated parsers needs of `K` besides `ModeCore`; `ok` is what it needs of an item type -/
structure ModeRules (e : Env) (K : ∀ {α : Type}, PState → PRes α → PRes α → Prop) (ok : ItemTy → Prop) : Prop where
  /-- a step that fails in strict mode and logs a problem otherwise (`error_or_log`, with or without line) -/
  problem : ∀ {P : PM Unit} {k : DK} {l : PState → Nat}, k ≠ .blockRefDeprecated ∧ k ≠ .enumRefDeprecated →
    (∀ s, P (nonStrict e) s = .ok () { s with log := ⟨k, l s⟩ :: s.log }) → (∀ s, P (strictOf e) s = .err ⟨k, l s⟩ s) →
    Rel2 e K P
  getNextTagOrComment : ∀ ctx, Rel2 e K (getNextTagOrComment ctx)
  special : ∀ ty ctx off, Rel2 e K (fun e s => e.special ty ctx off e.toks e.strict s)
  seqItem : ∀ fuel ctx {of stop}, ok (.seq of stop) → (ok of → Rel2 e K (parseItem fuel ctx of)) →
    Rel2 e K (attempt (parseItem fuel ctx of))
  ok_arr : ∀ {of n}, ok (.arr of n) → ok of
  ok_table : ∀ {ty isB items arms hT}, e.table.lookup ty = some (.block isB items arms hT) → ∀ it ∈ items, ok it

structure AllRel (K : ∀ {α : Type}, PState → PRes α → PRes α → Prop) (ok : ItemTy → Prop) (fuel : Nat) : Prop where
  item : ∀ ctx it, ok it → Rel2 e K (parseItem fuel ctx it)
  arr : ∀ ctx of n, ok of → Rel2 e K (parseArr fuel ctx of n)
  seq : ∀ ctx of stop acc, ok (.seq of stop) → Rel2 e K (parseSeq fuel ctx of stop acc)
  items : ∀ ctx its, (∀ it ∈ its, ok it) → Rel2 e K (parseItems fuel ctx its)
  tagged : ∀ ctx arms pib ch cm, Rel2 e K (parseTagged fuel ctx arms pib ch cm)
  type : ∀ ty ctx off, Rel2 e K (parseType fuel ty ctx off)

theorem ModeRules.errorOrLogNoLine {K : ∀ {α : Type}, PState → PRes α → PRes α → Prop} {ok : ItemTy → Prop}
    (H : ModeRules e K ok) {k : DK} (hk : k ≠ .blockRefDeprecated ∧ k ≠ .enumRefDeprecated) :
    Rel2 e K (errorOrLogNoLine k) :=
  H.problem (l := fun _ => 0) hk (fun s => (errorOrLogNoLine_eval k _ s).trans rfl)
    (fun s => (errorOrLogNoLine_eval k _ s).trans rfl)

section walk
variable {K : ∀ {α : Type}, PState → PRes α → PRes α → Prop} {ok : ItemTy → Prop} (C : ModeCore e K)
  (H : ModeRules e K ok)
include C H

theorem ModeRules.rules : PMRulesLog e (Rel2 e K) where
  toPMRules := C.rules
  errorOrLog := fun {k} hk => H.problem (l := fun s => s.lastLine) hk (fun s => (errorOrLog_eval k _ s).trans rfl)
    (fun s => (errorOrLog_eval k _ s).trans rfl)

theorem handleUnknown_rel (ctx : Ctx) (itemTag : List Char) (isB : Bool) (stop : List Nat) :
    Rel2 e K (handleUnknownTaggedstructTag ctx itemTag isB stop) := by
  have L := H.rules C
  unfold handleUnknownTaggedstructTag
  refine C.bind (L.errorOrLog (by decide)) (fun _ => ?_)
  refine C.bind (L.getToken ctx) (fun _ => ?_)
  refine C.bind C.undoGetToken (fun _ => ?_)
  exact L.getEnv_bind (fun _ => rfl) (skipUnknownLoop_rel C ctx itemTag isB stop _ _)

theorem allRel : ∀ fuel, AllRel (e := e) K ok fuel
  | 0 => ⟨fun _ _ _ => C.rules.outOfFuel, fun _ _ _ _ => C.rules.outOfFuel, fun _ _ _ _ _ => C.rules.outOfFuel,
      fun _ _ _ => C.rules.outOfFuel, fun _ _ _ _ _ => C.rules.outOfFuel, fun _ _ _ => C.rules.outOfFuel⟩
  | fuel + 1 => by
    have ih := allRel fuel
    have L := H.rules C
    have hW : ∀ {k : DK}, Rel2 e K (logWarning k) := C.logWarning _
    constructor
    · intro ctx it hit
      cases it with
      | structRef ty => rw [parseItem]; exact ih.type ty ctx 0
      | arr of dim => rw [parseItem]; exact L.bind (ih.arr ctx of dim (H.ok_arr hit)) (fun _ => L.pure _)
      | seq of stop => rw [parseItem]; exact L.bind (ih.seq ctx of stop [] hit) (fun _ => L.pure _)
      | _ => exact L.parseItem_scalar Rel2.getState_bind hW _ ctx _ rfl
    · intro ctx of n hit
      cases n with
      | zero => rw [parseArr]; exact L.pure _
      | succ n =>
        rw [parseArr]
        exact L.bind (ih.item ctx of hit) (fun _ => L.bind (ih.arr ctx of n hit) (fun _ => L.pure _))
    · intro ctx of stop acc hq
      rw [parseSeq]
      refine L.getTokenpos_bind (fun cur => ?_)
      refine L.bind (H.seqItem fuel ctx hq (ih.item ctx of)) (fun r => ?_)
      split
      · exact L.bind (L.setTokenpos _) (fun _ => L.pure _)
      · refine L.getEnv_bind (fun _ => rfl) ?_
        refine Rel2.getState_bind (fun s0 => ?_)
        dsimp only
        exact of_ite (L.bind (L.setTokenpos _) (fun _ => L.pure _)) (ih.seq ctx of stop _ hq)
    · intro ctx its hit
      cases its with
      | nil => rw [parseItems]; exact L.pure _
      | cons it its =>
        rw [parseItems]
        exact L.bind (ih.item ctx it (hit it (List.mem_cons_self ..))) (fun _ =>
          L.bind (ih.items ctx its (fun it' h => hit it' (List.mem_cons_of_mem _ h))) (fun _ => L.pure _))
    · intro ctx arms pib ch cm
      rw [parseTagged]
      refine L.bind (H.getNextTagOrComment ctx) (fun bc => ?_)
      cases bc with
      | comment tok off =>
        dsimp only
        exact of_ite (L.bind C.getNextId (fun _ => ih.tagged _ _ _ _ _)) (ih.tagged _ _ _ _ _)
      | none => exact L.pure _
      | block tok isB off =>
        dsimp only
        generalize List.findIdx? (fun x => x.tag == tok.sym) arms = oi
        cases oi with
        | none =>
          dsimp only
          refine of_ite ?_ (of_ite ?_ ?_)
          · exact L.bind (handleUnknown_rel C H ctx _ _ _) (fun _ => ih.tagged _ _ _ _ _)
          · exact L.bind C.undoGetToken (fun _ => L.bind C.undoGetToken (fun _ => L.pure _))
          · exact L.bind C.undoGetToken (fun _ => L.pure _)
        | some i =>
          dsimp only
          generalize arms[i]? = oarm
          cases oarm with
          | none => exact L.panic
          | some arm =>
            dsimp only
            refine L.condF (L.condF ?_)
            refine Rel2.getState_bind (fun s0 => ?_)
            refine L.condE (by decide) ?_
            refine Rel2.getState_bind (fun s1 => ?_)
            refine L.condW hW ?_
            refine L.bind (ih.type _ _ _) (fun v => ?_)
            exact of_ite (ih.tagged _ _ _ _ _) (L.condE (by decide) (ih.tagged _ _ _ _ _))
    · intro ty ctx off
      rw [parseType]
      refine L.getEnv_bind (fun _ => rfl) ?_
      split
      · rename_i isB items arms hT hlk
        refine L.bind C.getNextId (fun uid => ?_)
        refine L.bind (ih.items ctx items (H.ok_table hlk)) (fun fields => ?_)
        rw [ite_bind_eq]
        refine L.bind (of_ite (ih.tagged _ _ _ _ _) (L.pure _)) (fun x => ?_)
        obtain ⟨children, comments⟩ := x
        dsimp only
        refine L.bind (foldlM_rel C _ ?_ _ _) (fun _ => ?_)
        · intro u ac
          exact of_ite (of_ite (L.errorOrLog (by decide)) (L.fail _)) (L.pure _)
        · refine of_ite ?_ (L.pure _)
          refine L.bind (L.expectToken ctx 2) (fun _ => ?_)
          refine L.bind L.getLineOffset (fun endOff => ?_)
          refine L.bind (L.getIdentifier ctx) (fun ident => ?_)
          exact L.condE (by decide) (L.pure _)
      · exact H.special ty ctx off
      · exact L.panic

end walk

theorem simRules (hsp : SpecialSim e) (hm : SpecialSimMore e) : ModeRules e (fun s => SimR s.log) (fun _ => True) where
  problem := fun {P k l} hk hP _ s => by
    show SimR s.log (P (nonStrict e) s) (P (strictOf e) s)
    rw [hP]
    exact SimR.after (LExt.cons _ _) (r2 := .ok () { s with log := ⟨k, l s⟩ :: s.log }) ⟨LExt.refl _, fun _ => rfl⟩
      (fun hc => absurd hc.cons_inv (fun h => h.elim hk.1 hk.2))
  getNextTagOrComment := simCore.getNextTagOrComment (fun h hf => Sim.bind (Sim.attempt h) hf)
  special := by
    intro ty ctx off s
    obtain ⟨h1, -, -⟩ := hsp ty ctx off s
    obtain ⟨h2, h3, h4⟩ := hm ty ctx off s
    show SimR s.log (e.special ty ctx off e.toks false s) (e.special ty ctx off e.toks true s)
    cases hr : e.special ty ctx off e.toks false s with
    | ok v s' => exact ⟨h3 v s' hr, fun hc => h1 v s' hr hc⟩
    | err d s' => exact ⟨h4 d s' hr, fun hc => h2 d s' hr hc⟩
    | panic | fuel => trivial
  seqItem := fun _ _ _ _ _ h => Sim.attempt (h trivial)
  ok_arr := fun _ => trivial
  ok_table := fun _ _ _ => trivial

theorem allSim (hsp : SpecialSim e) (hm : SpecialSimMore e) (fuel : Nat) : AllSim e fuel :=
  have g := allRel simCore (simRules hsp hm) fuel
  ⟨fun ctx it => g.item ctx it trivial, fun ctx of n => g.arr ctx of n trivial,
   fun ctx of stop acc => g.seq ctx of stop acc trivial, fun ctx its => g.items ctx its (fun _ _ => trivial),
   g.tagged, g.type⟩

theorem fwdRules (hsafe : seqSafeDeep e.table = true) (hsp : SpecialSim e) :
    ModeRules e (fun _ r₁ r₂ => ∀ a s', r₂ = .ok a s' → r₁ = .ok a s') (fun it => seqSafeItem e.table it = true) where
  problem := fun _ _ hP s a s' hr => by rw [hP] at hr; cases hr
  getNextTagOrComment := fun ctx =>
    Fwd.of_indep (indepCore.getNextTagOrComment (fun h hf => Indep.bind (Indep.attempt h) hf) ctx)
  special := fun ty ctx off s v s' hr => (hsp ty ctx off s).2.1 v s' hr
  seqItem := fun fuel ctx _ _ hq _ => Fwd.of_indep (Indep.attempt (quiet_rel indepCore _ _ hq fuel ctx))
  ok_arr := fun h => h
  ok_table := fun hlk it hit => by
    obtain ⟨en, hmem, hd⟩ := lookup_mem hlk
    have := List.all_eq_true.1 hsafe en hmem
    rw [hd] at this
    exact List.all_eq_true.1 this it hit

theorem allFwd (hsafe : seqSafeDeep e.table = true) (hsp : SpecialSim e) (fuel : Nat) : AllFwd e fuel :=
  have g := allRel fwdCore (fwdRules hsafe hsp) fuel
  ⟨g.item, g.arr, g.seq, fun ctx its h => g.items ctx its (fun it hit => List.all_eq_true.1 h it hit), g.tagged, g.type⟩

section file
variable (hsp : SpecialSim e) (hm : SpecialSimMore e)
include hsp hm

theorem resetTail_sim (k : DK) (n : Nat) (hk : k ≠ .blockRefDeprecated ∧ k ≠ .enumRefDeprecated) :
    Sim e (A2l.Tree.setTokenpos 0 >>= fun _ => A2l.Tree.errorOrLogNoLine k >>= fun _ => Pure.pure n) :=
  have L := simCore.rules (e := e)
  L.bind (L.setTokenpos 0) (fun _ => L.bind ((simRules hsp hm).errorOrLogNoLine hk) (fun _ => L.pure _))

theorem parseVersion_sim (fuel : Nat) (ctx : Ctx) : Sim e (parseVersion fuel ctx) := by
  have H := simRules hsp hm
  have L := H.rules simCore
  have tail : ∀ {k : DK} {n : Nat}, k ≠ .blockRefDeprecated ∧ k ≠ .enumRefDeprecated →
      Sim e (A2l.Tree.errorOrLogNoLine k >>= fun _ => Pure.pure n) :=
    fun hk => L.bind (H.errorOrLogNoLine hk) (fun _ => L.pure _)
  show Rel2 e (fun s => SimR s.log) _
  unfold parseVersion
  refine L.getEnv_bind (fun _ => rfl) ?_
  refine L.peekToken_bind (fun o => ?_)
  cases o with
  | none => exact resetTail_sim hsp hm _ _ (by decide)
  | some token =>
    dsimp only
    refine L.bind (Sim.attempt (L.getIdentifier ctx)) (fun ident => ?_)
    refine Rel2.getState_bind (fun s1 => ?_)
    refine of_ite ?_ (resetTail_sim hsp hm _ _ (by decide))
    refine L.bind (Sim.attempt ((allRel simCore H fuel).type _ _ _)) (fun r => ?_)
    refine L.bind (L.setTokenpos 0) (fun _ => ?_)
    split
    · split
      · exact L.pure _
      · exact tail (by decide)
    · exact L.panic
    · exact tail (by decide)

theorem parseFile_sim (fuel : Nat) : Sim e (parseFile fuel) := by
  have H := simRules hsp hm
  have L := H.rules simCore
  show Rel2 e (fun s => SimR s.log) _
  unfold parseFile
  refine L.getEnv_bind (fun _ => rfl) ?_
  dsimp only
  refine L.bind (parseVersion_sim hsp hm fuel _) (fun ver => ?_)
  refine L.bind (simCore.modify _ (fun _ => rfl)) (fun _ => ?_)
  refine L.bind ((allRel simCore H fuel).type _ _ _) (fun file => ?_)
  refine L.peekToken_bind (fun o => ?_)
  split
  · exact L.bind (L.errorOrLog (by decide)) (fun _ => L.pure _)
  · exact L.pure _

end file

end A2l.Tree
