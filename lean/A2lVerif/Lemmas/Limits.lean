import A2lVerif.Model.Limits
import Mathlib.Algebra.Order.Field.Rat
/-! Lemmas about the limit model (`Model/Limits.lean`) for C12: the image of an interval under an affine map, the
    decision. -/
namespace A2l.Lim

theorem ratAbs_nonneg (x : Rat) : 0 ≤ ratAbs x := by
  unfold ratAbs
  split
  · rename_i h
    exact neg_nonneg.2 h.le
  · rename_i h
    exact not_lt.1 h

/-- an affine map of non-zero slope maps `[lo, hi]` onto the interval between the images of its ends -/
theorem affine_interval (a d lo hi : Rat) (ha : a ≠ 0) (hle : lo ≤ hi) :
    ∃ L U, (if a * lo + d > a * hi + d then some (a * hi + d, a * lo + d) else some (a * lo + d, a * hi + d)) = some (L, U) ∧
      ∀ y, (lo ≤ y ∧ y ≤ hi) ↔ (L ≤ a * y + d ∧ a * y + d ≤ U) := by
  rcases lt_or_gt_of_ne ha with hneg | hpos
  · have key : ∀ u v, a * u + d ≤ a * v + d ↔ v ≤ u := fun u v => by
      rw [add_le_add_iff_right, mul_le_mul_left_of_neg hneg]
    by_cases hgt : a * hi + d < a * lo + d
    · exact ⟨_, _, if_pos hgt, fun y => by rw [key, key]; exact and_comm⟩
    · obtain rfl : lo = hi := le_antisymm hle ((key lo hi).1 (not_lt.mp hgt))
      exact ⟨_, _, if_neg hgt, fun y => by rw [key, key]; exact and_comm⟩
  · have key : ∀ u v, a * u + d ≤ a * v + d ↔ u ≤ v := fun u v => by
      rw [add_le_add_iff_right, mul_le_mul_iff_right₀ hpos]
    exact ⟨_, _, if_neg (not_lt.mpr ((key lo hi).2 hle)), fun y => by rw [key, key]⟩

theorem limitsValid_eq_false_iff (ex cl : Rat × Rat) :
    limitsValid ex cl = false ↔ (ex.1 < cl.1 - ratAbs (cl.1 * tol) ∨ ex.2 > cl.2 + ratAbs (cl.2 * tol)) := by
  rw [← Bool.not_eq_true]
  simp only [limitsValid, Bool.and_eq_true, decide_eq_true_eq, not_and_or, not_le]
  exact or_congr lt_sub_comm lt_sub_iff_add_lt'

theorem limitsValidStrict_eq_false_iff (ex cl : Rat × Rat) :
    limitsValidStrict ex cl = false ↔ (ex.1 < cl.1 ∨ ex.2 > cl.2) := by
  simp only [limitsValidStrict, Bool.not_eq_false', Bool.or_eq_true, decide_eq_true_eq, gt_iff_lt]

theorem reportsError_of_calc (carrier : Carrier) (conv : Conv) (dt : DataType) (ex cl : Rat × Rat)
    (h : calcLimits conv dt = some cl) :
    reportsError carrier conv dt ex = some (!limitsValid ex cl) := by
  unfold reportsError
  rw [h]

end A2l.Lim
