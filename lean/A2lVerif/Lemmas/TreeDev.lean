import A2lVerif.Lemmas.TreeMonad
/-! The generated enum parser after a valid identifier (`parseEnum_valid`), and one arm of the tagged loop unfolded
    (`taggedArmBody`, `parseTagged_arm`): the deviation classes of C04 are read off these, and
    Lemmas/RT and Lemmas/PO follow the tagged loop through the arm form. -/
namespace A2l.Tree
open A2l.G

theorem parseEnum_valid (items : List EnumItem) (ctx : Ctx) (e : Env) (s : PState) (t : PTok)
    (h : e.toks[s.pos]? = some t) (hty : t.ty = 0)
    (hvalid : ∃ c cs, t.text = c :: cs ∧ isAsciiDigit c = false ∧ utf8Len t.text ≤ 1024) :
    parseEnum items ctx e s =
      (match lookupEnumItem items t.sym with
        | some it => (do
          if it.vlo ≠ 0 ∧ s.ver < it.vlo then errorOrLog .enumRefTooNew
          if it.vhi ≠ 0 ∧ s.ver > it.vhi then logWarning .enumRefDeprecated
          pure t.text : PM (List Char))
        | none => fail .invalidEnumValue) e { s with pos := s.pos + 1, lastLine := t.line } := by
  obtain ⟨c, cs, htext, hdig, hlen⟩ := hvalid
  rw [parseEnum, bind_def, getIdentifier_valid (expectToken_match ctx 0 e s t h hty (by decide)) htext hdig hlen]
  simp only [getEnv_bind, getState_bind, Nat.add_sub_cancel, h]
  rfl

/-- what `parseTagged` does with a recognised tag once the block-form check has passed: version checks, the
    element's own parser, multiplicity, next turn -/
def taggedArmBody (fuel : Nat) (ctx : Ctx) (arms : List Arm) (parentIsBlock : Bool) (children : List (List Val))
    (comments : List Cmt) (tok : PTok) (off i : Nat) (arm : Arm) : PM (List (List Val) × List Cmt) := do
  let s ← getState
  if arm.vlo ≠ 0 ∧ s.ver < arm.vlo then errorOrLog .blockRefTooNew
  let s ← getState
  if arm.vhi ≠ 0 ∧ s.ver > arm.vhi then logWarning .blockRefDeprecated
  let v ← parseType fuel arm.ty ⟨tok.text, tok.fileid, tok.line⟩ off
  if arm.repeat_ then
    parseTagged fuel ctx arms parentIsBlock (setAt children i (· ++ [v])) comments
  else do
    let present := match children[i]? with | some (_ :: _) => true | _ => false
    if present then errorOrLog .invalidMultiplicityTooMany
    parseTagged fuel ctx arms parentIsBlock (setAt children i (fun _ => [v])) comments

theorem parseTagged_arm (e : Env) (s s1 : PState) (ctx : Ctx) (arms : List Arm) (pib : Bool)
    (children : List (List Val)) (comments : List Cmt) (fuel : Nat) (tok : PTok) (isBlock : Bool) (off i : Nat) (arm : Arm)
    (hget : getNextTagOrComment ctx e s = .ok (.block tok isBlock off) s1)
    (hidx : arms.findIdx? (·.tag == tok.sym) = some i) (harm : arms[i]? = some arm) :
    parseTagged (fuel + 1) ctx arms pib children comments e s =
      if arm.block = isBlock then taggedArmBody fuel ctx arms pib children comments tok off i arm e s1
      else .err ⟨if arm.block then .incorrectBlockError else .incorrectKeywordError, s1.lastLine⟩ s1 := by
  rw [parseTagged, bind_def, hget]
  dsimp only
  rw [hidx]
  dsimp only
  rw [harm]
  dsimp only
  cases arm.block <;> cases isBlock <;> rfl

end A2l.Tree
