import A2lVerif.Lemmas.CleanupTerm
/-! `cleanup` as a list of elementary passes of four shapes (`pipeline`, `cleanup_eq_runs`). What a pass does to the
children it does not look at (`only`), to the names (`namesOf`), that it only removes (`Sub`) and that it lets no reference
dangle (`Pres`) is proved once per shape and carried over a list of passes by one induction each. What a pass leaves behind
(`Post`: the pass finds nothing to do) survives a later pass if the two are compatible, a decidable condition on the
pair (`compat`, `post_stable`); a list of passes that are compatible in order is idempotent (`runs_idem`). That the list
of `cleanup.rs` is such a list is evaluated once (`pipeline_facts`). -/
namespace A2l.Cl

inductive Pass where
  /-- drop the selected references that name no child with a keyword in `T` -/
  | fix (sel : Sel) (T : List String)
  /-- delete the children with a keyword in `tags` that no selected reference names -/
  | prune (tags : List String) (sel : Sel)
  /-- the UNIT half of `remove_unused_sub_elements` -/
  | units
  /-- a work-queue deletion -/
  | queue (c : WL)

namespace Pass

def run : Pass → Module → Module
  | fix sel T, m => dropRefs sel (fun t => (namesOf T m).contains t) m
  | prune tags sel, m => retainNodes tags (fun t => (targetsOf sel m).contains t) m
  | units, m =>
    retainNodes ["UNIT"] (fun t => (unitClosure m (refCount m + 1) (targetsOf unitUseSel m)).contains t) m
  | queue c, m => deleteEmpty c m

/-- the keywords of the children a pass may alter or delete -/
def touch : Pass → List String
  | fix sel _ => sel.map (·.1)
  | prune tags _ => tags
  | units => ["UNIT"]
  | queue c => [c.tag]

/-- the keywords of the children a pass may delete -/
def dels : Pass → List String
  | fix _ _ => []
  | p => p.touch

/-- the fields through which a pass finds the children it keeps: its own field, if it has one, and the uses from outside -/
def guards : Pass → Sel
  | fix _ _ => []
  | prune _ sel => sel
  | units => ("UNIT", "RefUnit.unit") :: unitUseSel
  | queue c => (c.tag, c.subSite) :: c.usedSel

/-- The pass lets no reference in a field of `sel` lose its target among the children with a keyword in `T`: it deletes
    no such child, or the fields of `sel` are among those whose targets it keeps. -/
def keeps (T : List String) (sel : Sel) (p : Pass) : Bool := p.dels.all (!T.contains ·) || sel.all p.guards.contains

def away (sel : Sel) (p : Pass) : Bool := sel.all fun s => !p.touch.contains s.1

/-- what a pass leaves behind: it finds nothing to do -/
def Post : Pass → Module → Prop
  | fix sel T, m => ∀ n ∈ m, ∀ r ∈ n.refs, (n.tag, r.site) ∈ sel → r.target ∈ namesOf T m
  | prune tags sel, m => ∀ x ∈ m, x.tag ∈ tags → x.name ∈ targetsOf sel m
  | units, m => ∀ x ∈ m, x.tag = "UNIT" → UReach m (targetsOf unitUseSel m) x.name
  | queue c, m => ∀ n ∈ m, queueable c (targetsOf c.usedSel m) n = false

/-- The pass establishes its postcondition: it deletes no child that holds a field it collects the used names from
    (a UNIT is used through a field of a UNIT, which is why UNITs need the closure and not a `prune`); for a work queue
    also the hypothesis of `drained_true`. -/
def wf : Pass → Bool
  | fix _ _ => true
  | prune tags sel => away sel (prune tags sel)
  | units => away unitUseSel units
  | queue c => away c.usedSel (queue c) && c.content.contains c.subSite

end Pass

/-- the repair `fix sel' T'` drops no use, through a field of `sel`, of a child with a keyword in `tags` that exists -/
def keepsUse (tags : List String) (sel sel' : Sel) (T' : List String) : Bool :=
  sel.all fun s => !sel'.contains s || tags.all T'.contains

/-- `p'` keeps the postcondition of `p`. After a repair `p' = fix sel' T'`: a use of a child that exists is not
    dropped; after a deletion: the fields that `p.Post` reads (those of `p.guards`) are in children that `p'` does not
    touch. -/
def compat : Pass → Pass → Bool
  | .fix sel T, p' => p'.keeps T sel
  | .prune tags sel, .fix sel' T' => keepsUse tags sel sel' T'
  | .units, .fix sel' T' => !sel'.contains ("UNIT", "RefUnit.unit") && keepsUse ["UNIT"] unitUseSel sel' T'
  | .queue c, .fix sel' T' => keepsUse [c.tag] c.usedSel sel' T' &&
      sel'.all fun s => s.1 != c.tag || !c.content.contains s.2
  | p, p' => p'.away p.guards

def runs (ps : List Pass) (m : Module) : Module := ps.foldl (fun m p => p.run m) m

theorem runs_cons (p : Pass) (ps : List Pass) (m : Module) : runs (p :: ps) m = runs ps (p.run m) := rfl

theorem runs_append (ps ps' : List Pass) (m : Module) : runs (ps ++ ps') m = runs ps' (runs ps m) :=
  List.foldl_append

def okPipeline : List Pass → Bool
  | [] => true
  | p :: ps => p.wf && ps.all (compat p) && okPipeline ps

variable {p p' : Pass} {ps : List Pass} {m : Module} {T tags : List String} {sel : Sel} {n : Node}

theorem only_run (q : String → Bool) (h : ∀ t ∈ p.touch, q t = false) : only q (p.run m) = only q m := by
  cases p with
  | fix sel T => exact only_dropRefs_untouched q fun s hs => h _ (List.mem_map_of_mem hs)
  | prune tags sel => exact only_retainNodes_untouched q h
  | units => exact only_retainNodes_untouched q h
  | queue c => exact only_deleteEmpty_untouched q (h _ List.mem_cons_self)

theorem only_runs (q : String → Bool) (h : ∀ p ∈ ps, ∀ t ∈ p.touch, q t = false) :
    only q (runs ps m) = only q m :=
  List.foldlRecOn (motive := fun m' => only q m' = only q m) ps _ rfl fun _ e p hp => (only_run q (h p hp)).trans e

theorem only_off_touch : only (fun t => !p.touch.contains t) (p.run m) = only (fun t => !p.touch.contains t) m :=
  only_run _ fun t ht => by simp [ht]

theorem mem_run_iff (h : n.tag ∉ p.touch) : n ∈ p.run m ↔ n ∈ m := by
  have := congrArg (n ∈ ·) (only_off_touch (p := p) (m := m))
  simpa [only, h] using this

theorem away_iff : p.away sel = true ↔ ∀ s ∈ sel, s.1 ∉ p.touch := by
  simp only [Pass.away, List.all_eq_true, Bool.not_eq_true', ← Bool.not_eq_true, List.contains_iff_mem]

theorem targetsOf_run (h : p.away sel = true) : targetsOf sel (p.run m) = targetsOf sel m :=
  targetsOf_eq_of_only _ (fun s hs => by simpa using away_iff.1 h s hs) only_off_touch

theorem namesOf_run (h : ∀ t ∈ p.dels, t ∉ T) : namesOf T (p.run m) = namesOf T m := by
  cases p with
  | fix sel T' => exact namesOf_dropRefs
  | _ =>
    exact namesOf_eq_of_only (fun t => T.contains t) (fun _ ht => List.contains_iff_mem.2 ht)
      (only_run _ fun t ht => by simpa using h t ht)

theorem namesOf_runs (h : ∀ p ∈ ps, ∀ t ∈ p.dels, t ∉ T) : namesOf T (runs ps m) = namesOf T m :=
  List.foldlRecOn (motive := fun m' => namesOf T m' = namesOf T m) ps _ rfl fun _ e p hp => (namesOf_run (h p hp)).trans e

theorem sub_run : Sub m (p.run m) := by
  cases p with
  | fix sel T => exact sub_dropRefs
  | prune tags sel => exact sub_retainNodes
  | units => exact sub_retainNodes
  | queue c => exact sub_deleteEmpty

theorem sub_runs : Sub m (runs ps m) := List.foldlRecOn (motive := Sub m) ps _ (Sub.refl m) fun _ h _ _ => h.trans sub_run

theorem keys_run : ((p.run m).map key).Sublist (m.map key) := by
  cases p with
  | fix sel T => exact keys_dropRefs
  | prune tags sel => exact keys_retainNodes
  | units => exact keys_retainNodes
  | queue c => exact keys_deleteEmpty

theorem keys_runs : ((runs ps m).map key).Sublist (m.map key) :=
  List.foldlRecOn (motive := fun m' : Module => (m'.map key).Sublist (m.map key)) ps _ (List.Sublist.refl _) fun _ h _ _ =>
    keys_run.trans h

variable {ok : String → String → Prop}

theorem pres_run (hok : ∀ tag site, ok tag site → (tag, site) ∈ sel) (h : p.keeps T sel = true) :
    Pres T ok m (p.run m) := by
  have imp : ∀ tag site, ok tag site → ∀ t ∈ p.dels, t ∈ T → (tag, site) ∈ p.guards := fun tag site ho t ht hT => by
    rcases Bool.or_eq_true_iff.1 h with h | h
    · have := List.all_eq_true.1 h t ht
      rw [List.contains_iff_mem.2 hT] at this
      cases this
    · exact List.contains_iff_mem.1 (List.all_eq_true.1 h _ (hok tag site ho))
  cases p with
  | fix sel' T' => exact pres_of_names namesOf_dropRefs
  | prune tags sel' => exact pres_retain fun tag site ho ⟨t, ht, hT⟩ => imp tag site ho t ht hT
  | units => exact pres_retainUnits fun tag site ho => imp tag site ho _ List.mem_cons_self
  | queue c => exact pres_deleteEmpty fun tag site ho => imp tag site ho _ List.mem_cons_self

theorem pres_runs (hok : ∀ tag site, ok tag site → (tag, site) ∈ sel) (h : ∀ p ∈ ps, p.keeps T sel = true) :
    Pres T ok m (runs ps m) :=
  List.foldlRecOn (motive := Pres T ok m) ps _ (fun _ _ _ _ _ h => h) fun _ hm p hp =>
    hm.trans sub_run (pres_run hok (h p hp))

theorem run_eq_self (h : p.Post m) : p.run m = m := by
  cases p with
  | fix sel T => exact dropRefs_eq_self fun n hn r hr hs => List.contains_iff_mem.2 (h n hn r hr hs)
  | prune tags sel => exact retainNodes_eq_self fun x hx ht => List.contains_iff_mem.2 (h x hx ht)
  | units =>
    refine retainNodes_eq_self fun x hx ht => ?_
    rw [List.contains_iff_mem, mem_unitClosure]
    exact h x hx (List.mem_singleton.1 ht)
  | queue c => exact deleteEmpty_eq_self h

theorem runs_eq_self (h : ∀ p ∈ ps, p.Post m) : runs ps m = m :=
  List.foldlRecOn (motive := (· = m)) ps _ rfl fun _ e p hp => e.symm ▸ run_eq_self (h p hp)

/-- a path whose UNITs are all still there -/
theorem UReach.mono {s s' : Module} {u u' : List String} {t : String}
    (hm : ∀ n ∈ s, n.tag = "UNIT" → UReach s u n.name → n ∈ s') (hu : ∀ t ∈ u, t ∈ u') (h : UReach s u t) :
    UReach s' u' t := by
  induction h with
  | base h => exact UReach.base (hu _ h)
  | step hn ht hreach hr hs ih => exact UReach.step (hm _ hn ht hreach) ht ih hr hs

theorem post_run (h : p.wf = true) : p.Post (p.run m) := by
  cases p with
  | fix sel T =>
    intro n' hn' r hr hs
    obtain ⟨n, hn, rfl⟩ := mem_dropRefs.1 hn'
    rw [Pass.run, namesOf_dropRefs]
    exact List.contains_iff_mem.1 ((mem_dropIn_refs.1 hr).2 hs)
  | prune tags sel =>
    intro x hx ht
    rw [targetsOf_run h]
    exact List.contains_iff_mem.1 ((mem_retainNodes.1 hx).2 ht)
  | units =>
    intro x hx ht
    have hx' := (mem_retainNodes.1 hx).2 (List.mem_singleton.2 ht)
    rw [List.contains_iff_mem, mem_unitClosure] at hx'
    rw [targetsOf_run h]
    refine hx'.mono (fun n hn _ hreach => mem_retainNodes.2 ⟨hn, fun _ => ?_⟩) fun _ h => h
    rw [List.contains_iff_mem, mem_unitClosure]
    exact hreach
  | queue c =>
    rw [Pass.wf, Bool.and_eq_true] at h
    intro n hn
    rw [targetsOf_run h.1]
    exact deleteEmpty_no_queueable (drained_true (List.contains_iff_mem.1 h.2) m) hn

theorem mem_targetsOf_fix {sel' : Sel} {T' : List String} {t : String} (h : keepsUse tags sel sel' T' = true)
    (ht : t ∈ targetsOf sel m) (hn : t ∈ namesOf tags m) : t ∈ targetsOf sel (Pass.run (.fix sel' T') m) := by
  obtain ⟨n, hn', r, hr, hs, hrt⟩ := mem_targetsOf.1 ht
  obtain ⟨x, hx, hxt, hxn⟩ := mem_namesOf.1 hn
  refine mem_targetsOf.2 ⟨_, mem_dropRefs.2 ⟨n, hn', rfl⟩, r, mem_dropIn_refs.2 ⟨hr, fun hs' => ?_⟩, hs, hrt⟩
  -- the child that is used is what the repair looks for
  have hT := Bool.or_eq_true_iff.1 (List.all_eq_true.1 h _ hs)
  rw [List.contains_iff_mem.2 hs'] at hT
  exact List.contains_iff_mem.2 (mem_namesOf.2
    ⟨x, hx, List.contains_iff_mem.1 (List.all_eq_true.1 (hT.resolve_left nofun) _ hxt), hrt ▸ hxn⟩)

theorem post_stable (h : compat p p' = true) (hp : p.Post m) : p.Post (p'.run m) := by
  cases p with
  | fix sel T =>
    intro n' hn' r hr hs
    obtain ⟨n, hn, ht, _, hrs⟩ := sub_run (p := p') n' hn'
    exact pres_run (ok := fun tag site => (tag, site) ∈ sel) (fun _ _ h => h) h n' hn' r hr hs
      (hp n hn r (hrs r hr) (ht ▸ hs))
  | prune tags sel =>
    cases p' with
    | fix sel' T' =>
      intro x' hx' ht
      obtain ⟨x, hx, rfl⟩ := mem_dropRefs.1 hx'
      exact mem_targetsOf_fix h (hp x hx ht) (mem_namesOf.2 ⟨x, hx, ht, rfl⟩)
    | _ =>
      intro x' hx' ht
      obtain ⟨x, hx, ht', hn', _⟩ := sub_run x' hx'
      rw [targetsOf_run (sel := sel) h, ← hn']
      exact hp x hx (ht' ▸ ht)
  | units =>
    cases p' with
    | fix sel' T' =>
      rw [compat, Bool.and_eq_true, Bool.not_eq_true'] at h
      have hU : ∀ n : Node, n.tag = "UNIT" → ∀ r : Ref, r.site = "RefUnit.unit" → (n.tag, r.site) ∉ sel' :=
        fun n ht r hs hm => by rw [ht, hs, ← List.contains_iff_mem, h.1] at hm; cases hm
      -- a path between UNITs that are left: the repair drops no REF_UNIT of a UNIT, and none of a COMPU_METHOD to a UNIT
      have main : ∀ t, UReach m (targetsOf unitUseSel m) t → t ∈ namesOf ["UNIT"] m →
          UReach (Pass.run (.fix sel' T') m) (targetsOf unitUseSel (Pass.run (.fix sel' T') m)) t := by
        intro t hreach
        induction hreach with
        | base h0 => exact fun hname => UReach.base (mem_targetsOf_fix h.2 h0 hname)
        | @step u r hu hut _ hr hs ih =>
          intro _
          exact UReach.step (mem_dropRefs.2 ⟨u, hu, rfl⟩) hut
            (ih (mem_namesOf.2 ⟨u, hu, List.mem_singleton.2 hut, rfl⟩))
            (mem_dropIn_refs.2 ⟨hr, fun hm => absurd hm (hU u hut r hs)⟩) hs
      intro x' hx' ht
      obtain ⟨x, hx, rfl⟩ := mem_dropRefs.1 hx'
      exact main _ (hp x hx ht) (mem_namesOf.2 ⟨x, hx, List.mem_singleton.2 ht, rfl⟩)
    | _ =>
      have hto := away_iff.1 h
      intro x' hx' ht
      obtain ⟨x, hx, ht', hn', _⟩ := sub_run x' hx'
      rw [← hn']
      refine (hp x hx (ht'.trans ht)).mono (fun n hn hnt _ => (mem_run_iff ?_).2 hn) fun t => ?_
      · exact hnt ▸ hto _ List.mem_cons_self
      · rw [targetsOf_run (sel := unitUseSel)]
        · exact id
        · exact away_iff.2 fun s hs => hto _ (List.mem_cons_of_mem _ hs)
  | queue c =>
    intro n' hn'
    refine queueable_eq_false_iff.2 fun hc => ?_
    cases p' with
    | fix sel' T' =>
      rw [compat, Bool.and_eq_true, List.all_eq_true] at h
      obtain ⟨n, hn, rfl⟩ := mem_dropRefs.1 hn'
      -- an item that is used stays used, one that has content keeps it
      refine (queueable_eq_false_iff.1 (hp n hn) hc).imp (fun hu => mem_targetsOf_fix h.1 hu
        (mem_namesOf.2 ⟨n, hn, List.mem_singleton.2 hc, rfl⟩)) fun he => ?_
      rwa [isEmpty_dropIn fun r _ hs => by
        have := h.2 _ hs
        rw [Bool.or_eq_true, bne_iff_ne, Bool.not_eq_true'] at this
        exact this.resolve_left fun hne => hne hc]
    | _ =>
      have hto := away_iff.1 h
      rw [targetsOf_run (away_iff.2 fun s hs => hto _ (List.mem_cons_of_mem _ hs))]
      exact queueable_eq_false_iff.1 (hp n' ((mem_run_iff (hc ▸ hto _ List.mem_cons_self)).1 hn')) hc

theorem post_runs (h : ∀ p' ∈ ps, compat p p' = true) (hp : p.Post m) : p.Post (runs ps m) :=
  List.foldlRecOn (motive := p.Post) ps _ hp fun _ hm p' hp' => post_stable (h p' hp') hm

theorem post_of_ok (h : okPipeline ps = true) (hp : p ∈ ps) : p.Post (runs ps m) := by
  induction ps generalizing m with
  | nil => cases hp
  | cons p0 ps ih =>
    rw [okPipeline, Bool.and_eq_true, Bool.and_eq_true, List.all_eq_true] at h
    rw [runs_cons]
    rcases List.mem_cons.1 hp with rfl | hp
    · exact post_runs h.1.2 (post_run h.1.1)
    · exact ih h.2 hp

theorem runs_idem (h : okPipeline ps = true) : runs ps (runs ps m) = runs ps m :=
  runs_eq_self fun _ hp => post_of_ok h hp

/-- `cleanup.rs` with the four parts in order -/
def pipeline : List Pass :=
  [.fix groupRefSel groupObjTags, .queue groupWL,
   .fix funcRefSel ["FUNCTION"], .fix funcObjSel objectTags, .queue functionWL,
   .fix convRepairSel ["COMPU_METHOD"], .prune ["COMPU_METHOD"] convUseSel, .prune tabTags tabUseSel, .units,
   .fix [("COMPU_METHOD", "CompuTabRef.conversion_table")] tabTags, .fix [("COMPU_METHOD", "RefUnit.unit")] ["UNIT"],
   .prune ["RECORD_LAYOUT"] layoutUseSel]

/-- The two places where the model, like `compu_methods.rs`, reads a set one step earlier than the list of passes does:
    the units used by COMPU_METHODs (collected before the tables are deleted) and the UNIT names (looked up in the loop
    that repairs the table references); neither step changes the set. -/
theorem cleanup_eq_runs (m : Module) : cleanup m = runs pipeline m := by
  simp only [pipeline, runs, List.foldl_cons, List.foldl_nil, Pass.run]
  rw [namesOf_dropRefs (T := ["UNIT"]),
    show targetsOf unitUseSel (retainNodes tabTags _ _) = _ from
      targetsOf_run (p := .prune tabTags tabUseSel) (by decide +kernel)]
  rfl

def allNs : List Ns :=
  [.object, .typedef, .convTab, .compuMethod, .unit, .recordLayout, .function, .group, .transformer, .frame]

/-- No pass lets a reference to a child of the name space lose its target: the passes keep the targets of the
    reference fields of the name space (`refSel`), or they delete no child of a name space that has none. -/
def presOk (ns : Ns) (ps : List Pass) : Bool :=
  match refSel ns with
  | some sel => ps.all (·.keeps ns.tags sel)
  | none => ps.all fun p => p.dels.all (!ns.tags.contains ·)

/-- What is specific to the passes of `cleanup.rs`, their selectors and keywords, evaluated: each pass is compatible
    with the later ones; no reference is left dangling in any name space; apart from the two repairs of function and
    conversion references the passes touch deletable children only, and the names those repairs check against are
    not deleted before. One statement, so that the kernel decodes each literal once. -/
theorem pipeline_facts : okPipeline pipeline = true ∧ (∀ ns ∈ allNs, presOk ns pipeline = true) ∧
    (∀ p ∈ pipeline.take 2 ++ (pipeline.drop 3).take 2 ++ pipeline.drop 6, ∀ t ∈ p.touch, nh t = false) ∧
    (∀ p ∈ pipeline.take 2, ∀ t ∈ p.dels, t ∉ ["FUNCTION"]) ∧
    (∀ p ∈ pipeline.take 5, ∀ t ∈ p.dels, t ∉ ["COMPU_METHOD"]) := by decide +kernel

theorem post_cleanup {i : Nat} (h : pipeline[i]? = some p) (m : Module) : p.Post (cleanup m) :=
  cleanup_eq_runs m ▸ post_of_ok pipeline_facts.1 (List.mem_of_getElem? h)

theorem keys_cleanup (m : Module) : ((cleanup m).map key).Sublist (m.map key) := cleanup_eq_runs m ▸ keys_runs

theorem sub_cleanup : Sub m (cleanup m) := cleanup_eq_runs m ▸ sub_runs

def okNs (ns : Ns) (tag site : String) : Prop := siteNs site = some ns ∧ siteOk tag site = true

theorem pres_cleanup (ns : Ns) (m : Module) : Pres ns.tags (okNs ns) m (cleanup m) := by
  have h := pipeline_facts.2.1 ns (by cases ns <;> decide)
  rw [cleanup_eq_runs]
  unfold presOk at h
  cases hs : refSel ns with
  | none =>
    simp only [hs, List.all_eq_true, Bool.not_eq_true', ← Bool.not_eq_true, List.contains_iff_mem] at h
    exact pres_of_names (namesOf_runs h)
  | some sel =>
    simp only [hs, List.all_eq_true] at h
    refine pres_runs (fun tag site hok => ?_) h
    have := hok.2
    rw [siteOk, hok.1] at this
    simp only [hs] at this
    exact List.contains_iff_mem.1 this

theorem only_nh_cleanup (m : Module) : only nh (cleanup m) = (only nh m).map (repair m) := by
  -- the passes before, between and after the two repairs leave the children alone that are never deleted
  obtain ⟨-, -, hnh, hF, hM⟩ := pipeline_facts
  have e5 : pipeline.take 5 = pipeline.take 2 ++ .fix funcRefSel ["FUNCTION"] :: (pipeline.drop 3).take 2 := rfl
  have e : pipeline = pipeline.take 5 ++ .fix convRepairSel ["COMPU_METHOD"] :: pipeline.drop 6 := rfl
  rw [cleanup_eq_runs]
  conv => lhs; rw [e]
  rw [runs_append, runs_cons, only_runs nh fun p hp => hnh p (List.mem_append_right _ hp), Pass.run, only_dropRefs,
    namesOf_runs hM, e5, runs_append, runs_cons,
    only_runs nh fun p hp => hnh p (List.mem_append_left _ (List.mem_append_right _ hp)), Pass.run, only_dropRefs,
    namesOf_runs hF, only_runs nh fun p hp => hnh p (List.mem_append_left _ (List.mem_append_left _ hp)),
    dropRefs_eq_map, dropRefs_eq_map, List.map_map]
  rfl

end A2l.Cl
