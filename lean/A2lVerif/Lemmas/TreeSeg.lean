import A2lVerif.Lemmas.Basics
import A2lVerif.Lemmas.RT.Defs
import A2lVerif.Lemmas.TreeMonad
/-! # The input tokens between two cursor positions; what a successful run consumed and returned

`X_ok`: what a successful call of the cursor primitive `X` says, in either mode; `X_inv`: what a successful run of the parser
function `X` did, whatever its fuel.
-/
namespace A2l.Tree
open A2l.G A2l.Sc

def seg (e : Env) (a b : Nat) : List PTok := (e.toks.toList.drop a).take (b - a)

theorem seg_self (e : Env) (a : Nat) : seg e a a = [] := by simp [seg]

theorem seg_append (e : Env) {a b c : Nat} (h1 : a ≤ b) (h2 : b ≤ c) : seg e a b ++ seg e b c = seg e a c := by
  obtain ⟨k, rfl⟩ := Nat.exists_eq_add_of_le h1
  obtain ⟨m, rfl⟩ := Nat.exists_eq_add_of_le h2
  unfold seg
  rw [Nat.add_sub_cancel_left, Nat.add_sub_cancel_left, Nat.add_assoc, Nat.add_sub_cancel_left, List.take_add,
    List.drop_drop]

theorem seg_one (e : Env) {a : Nat} {t : PTok} (h : e.toks[a]? = some t) : seg e a (a + 1) = [t] := by
  unfold seg
  rw [drop_eq_cons h]
  simp

theorem seg_length_le (e : Env) (a b : Nat) : (seg e a b).length ≤ b - a := by
  unfold seg
  rw [List.length_take]
  exact Nat.min_le_left _ _

theorem seg_length (e : Env) {a b : Nat} (h : b ≤ e.toks.size) : (seg e a b).length = b - a := by
  unfold seg
  rw [List.length_take, List.length_drop, Array.length_toList]
  exact Nat.min_eq_left (Nat.sub_le_sub_right h a)

theorem seg_cons (e : Env) {a b : Nat} {t : PTok} (h : e.toks[a]? = some t) (hab : a < b) :
    seg e a b = t :: seg e (a + 1) b := by
  rw [← seg_append e (Nat.le_succ a) hab, seg_one e h]; rfl

theorem seg_of_ge (e : Env) {b : Nat} (h : e.toks.size ≤ b) : seg e 0 b = e.toks.toList := by
  unfold seg
  simp only [List.drop_zero, Nat.sub_zero]
  exact List.take_of_length_le (by simpa using h)

theorem seg_all (e : Env) : seg e 0 e.toks.size = e.toks.toList := seg_of_ge e (Nat.le_refl _)

def tailFrom (e : Env) (a : Nat) : List PTok := e.toks.toList.drop a

theorem tailFrom_seg (e : Env) {a b : Nat} (h : a ≤ b) : tailFrom e a = seg e a b ++ tailFrom e b := by
  unfold tailFrom seg
  rw [show e.toks.toList.drop b = (e.toks.toList.drop a).drop (b - a) by rw [List.drop_drop, Nat.add_sub_cancel' h]]
  exact (List.take_append_drop _ _).symm

theorem tailFrom_length (e : Env) (a : Nat) : (tailFrom e a).length = e.toks.size - a := by
  unfold tailFrom
  rw [List.length_drop, Array.length_toList]

theorem comments_split_unique {t t0 : PTok} (ht : t.ty ≠ 6) (ht0 : t0.ty ≠ 6) {cs : List PTok} :
    ∀ {cs0 r r0 : List PTok}, (∀ x ∈ cs, x.ty = 6) → (∀ x ∈ cs0, x.ty = 6) → cs ++ t :: r = cs0 ++ t0 :: r0 →
      cs = cs0 ∧ t = t0 ∧ r = r0 := by
  induction cs with
  | nil =>
    intro cs0 r r0 _ hc0 h
    cases cs0 with
    | nil => exact ⟨rfl, List.cons.inj h⟩
    | cons c0 cs0 => exact absurd (hc0 c0 List.mem_cons_self) ((List.cons.inj h).1 ▸ ht)
  | cons c cs ih =>
    intro cs0 r r0 hc hc0 h
    cases cs0 with
    | nil => exact absurd (hc c List.mem_cons_self) ((List.cons.inj h).1 ▸ ht0)
    | cons c0 cs0 =>
      obtain ⟨h1, h2⟩ := List.cons.inj h
      obtain ⟨r1, r2, r3⟩ := ih (fun x hx => hc x (List.mem_cons_of_mem _ hx)) (fun x hx => hc0 x (List.mem_cons_of_mem _ hx)) h2
      exact ⟨by rw [h1, r1], r2, r3⟩

/-- from `s` to `s'` the cursor passed comments and then the token `t` -/
structure OneTok (e : Env) (s : PState) (t : PTok) (s' : PState) : Prop where
  toks : ∃ cs, seg e s.pos s'.pos = cs ++ [t] ∧ ∀ x ∈ cs, x.ty = 6
  pos : s.pos < s'.pos
  last : e.toks[s'.pos - 1]? = some t
  seq : s'.seqId = s.seqId
  ver : s'.ver = s.ver
  nc : t.ty ≠ 6

theorem OneTok.withLog {e : Env} {s s1 : PState} {t : PTok} (h : OneTok e s t s1) (l : List Diag) :
    OneTok e s t { s1 with log := l } :=
  ⟨h.toks, h.pos, h.last, h.seq, h.ver, h.nc⟩

theorem OneTok.le_size {e : Env} {s s' : PState} {t : PTok} (h : OneTok e s t s') : s'.pos ≤ e.toks.size :=
  Nat.le_of_pred_lt (getElem?_some_lt h.last)

theorem OneTok.tail {e : Env} {s s' : PState} {t : PTok} (h : OneTok e s t s') :
    ∃ cs, tailFrom e s.pos = cs ++ t :: tailFrom e s'.pos ∧ ∀ x ∈ cs, x.ty = 6 := by
  obtain ⟨cs, h1, h2⟩ := h.toks
  exact ⟨cs, by rw [tailFrom_seg e (Nat.le_of_lt h.pos), h1, List.append_assoc]; rfl, h2⟩

theorem OneTok.unique {e : Env} {s s' s0 s0' : PState} {t t0 : PTok} (h : OneTok e s t s') (h0 : OneTok e s0 t0 s0')
    (hp : s.pos = s0.pos) : t = t0 ∧ s'.pos = s0'.pos := by
  obtain ⟨cs, hc1, hc2⟩ := h.tail
  obtain ⟨cs0, hd1, hd2⟩ := h0.tail
  rw [hp, hd1] at hc1
  obtain ⟨-, r2, r3⟩ := comments_split_unique h0.nc h.nc hd2 hc2 hc1
  refine ⟨r2.symm, ?_⟩
  have hl := congrArg List.length r3
  rw [tailFrom_length, tailFrom_length] at hl
  rw [← Nat.sub_sub_self h.le_size, ← hl, Nat.sub_sub_self h0.le_size]

theorem OneTok.first {e : Env} {s s' : PState} {t t0 : PTok} (h : OneTok e s t s') (h0 : e.toks[s.pos]? = some t0)
    (hnc : t0.ty ≠ 6) : t = t0 ∧ s'.pos = s.pos + 1 := by
  obtain ⟨cs, hc1, hc2⟩ := h.toks
  rw [seg_cons e h0 h.pos] at hc1
  have hc : [] ++ t0 :: seg e (s.pos + 1) s'.pos = cs ++ t :: [] := hc1
  obtain ⟨-, r2, r3⟩ := comments_split_unique hnc h.nc (fun _ hx => (List.not_mem_nil hx).elim) hc2 hc
  have hl := seg_length e (a := s.pos + 1) h.le_size
  rw [r3] at hl
  exact ⟨r2.symm, Nat.le_antisymm (Nat.le_of_sub_eq_zero hl.symm) h.pos⟩

theorem OneTok.cons_cmt {e : Env} {s s0 s' : PState} {t c : PTok} (h : OneTok e s0 t s') (hp : s0.pos = s.pos + 1)
    (hq : s0.seqId = s.seqId) (hv : s0.ver = s.ver) (h0 : e.toks[s.pos]? = some c) (h6 : c.ty = 6) : OneTok e s t s' := by
  obtain ⟨cs, h1, h2⟩ := h.toks
  have hlt : s.pos + 1 < s'.pos := hp ▸ h.pos
  exact ⟨⟨c :: cs, by rw [seg_cons e h0 (Nat.lt_of_succ_lt hlt), ← hp, h1]; rfl, List.forall_mem_cons.2 ⟨h6, h2⟩⟩,
    Nat.lt_of_succ_lt hlt, h.last, by rw [h.seq, hq], by rw [h.ver, hv], h.nc⟩

theorem SkipTo.oneTok {e : Env} {s s2 : PState} (h : SkipTo e s s2) {t : PTok} (ht : e.toks[s2.pos]? = some t) :
    OneTok e s t (s2.step t) := by
  induction h with
  | stop h6 => exact ⟨⟨[], by simpa using seg_one e ht, by simp⟩, Nat.lt_succ_self _, by simpa using ht, rfl, rfl, h6 t ht⟩
  | cmt hc h6 _ ih => exact (ih ht).cons_cmt rfl rfl rfl hc h6

theorem SkipTo.log {e : Env} {s s2 : PState} (h : SkipTo e s s2) : s2.log = s.log := by
  induction h with
  | stop _ => rfl
  | cmt _ _ _ ih => exact ih

theorem expectToken_ok {ctx : Ctx} {ty : Nat} {e : Env} {s : PState} {t : PTok} {s' : PState}
    (h : expectToken ctx ty e s = .ok t s') : OneTok e s t s' ∧ t.ty = ty ∧ s'.lastLine = t.line ∧ s'.log = s.log := by
  obtain ⟨s2, hk, hr⟩ := expectToken_run (e := e) ctx ty s
  rw [h] at hr
  cases ht : e.toks[s2.pos]? with
  | none => rw [ht] at hr; cases hr
  | some t0 =>
    rw [ht] at hr
    dsimp only at hr
    split at hr
    · cases hr
    · rename_i hty
      cases hr
      exact ⟨hk.oneTok ht, Decidable.of_not_not hty, rfl, hk.log⟩

theorem errorOrLog_eq_ok {k : DK} {e : Env} {s s1 : PState} {u : Unit} (h : errorOrLog k e s = .ok u s1) :
    e.strict = false ∧ s1 = { s with log := ⟨k, s.lastLine⟩ :: s.log } := by
  rw [errorOrLog_eval] at h
  cases hst : e.strict with
  | true => rw [hst, if_pos rfl] at h; cases h
  | false => rw [hst, if_neg Bool.false_ne_true] at h; cases h; exact ⟨rfl, rfl⟩

/-- `if p { error_or_log(k)? }; rest` succeeded: in strict mode `p` was false, otherwise only the log can differ -/
theorem condE_inv {e : Env} {β} {p : Prop} [Decidable p] {k : DK} {f : PUnit → PM β} {s : PState} {v : β} {s' : PState}
    (h : (if p then errorOrLog k >>= f else f ()) e s = .ok v s') :
    ∃ l, (e.strict = true → ¬ p) ∧ f () e { s with log := l } = .ok v s' := by
  by_cases hp : p
  · rw [if_pos hp] at h
    obtain ⟨u, s1, h1, h2⟩ := bind_eq_ok h
    obtain ⟨hns, rfl⟩ := errorOrLog_eq_ok h1
    refine ⟨_, fun hst => ?_, h2⟩
    rw [hst] at hns; cases hns
  · rw [if_neg hp] at h
    exact ⟨s.log, fun _ => hp, h⟩

theorem getInteger_ok {ctx : Ctx} {w : Nat} {e : Env} {s : PState} {r : Int × Bool} {s' : PState}
    (h : getInteger ctx w e s = .ok r s') :
    ∃ t, OneTok e s t s' ∧ t.ty = 5 ∧ parseInt (intTyOf w) t.text = some r := by
  unfold getInteger at h
  obtain ⟨t, s1, h1, h2⟩ := bind_eq_ok h
  obtain ⟨o1, hty, -, -⟩ := expectToken_ok h1
  cases hp : parseInt (intTyOf w) t.text with
  | none => rw [hp] at h2; cases h2
  | some r' => rw [hp] at h2; cases h2; exact ⟨t, o1, hty, hp⟩

theorem getDouble_ok {ctx : Ctx} {e : Env} {s : PState} {r : List Char} {s' : PState}
    (h : getDouble ctx e s = .ok r s') : ∃ t, OneTok e s t s' ∧ t.ty = 5 ∧ t.fl = some r := by
  unfold getDouble at h
  obtain ⟨t, s1, h1, h2⟩ := bind_eq_ok h
  obtain ⟨o1, hty, -, -⟩ := expectToken_ok h1
  cases hp : t.fl with
  | none => rw [hp] at h2; cases h2
  | some r' => rw [hp] at h2; cases h2; exact ⟨t, o1, hty, hp⟩

theorem getIdentifier_ok {ctx : Ctx} {e : Env} {s : PState} {text : List Char} {s' : PState}
    (h : getIdentifier ctx e s = .ok text s') :
    ∃ t, OneTok e s t s' ∧ t.ty = 0 ∧ text = t.text ∧ IdentOk e.strict text := by
  unfold getIdentifier at h
  obtain ⟨t, s1, h1, h2⟩ := bind_eq_ok h
  obtain ⟨o1, hty, -, -⟩ := expectToken_ok h1
  cases htext : t.text with
  | nil => rw [htext] at h2; cases h2
  | cons c cs =>
    rw [htext] at h2
    dsimp only at h2
    obtain ⟨l, hbad, h3⟩ := condE_inv (f := fun _ => (pure (c :: cs) : PM (List Char))) h2
    cases h3
    refine ⟨t, o1.withLog l, hty, htext.symm, c, cs, rfl, fun hst => ?_⟩
    have := hbad hst
    simp only [Bool.or_eq_true, decide_eq_true_eq, not_or] at this
    exact ⟨by simpa using this.1, Nat.le_of_not_lt this.2⟩

/-- `get_string` takes an identifier in the place of a string, with a complaint that is an error in strict mode -/
theorem getString_ok {ctx : Ctx} {e : Env} {s : PState} {str : List Char} {s' : PState}
    (h : getString ctx e s = .ok str s') :
    ∃ t, OneTok e s t s' ∧
      ((t.ty = 4 ∧ unescape (stripQuotes t.text) = .ok str) ∨ (e.strict = false ∧ t.ty = 0 ∧ str = t.text)) := by
  unfold getString at h
  simp only [peekToken_bind] at h
  generalize e.toks[s.pos]? = o at h
  split at h
  · obtain ⟨text, s1, h1, h2⟩ := bind_eq_ok h
    obtain ⟨u, s2, h3, h4⟩ := bind_eq_ok h2
    cases h4
    obtain ⟨t, o1, hty, htext, -⟩ := getIdentifier_ok h1
    obtain ⟨hns, rfl⟩ := errorOrLog_eq_ok h3
    exact ⟨t, o1.withLog _, .inr ⟨hns, hty, htext⟩⟩
  · obtain ⟨t, s1, h1, h2⟩ := bind_eq_ok h
    obtain ⟨o1, hty, -, -⟩ := expectToken_ok h1
    cases hu : unescape (stripQuotes t.text) with
    | panic => rw [hu] at h2; cases h2
    | ok r => rw [hu] at h2; cases h2; exact ⟨t, o1, .inl ⟨hty, hu⟩⟩

theorem getStringMaxlen_ok {ctx : Ctx} {n : Nat} {e : Env} {s : PState} {str : List Char} {s' : PState}
    (h : getStringMaxlen ctx n e s = .ok str s') :
    ∃ t, OneTok e s t s' ∧
      ((t.ty = 4 ∧ unescape (stripQuotes t.text) = .ok str) ∨ (e.strict = false ∧ t.ty = 0 ∧ str = t.text)) ∧
      (e.strict = true → utf8Len str ≤ n) := by
  unfold getStringMaxlen at h
  obtain ⟨text, s1, h1, h2⟩ := bind_eq_ok h
  obtain ⟨t, o1, hu⟩ := getString_ok h1
  obtain ⟨l, hbad, h3⟩ := condE_inv (f := fun _ => (pure text : PM (List Char))) h2
  cases h3
  exact ⟨t, o1.withLog l, hu, fun hst => Nat.le_of_not_lt (hbad hst)⟩

theorem getLineOffset_ok {e : Env} {s s' : PState} {n : Nat} (h : getLineOffset e s = .ok n s') : s' = s := by
  rcases getLineOffset_cases e s with h1 | ⟨m, h1⟩
  · rw [h1] at h; cases h
  · rw [h1] at h; cases h; rfl

theorem withOff_ok {α} {m : PM α} {g : α → Nat → Val} {e : Env} {s : PState} {r : Val} {s' : PState}
    (h : (m >>= fun v => getLineOffset >>= fun off => pure (g v off)) e s = .ok r s') :
    ∃ a off, m e s = .ok a s' ∧ r = g a off := by
  obtain ⟨a, s1, h1, h2⟩ := bind_eq_ok h
  obtain ⟨off, s2, h3, h4⟩ := bind_eq_ok h2
  have := getLineOffset_ok h3
  subst this
  cases h4
  exact ⟨a, off, h1, rfl⟩

theorem parseItem_int_inv {fuel : Nat} {ctx : Ctx} {w : Nat} {e : Env} {s : PState} {v : Val} {s' : PState}
    (h : parseItem fuel ctx (.int w) e s = .ok v s') :
    ∃ t x hex off, OneTok e s t s' ∧ t.ty = 5 ∧ v = .int x hex off w ∧ parseInt (intTyOf w) t.text = some (x, hex) := by
  cases fuel with
  | zero => rw [parseItem] at h; cases h
  | succ fuel =>
    rw [parseItem] at h
    obtain ⟨⟨x, hex⟩, off, h1, rfl⟩ := withOff_ok (g := fun (r : Int × Bool) off => Val.int r.1 r.2 off w) h
    obtain ⟨t, o1, hty, hp⟩ := getInteger_ok h1
    exact ⟨t, x, hex, off, o1, hty, rfl, hp⟩

theorem parseItem_ident_inv {e : Env} {fuel : Nat} {ctx : Ctx} {s : PState} {v : Val} {s' : PState}
    (h : parseItem fuel ctx .ident e s = .ok v s') :
    ∃ t off, OneTok e s t s' ∧ t.ty = 0 ∧ v = .ident t.text off ∧ IdentOk e.strict t.text := by
  cases fuel with
  | zero => rw [parseItem] at h; cases h
  | succ fuel =>
    rw [parseItem] at h
    obtain ⟨text, off, h1, rfl⟩ := withOff_ok (g := fun v off => Val.ident v off) h
    obtain ⟨t, o1, hty, rfl, hid⟩ := getIdentifier_ok h1
    exact ⟨t, off, o1, hty, rfl, hid⟩

theorem parseItems_nil_inv {fuel : Nat} {ctx : Ctx} {e : Env} {s : PState} {fs : List Val} {s' : PState}
    (h : parseItems fuel ctx [] e s = .ok fs s') : fs = [] ∧ s' = s := by
  cases fuel with
  | zero => rw [parseItems] at h; cases h
  | succ fuel => rw [parseItems] at h; cases h; exact ⟨rfl, rfl⟩

theorem parseItems_cons_inv {fuel : Nat} {ctx : Ctx} {it : ItemTy} {its : List ItemTy} {e : Env} {s : PState}
    {fs : List Val} {s' : PState} (h : parseItems fuel ctx (it :: its) e s = .ok fs s') :
    ∃ f v s1 vs, parseItem f ctx it e s = .ok v s1 ∧ parseItems f ctx its e s1 = .ok vs s' ∧ fs = v :: vs := by
  cases fuel with
  | zero => rw [parseItems] at h; cases h
  | succ fuel =>
    rw [parseItems] at h
    obtain ⟨v, s1, h1, h⟩ := bind_eq_ok h
    obtain ⟨vs, s2, h2, h⟩ := bind_eq_ok h
    cases h
    exact ⟨fuel, v, s1, vs, h1, h2, rfl⟩

theorem parseItems_two_ints_inv {fuel : Nat} {ctx : Ctx} {a b : Nat} {e : Env} {s : PState} {fs : List Val} {s' : PState}
    (h : parseItems fuel ctx [.int a, .int b] e s = .ok fs s') :
    ∃ t1 x hx ox sm t2 y hy oy, fs = [.int x hx ox a, .int y hy oy b] ∧ OneTok e s t1 sm ∧
      parseInt (intTyOf a) t1.text = some (x, hx) ∧ OneTok e sm t2 s' ∧ parseInt (intTyOf b) t2.text = some (y, hy) := by
  obtain ⟨f1, v1, s1, vs1, h1, h2, rfl⟩ := parseItems_cons_inv h
  obtain ⟨f2, v2, s2, vs2, h3, h4, rfl⟩ := parseItems_cons_inv h2
  obtain ⟨rfl, rfl⟩ := parseItems_nil_inv h4
  obtain ⟨t1, x, hx, ox, o1, -, rfl, p1⟩ := parseItem_int_inv h1
  obtain ⟨t2, y, hy, oy, o2, -, rfl, p2⟩ := parseItem_int_inv h3
  exact ⟨t1, x, hx, ox, s1, t2, y, hy, oy, rfl, o1, p1, o2, p2⟩

/-- `T::parse` for a keyword type without tagged part: a fresh id, its parameters, nothing else -/
theorem parseType_plain_inv {fuel ty : Nat} {ctx : Ctx} {off : Nat} {e : Env} {s : PState} {v : Val} {s' : PState}
    {its : List ItemTy} (hlk : e.table.lookup ty = some (.block false its [] false))
    (h : parseType fuel ty ctx off e s = .ok v s') :
    ∃ f fs, parseItems f ctx its e { s with seqId := s.seqId + 1 } = .ok fs s' ∧
      v = .block ty ⟨ctx.line, s.seqId + 1, off, 0, ctx.fileid⟩ fs [] [] := by
  cases fuel with
  | zero => rw [parseType] at h; cases h
  | succ fuel =>
    rw [parseType] at h
    simp only [getEnv_bind, hlk, getNextId_bind] at h
    obtain ⟨fs, s1, h1, h⟩ := bind_eq_ok h
    simp only [Bool.false_eq_true, if_false, pure_bind_eval, List.zip_nil_left, List.foldlM_nil] at h
    cases h
    exact ⟨fuel, fs, h1, rfl⟩

/-- a type of the shape of `ASAP2_VERSION`: the value, and where its integers come from -/
theorem versionType_inv {fuel ty : Nat} {ctx : Ctx} {off : Nat} {e : Env} {s : PState} {v : Val} {s' : PState} {a b : Nat}
    (hlk : e.table.lookup ty = some (.block false [.int a, .int b] [] false))
    (h : parseType fuel ty ctx off e s = .ok v s') :
    ∃ info t1 x hx ox sm t2 y hy oy, v = .block ty info [.int x hx ox a, .int y hy oy b] [] [] ∧
      OneTok e { s with seqId := s.seqId + 1 } t1 sm ∧ parseInt (intTyOf a) t1.text = some (x, hx) ∧
      OneTok e sm t2 s' ∧ parseInt (intTyOf b) t2.text = some (y, hy) := by
  obtain ⟨f, fs, h1, rfl⟩ := parseType_plain_inv hlk h
  obtain ⟨t1, x, hx, ox, sm, t2, y, hy, oy, rfl, r⟩ := parseItems_two_ints_inv h1
  exact ⟨_, t1, x, hx, ox, sm, t2, y, hy, oy, rfl, r⟩

end A2l.Tree
