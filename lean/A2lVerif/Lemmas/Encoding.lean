import A2lVerif.Model.Encoding
/-! Lemmas for C17: the code-unit round trips of UTF-32, UTF-16 and UTF-8, and the branch that the detection cascade
    of `decode_raw_bytes` takes on each encoding of a text. -/
namespace A2l.Enc

variable (be : Bool)

theorem char_range (c : Char) : c.toNat < 0xD800 ∨ (0xDFFF < c.toNat ∧ c.toNat < 0x110000) := c.valid

theorem validScalar_toNat (c : Char) : validScalar c.toNat = true := by
  simp only [validScalar, Bool.or_eq_true, decide_eq_true_eq, Bool.and_eq_true]
  have := char_range c
  omega

theorem toNat_toUInt8_mod (n : Nat) : (n % 256).toUInt8.toNat = n % 256 :=
  UInt8.toNat_ofNat_of_lt' (Nat.mod_lt _ (by decide))

theorem toUInt8_eq_zero {n : Nat} (hn : n < 256) (h : n.toUInt8 = 0) : n = 0 :=
  (UInt8.toNat_ofNat_of_lt' hn).symm.trans (congrArg UInt8.toNat h)

/-- a byte that is neither NUL nor one of the two bytes of a UTF-16 byte order mark -/
def Inner (x : UInt8) : Prop := x ≠ 0 ∧ x ≠ 0xfe ∧ x ≠ 0xff

theorem Inner.of_toNat {x : UInt8} (h0 : 0 < x.toNat) (h1 : x.toNat < 254) : Inner x :=
  ⟨fun e => by rw [e] at h0; exact absurd h0 (by decide), fun e => by rw [e] at h1; exact absurd h1 (by decide),
    fun e => by rw [e] at h1; exact absurd h1 (by decide)⟩

theorem two_digits (n b : Nat) : n / b % b * b + n % b = n % (b * b) := by
  rw [Nat.mod_mul, Nat.mul_comm, Nat.add_comm]

theorem four_bytes (n : Nat) (h : n < 4294967296) :
    n / 16777216 % 256 * 16777216 + n / 65536 % 256 * 65536 + n / 256 % 256 * 256 + n % 256 = n := by
  have e1 := two_digits n 256
  have e2 := two_digits (n / 65536) 256
  have e3 := two_digits n 65536
  rw [Nat.div_div_eq_div_mul] at e2
  simp only [Nat.reduceMul] at e1 e2 e3
  rw [Nat.mod_eq_of_lt h, ← e2, ← e1] at e3
  rw [Nat.add_mul, Nat.mul_assoc, Nat.add_assoc] at e3
  rw [Nat.add_assoc, Nat.add_assoc]
  exact e3

/-- code units of `k` bytes each make a text whose length the test `len % k == 0` accepts -/
theorem length_flatMap_mod {α β} (k : Nat) (f : α → List β) (hf : ∀ a, (f a).length = k) (l : List α) :
    (l.flatMap f).length % k = 0 := by
  rw [List.length_flatMap, funext hf, List.map_const', List.sum_replicate_nat, Nat.mul_mod_left]

theorem encode32_cons (c : Char) (s : List Char) :
    encode32 be (c :: s) = bytes32 be c.toNat ++ encode32 be s := List.flatMap_cons

theorem decode32_roundtrip (s : List Char) : decode32 be (encode32 be s) = some s := by
  induction s with
  | nil => rfl
  | cons c s ih =>
    have hn := four_bytes c.toNat (by have := char_range c; omega)
    rw [encode32_cons]
    cases be <;> simp only [bytes32, Bool.false_eq_true, ↓reduceIte, List.cons_append, List.nil_append, decode32, u32of,
      toNat_toUInt8_mod, hn, validScalar_toNat, ih, Option.map_some, Char.ofNat_toNat]

theorem try32_cons (b0 b1 b2 b3 : UInt8) (r : Bytes) (hlen : r.length % 4 = 0) :
    try32 (b0 :: b1 :: b2 :: b3 :: r) =
      if b0 = 0 ∧ b1 = 0 ∧ b3 ≠ 0 then decode32 true (b0 :: b1 :: b2 :: b3 :: r)
      else if b0 ≠ 0 ∧ b2 = 0 ∧ b3 = 0 then decode32 false (b0 :: b1 :: b2 :: b3 :: r)
      else none := by
  have hl : (b0 :: b1 :: b2 :: b3 :: r).length = r.length + 4 := rfl
  unfold try32
  rw [if_pos ⟨by rw [hl, Nat.add_mod_right]; exact hlen, by rw [hl]; exact Nat.lt_add_left _ (by decide)⟩]

/-- A UTF-32 text whose first character is below `0x10000` and has a non-zero low byte is taken for UTF-32 of the
    right byte order.  ASCII characters other than NUL are such characters, and so is the byte order mark. -/
theorem try32_encode32 (c : Char) (r : List Char) (h1 : c.toNat < 65536) (h2 : c.toNat % 256 ≠ 0) :
    try32 (encode32 be (c :: r)) = some (c :: r) := by
  have hlen : (encode32 be r).length % 4 = 0 := length_flatMap_mod 4 _ (fun c => by cases be <;> rfl) r
  have e3 : (c.toNat / 16777216 % 256).toUInt8 = 0 := by
    rw [Nat.div_eq_of_lt (Nat.lt_trans h1 (by decide))]; rfl
  have e2 : (c.toNat / 65536 % 256).toUInt8 = 0 := by rw [Nat.div_eq_of_lt h1]; rfl
  have e0 : (c.toNat % 256).toUInt8 ≠ 0 := mt (toUInt8_eq_zero (Nat.mod_lt _ (by decide))) h2
  rw [← decode32_roundtrip be (c :: r), encode32_cons]
  cases be
  · refine (try32_cons _ _ _ _ _ hlen).trans ?_
    rw [if_neg (fun h => e0 h.1), if_pos ⟨e0, e2, e3⟩]
    rfl
  · exact (try32_cons _ _ _ _ _ hlen).trans (if_pos ⟨e3, e2, e0⟩)

theorem try32_encode32_be (s : List Char) (hs : A2lText s) : try32 (encode32 true s) = some s := by
  obtain ⟨c, r, rfl, hpos, hlt⟩ := hs.head
  exact try32_encode32 true c r (by omega) (by omega)

theorem encode16_cons (c : Char) (s : List Char) :
    encode16 be (c :: s) = (enc16 c).flatMap (bytes16 be) ++ encode16 be s := by
  simp only [encode16, List.flatMap_cons, List.flatMap_append]

theorem bytes16_shape (u : Nat) :
    ∃ x y, bytes16 be u = [x, y] ∧ (u < 65536 → x = 0 → y = 0 → u = 0) := by
  have hz : u < 65536 → (u / 256 % 256).toUInt8 = 0 → (u % 256).toUInt8 = 0 → u = 0 := by
    intro hu hhi hlo
    have := toUInt8_eq_zero (Nat.mod_lt _ (by decide)) hhi
    have := toUInt8_eq_zero (Nat.mod_lt _ (by decide)) hlo
    omega
  cases be
  · exact ⟨_, _, rfl, fun hu hx hy => hz hu hy hx⟩
  · exact ⟨_, _, rfl, hz⟩

theorem units16_bytes16_append (u : Nat) (h : u < 65536) (r : Bytes) :
    units16 be (bytes16 be u ++ r) = u :: units16 be r := by
  have hu : u / 256 % 256 * 256 + u % 256 = u := (two_digits u 256).trans (Nat.mod_eq_of_lt h)
  cases be <;> simp only [bytes16, Bool.false_eq_true, ↓reduceIte, List.cons_append, List.nil_append,
    units16, toNat_toUInt8_mod, hu]

theorem units16_flatMap (us : List Nat) (h : ∀ u ∈ us, u < 65536) :
    units16 be (us.flatMap (bytes16 be)) = us := by
  induction us with
  | nil => rfl
  | cons u us ih =>
    rw [List.flatMap_cons, units16_bytes16_append be u (h u List.mem_cons_self),
      ih (fun v hv => h v (List.mem_cons_of_mem _ hv))]

theorem enc16_cases (c : Char) :
    (c.toNat < 0x10000 ∧ enc16 c = [c.toNat]) ∨
    ∃ q m, q < 1024 ∧ m < 1024 ∧ c.toNat = 0x10000 + q * 1024 + m ∧ enc16 c = [0xD800 + q, 0xDC00 + m] := by
  unfold enc16
  by_cases hlt : c.toNat < 0x10000
  · exact Or.inl ⟨hlt, if_pos hlt⟩
  · have hr := char_range c
    have hdm := Nat.div_add_mod (c.toNat - 0x10000) 1024
    exact Or.inr ⟨(c.toNat - 0x10000) / 1024, (c.toNat - 0x10000) % 1024, Nat.div_lt_of_lt_mul (by omega),
      Nat.mod_lt _ (by decide), by omega, if_neg hlt⟩

theorem enc16_units (c : Char) : ∀ u ∈ enc16 c, u < 65536 ∧ (c.toNat ≠ 0 → u ≠ 0) := by
  rcases enc16_cases c with ⟨h, e⟩ | ⟨q, m, hq, hm, _, e⟩
  · rw [e]; exact List.forall_mem_cons.2 ⟨⟨h, id⟩, nofun⟩
  · rw [e]; exact List.forall_mem_cons.2 ⟨by omega, List.forall_mem_cons.2 ⟨by omega, nofun⟩⟩

theorem fromUtf16_cons_bmp (u : Nat) (r : List Nat) (h : u < 0xD800 ∨ 0xE000 ≤ u) :
    fromUtf16 (u :: r) = (fromUtf16 r).map (Char.ofNat u :: ·) := by
  rw [fromUtf16.eq_def]; simp only [if_pos h]

theorem fromUtf16_cons_pair (u l : Nat) (r : List Nat) (h1 : ¬ (u < 0xD800 ∨ 0xE000 ≤ u)) (h2 : u < 0xDC00)
    (h3 : 0xDC00 ≤ l ∧ l < 0xE000) :
    fromUtf16 (u :: l :: r) =
      (fromUtf16 r).map (Char.ofNat (0x10000 + (u - 0xD800) * 1024 + (l - 0xDC00)) :: ·) := by
  rw [fromUtf16.eq_def]; simp only [if_neg h1, if_pos h2, h3, and_self, ↓reduceIte]

theorem fromUtf16_enc16_append (c : Char) (r : List Nat) :
    fromUtf16 (enc16 c ++ r) = (fromUtf16 r).map (c :: ·) := by
  rcases enc16_cases c with ⟨h, e⟩ | ⟨q, m, hq, hm, hc, e⟩
  · have hr := char_range c
    rw [e, List.singleton_append, fromUtf16_cons_bmp _ _ (by omega), Char.ofNat_toNat]
  · rw [e, List.cons_append, List.singleton_append, fromUtf16_cons_pair _ _ _ (by omega) (by omega) (by omega),
      Nat.add_sub_cancel_left, Nat.add_sub_cancel_left, ← hc, Char.ofNat_toNat]

theorem decode16_roundtrip (s : List Char) :
    fromUtf16 (units16 be (encode16 be s)) = some s := by
  have hu : units16 be (encode16 be s) = s.flatMap enc16 := units16_flatMap be _ fun u hu => by
    obtain ⟨c, _, hc⟩ := List.mem_flatMap.1 hu
    exact (enc16_units c u hc).1
  rw [hu]
  clear hu
  induction s with
  | nil => rfl
  | cons c s ih => rw [List.flatMap_cons, fromUtf16_enc16_append, ih]; rfl

theorem try16_cons (b0 b1 : UInt8) (r : Bytes) (hlen : r.length % 2 = 0) :
    try16 (b0 :: b1 :: r) =
      if (b0 = 0 ∧ b1 ≠ 0) ∨ (b0 = 0xfe ∧ b1 = 0xff) then fromUtf16 (units16 true (b0 :: b1 :: r))
      else if (b0 ≠ 0 ∧ b1 = 0) ∨ (b0 = 0xff ∧ b1 = 0xfe) then fromUtf16 (units16 false (b0 :: b1 :: r))
      else none := by
  have hl : (b0 :: b1 :: r).length = r.length + 2 := rfl
  unfold try16
  rw [if_pos ⟨by rw [hl, Nat.add_mod_right]; exact hlen, by rw [hl]; exact Nat.lt_add_left _ (by decide)⟩]

theorem try32_eq_none (b : Bytes)
    (h : ∀ b0 b1 b2 b3 r, b = b0 :: b1 :: b2 :: b3 :: r →
      ¬ (b0 = 0 ∧ b1 = 0 ∧ b3 ≠ 0) ∧ ¬ (b0 ≠ 0 ∧ b2 = 0 ∧ b3 = 0)) : try32 b = none := by
  unfold try32
  by_cases hl : b.length % 4 = 0 ∧ 3 < b.length
  · rw [if_pos hl]
    match b, h with
    | b0 :: b1 :: b2 :: b3 :: r, h =>
      obtain ⟨h1, h2⟩ := h b0 b1 b2 b3 r rfl
      simp only [if_neg h1, if_neg h2]
    | [], _ | [_], _ | [_, _], _ | [_, _, _], _ => rfl
  · rw [if_neg hl]

theorem try32_none_of_nonzero (b : Bytes) (h : ∀ x ∈ b, x ≠ 0) : try32 b = none := by
  apply try32_eq_none
  rintro b0 b1 b2 b3 r rfl
  exact ⟨fun hh => h b0 (by simp) hh.1, fun hh => h b3 (by simp) hh.2.2⟩

theorem try16_none_of_inner (b : Bytes) (h : ∀ x ∈ b, Inner x) : try16 b = none := by
  unfold try16
  by_cases hl : b.length % 2 = 0 ∧ 1 < b.length
  · rw [if_pos hl]
    match b, h with
    | b0 :: b1 :: r, h =>
      have h0 := h b0 (by simp)
      have h1 := h b1 (by simp)
      have n1 : ¬ ((b0 = 0 ∧ b1 ≠ 0) ∨ (b0 = 0xfe ∧ b1 = 0xff)) := by
        rintro (⟨a, _⟩ | ⟨a, _⟩)
        · exact h0.1 a
        · exact h0.2.1 a
      have n2 : ¬ ((b0 ≠ 0 ∧ b1 = 0) ∨ (b0 = 0xff ∧ b1 = 0xfe)) := by
        rintro (⟨_, a⟩ | ⟨a, _⟩)
        · exact h1.1 a
        · exact h0.2.2 a
      simp only [if_neg n1, if_neg n2]
    | [], _ | [_], _ => rfl
  · rw [if_neg hl]

/-- UTF-16 text without NUL is never taken for UTF-32: among the first four bytes, neither the first two nor the last
    two are both zero, because they are the bytes of one code unit each. -/
theorem try32_encode16 (s : List Char) (h : ∀ c ∈ s, c.toNat ≠ 0) : try32 (encode16 be s) = none := by
  have hus : ∀ u ∈ s.flatMap enc16, u ≠ 0 ∧ u < 65536 := fun u hu => by
    obtain ⟨c, hc, hu⟩ := List.mem_flatMap.1 hu
    exact ⟨(enc16_units c u hu).2 (h c hc), (enc16_units c u hu).1⟩
  unfold encode16
  generalize s.flatMap enc16 = us at hus
  apply try32_eq_none
  intro b0 b1 b2 b3 r hb
  match us, hus with
  | [], _ => cases hb
  | [u], _ =>
    obtain ⟨x, y, e, _⟩ := bytes16_shape be u
    rw [List.flatMap_cons, e] at hb
    cases hb
  | u0 :: u1 :: us, h =>
    obtain ⟨x0, y0, e0, z0⟩ := bytes16_shape be u0
    obtain ⟨x1, y1, e1, z1⟩ := bytes16_shape be u1
    obtain ⟨n0, l0⟩ := h u0 (by simp)
    obtain ⟨n1, l1⟩ := h u1 (by simp)
    rw [List.flatMap_cons, List.flatMap_cons, e0, e1] at hb
    simp only [List.cons_append, List.nil_append, List.cons.injEq] at hb
    obtain ⟨rfl, rfl, rfl, rfl, _⟩ := hb
    exact ⟨fun hh => n0 (z0 l0 hh.1 hh.2.1), fun hh => n1 (z1 l1 hh.2.1 hh.2.2)⟩

theorem decodeRaw_of_utf8 (b : Bytes) (s : List Char) (h32 : try32 b = none) (h16 : try16 b = none)
    (h8 : utf8? b = some s) : decodeRaw b = s := by
  simp only [decodeRaw, h32, h16, h8]

theorem decodeRaw_of_try16 (b : Bytes) (s : List Char) (h32 : try32 b = none) (h16 : try16 b = some s) :
    decodeRaw b = s := by
  simp only [decodeRaw, h32, h16]

theorem decodeRaw_of_try32 (b : Bytes) (s : List Char) (h32 : try32 b = some s) : decodeRaw b = s := by
  simp only [decodeRaw, h32]

theorem decodeRaw_encode32 (c : Char) (r : List Char) (h1 : c.toNat < 65536) (h2 : c.toNat % 256 ≠ 0) :
    decodeRaw (encode32 be (c :: r)) = c :: r :=
  decodeRaw_of_try32 _ _ (try32_encode32 be c r h1 h2)

theorem try16_encode16 (c : Char) (r : List Char) (hc : (0 < c.toNat ∧ c.toNat < 256) ∨ c = bom) :
    try16 (encode16 be (c :: r)) = some (c :: r) := by
  have hlen : (encode16 be r).length % 2 = 0 := length_flatMap_mod 2 _ (fun u => by cases be <;> rfl) _
  have hbmp : c.toNat < 0x10000 := by
    rcases hc with h | rfl
    · omega
    · decide
  rw [← decode16_roundtrip be (c :: r), encode16_cons, enc16, if_pos hbmp, List.flatMap_cons, List.flatMap_nil,
    List.append_nil]
  rcases hc with ⟨h0, h1⟩ | rfl
  · have hhi : (c.toNat / 256 % 256).toUInt8 = 0 := by rw [Nat.div_eq_of_lt h1]; rfl
    have hlo : (c.toNat % 256).toUInt8 ≠ 0 := by
      rw [Nat.mod_eq_of_lt h1]; exact mt (toUInt8_eq_zero h1) (by omega)
    cases be
    · refine (try16_cons _ _ _ hlen).trans ?_
      rw [if_neg (by rintro (⟨h, _⟩ | ⟨_, h⟩); exact hlo h; exact absurd (hhi ▸ h) (by decide)),
        if_pos (Or.inl ⟨hlo, hhi⟩)]
      rfl
    · exact (try16_cons _ _ _ hlen).trans (if_pos (Or.inl ⟨hhi, hlo⟩))
  · cases be
    · refine (try16_cons _ _ _ hlen).trans ?_
      rw [if_neg (by decide), if_pos (by decide)]
      rfl
    · exact (try16_cons _ _ _ hlen).trans (if_pos (by decide))

theorem decodeRaw_encode16 (c : Char) (r : List Char) (hc : (0 < c.toNat ∧ c.toNat < 256) ∨ c = bom)
    (hnz : ∀ d ∈ c :: r, d.toNat ≠ 0) : decodeRaw (encode16 be (c :: r)) = c :: r :=
  decodeRaw_of_try16 _ _ (try32_encode16 be _ hnz) (try16_encode16 be c r hc)

theorem utf8_roundtrip (s : List Char) : utf8? (encode8 s) = some s := by
  have h := List.utf8Decode?_utf8Encode (l := s)
  have e : ByteArray.mk (encode8 s).toArray = s.utf8Encode := by
    apply ByteArray.ext
    simp [List.utf8Encode, encode8]
  unfold utf8?
  rw [e, h]; simp

theorem toNat_ofNat_mod_add (a : Nat) {k m : Nat} (hk : 0 < k) (hkm : k + m ≤ 256) :
    m ≤ (UInt8.ofNat (a % k + m)).toNat ∧ (UInt8.ofNat (a % k + m)).toNat < k + m := by
  have := Nat.mod_lt a hk
  rw [UInt8.toNat_ofNat', Nat.mod_eq_of_lt (by omega)]
  omega

theorem utf8EncodeChar_shape (c : Char) :
    (c.toNat ≤ 127 ∧ String.utf8EncodeChar c = [UInt8.ofNat c.toNat]) ∨
    ∃ h tl, String.utf8EncodeChar c = h :: tl ∧ tl ≠ [] ∧ (0xC0 ≤ h.toNat ∧ h.toNat < 0xF8) ∧
      ∀ x ∈ tl, 0x80 ≤ x.toNat ∧ x.toNat < 0xC0 := by
  have hv : c.val.toNat = c.toNat := rfl
  have hcont : ∀ a, 0x80 ≤ (UInt8.ofNat (a % 64 + 128)).toNat ∧ (UInt8.ofNat (a % 64 + 128)).toNat < 0xC0 :=
    fun a => toNat_ofNat_mod_add a (by decide) (by decide)
  unfold String.utf8EncodeChar
  simp only [hv]
  by_cases h1 : c.toNat ≤ 127
  · rw [if_pos h1]; exact .inl ⟨h1, rfl⟩
  rw [if_neg h1]
  right
  by_cases h2 : c.toNat ≤ 2047
  · rw [if_pos h2]
    have := toNat_ofNat_mod_add (c.toNat / 64) (k := 32) (m := 192) (by decide) (by decide)
    exact ⟨_, _, rfl, List.cons_ne_nil _ _, ⟨this.1, by omega⟩, List.forall_mem_cons.2 ⟨hcont _, nofun⟩⟩
  rw [if_neg h2]
  by_cases h3 : c.toNat ≤ 65535
  · rw [if_pos h3]
    have := toNat_ofNat_mod_add (c.toNat / 4096) (k := 16) (m := 224) (by decide) (by decide)
    exact ⟨_, _, rfl, List.cons_ne_nil _ _, ⟨by omega, by omega⟩,
      List.forall_mem_cons.2 ⟨hcont _, List.forall_mem_cons.2 ⟨hcont _, nofun⟩⟩⟩
  rw [if_neg h3]
  have := toNat_ofNat_mod_add (c.toNat / 262144) (k := 8) (m := 240) (by decide) (by decide)
  exact ⟨_, _, rfl, List.cons_ne_nil _ _, ⟨by omega, by omega⟩,
    List.forall_mem_cons.2 ⟨hcont _, List.forall_mem_cons.2 ⟨hcont _, List.forall_mem_cons.2 ⟨hcont _, nofun⟩⟩⟩⟩

theorem utf8EncodeChar_inner (c : Char) (h : c.toNat ≠ 0) : ∀ x ∈ String.utf8EncodeChar c, Inner x := by
  rcases utf8EncodeChar_shape c with ⟨h1, e⟩ | ⟨hd, tl, e, -, hh, ht⟩
  · rw [e]
    refine List.forall_mem_cons.2 ⟨.of_toNat ?_ ?_, nofun⟩ <;> rw [UInt8.toNat_ofNat', Nat.mod_eq_of_lt (by omega)] <;> omega
  · rw [e]
    exact List.forall_mem_cons.2 ⟨.of_toNat (by omega) (by omega), fun x hx => .of_toNat (by have := ht x hx; omega)
      (by have := ht x hx; omega)⟩

theorem decodeRaw_encode8 (s : List Char) (h : ∀ c ∈ s, c.toNat ≠ 0) : decodeRaw (encode8 s) = s := by
  have hin : ∀ x ∈ encode8 s, Inner x := by
    intro x hx
    obtain ⟨c, hc, hxc⟩ := List.mem_flatMap.1 hx
    exact utf8EncodeChar_inner c (h c hc) x hxc
  exact decodeRaw_of_utf8 _ _ (try32_none_of_nonzero _ fun x hx => (hin x hx).1) (try16_none_of_inner _ hin)
    (utf8_roundtrip s)

theorem A2lText.nonul_bom {s : List Char} (hs : A2lText s) : ∀ c ∈ bom :: s, c.toNat ≠ 0 := by
  intro c hc
  rcases List.mem_cons.1 hc with rfl | hc
  · decide
  · exact hs.nonul c hc

theorem stripBom_a2l (s : List Char) (hs : A2lText s) : stripBom s = s := by
  obtain ⟨c, r, rfl, _, hlt⟩ := hs.head
  have : c ≠ bom := by
    intro h; rw [h] at hlt; exact absurd hlt (by decide)
  simp only [stripBom, if_neg this]

theorem stripBom_bom (s : List Char) : stripBom (bom :: s) = s := by
  simp only [stripBom, if_true]

end A2l.Enc
