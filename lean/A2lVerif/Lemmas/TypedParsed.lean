import A2lVerif.Lemmas.TypedExact
import A2lVerif.Lemmas.TypedLoad
import A2lVerif.Lemmas.A2ml
/-!
# Typed IF_DATA access: every definition that `parse_a2ml` returns has pairwise different tags

`insertTagged` replaces an earlier member with the same tag (`HashMap::insert`), so the member lists of every tagged
struct / union that the parser builds have pairwise different tags (`Made`, Lemmas/A2ml.lean), and the fixup phase keeps
the tags of the members; `Made.wf`: the output type of what the parser makes from stored types with that property has it.
With `parseA2ml_made` this gives the hypothesis `TagsDistinct S` of Props/C19.lean (`parsed_tags_distinct` there).
-/
namespace A2l.Typed
open A2l.Aml

theorem tagsOfM_fixTagged : ∀ (l : List (Tagged Spec)), tagsOfM (fixTagged l) = l.map (·.tag)
  | [] => rfl
  | t :: rest => congrArg (t.tag :: ·) (tagsOfM_fixTagged rest)

theorem distinctL_append : ∀ (a b : List OTy), distinctL (a ++ b) = (distinctL a && distinctL b)
  | [], b => rfl
  | x :: a, b => by
    show (distinctTy x && distinctL (a ++ b)) = ((distinctTy x && distinctL a) && distinctL b)
    rw [distinctL_append a b, Bool.and_assoc]

theorem distinctL_structItems : ∀ l : List Spec, distinctL (structItems l) = distinctL (fixItems l)
  | [] => rfl
  | s :: rest => by
    show distinctL (if isNone s then structItems rest else fixItem s :: structItems rest) =
      (distinctTy (fixItem s) && distinctL (fixItems rest))
    rw [← distinctL_structItems rest]
    cases s <;> rfl

theorem distinctL_blockItems (s : Spec) : distinctL (blockItems s) = distinctTy (fixItem s) := by
  rw [blockItems_eq]
  cases s with
  | struct items => exact (distinctL_structItems items).symm
  | none => rfl
  | _ => exact Bool.and_true _

theorem distinctTy_fixItem_seq (s : Spec) : distinctTy (fixItem (.seq s)) = distinctTy (fixItem s) := by
  cases h : isSeq s with
  | false =>
    rw [fixItem_seq h]
    rfl
  | true =>
    match s, h with
    | .seq s, _ => exact (distinctTy_fixItem_seq s).symm  -- `fixItem (.seq (.seq s)) = .seq (fixItem s)`

theorem distinctL_fixItems : ∀ l : List Spec, (∀ s ∈ l, distinctTy (fixItem s) = true) → distinctL (fixItems l) = true
  | [], _ => rfl
  | s :: rest, h => Bool.and_eq_true_iff.2 ⟨h s (.head _), distinctL_fixItems rest fun x hx => h x (.tail _ hx)⟩

theorem distinctM_fixTagged : ∀ l : List (Tagged Spec), (∀ t ∈ l, distinctL (blockItems t.item) = true) →
    distinctM (fixTagged l) = true
  | [], _ => rfl
  | t :: rest, h => Bool.and_eq_true_iff.2 ⟨h t (.head _), distinctM_fixTagged rest fun x hx => h x (.tail _ hx)⟩

/-- the hypotheses are those of `Made.taggedStruct` / `Made.taggedUnion`, which say nothing of a member without data
    (`.none`): it contributes no fields -/
theorem distinct_tagged (u : Bool) {items : List (Tagged Spec)} (hn : (items.map (·.tag)).Nodup)
    (h : ∀ t ∈ items, t.item ≠ .none → distinctTy (fixItem t.item) = true) :
    distinctTy (.tagged u (fixTagged items)) = true := by
  refine Bool.and_eq_true_iff.2 ⟨?_, distinctM_fixTagged items fun t ht => ?_⟩
  · rw [tagsOfM_fixTagged, nodupB_iff]
    exact hn
  · rw [distinctL_blockItems]
    by_cases h0 : t.item = .none
    · rw [h0]; rfl
    · exact h t ht h0

theorem _root_.A2l.Aml.Made.wf {d : Nat} {sp : Spec} (h : Made (fun sp => distinctTy (fixItem sp) = true) d sp) :
    distinctTy (fixItem sp) = true := by
  induction h with
  | int | float | double | enum => rfl
  | array dim _ _ ih =>
    rw [fixItem_array]
    split
    · rfl
    · exact ih
  | seq _ ih => exact (distinctTy_fixItem_seq _).trans ih
  | struct _ _ ih => exact (distinctL_structItems _).trans (distinctL_fixItems _ ih)
  | taggedStruct _ hn _ ih => exact distinct_tagged false hn ih
  | taggedUnion _ hn _ ih => exact distinct_tagged true hn ih
  | ref h _ => exact h

end A2l.Typed
