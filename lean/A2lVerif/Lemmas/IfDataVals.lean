import A2lVerif.Lemmas.TreeSeg
import A2lVerif.Model.IfData
/-!
# IF_DATA: what the interpreter stores is what the tokens say

Definitions used by Props/C18.lean (`WV`, `values`, `agree`, `span`, `Rel`); what a cursor primitive read, as `Rel`
(`OneTok.rel` on the inversions of Lemmas/TreeSeg.lean); the successful runs of `parse_ifdata_item` as a relation
(`Run`, `itemP_run`), of which `Rel` (here), `Conf` (Lemmas/IfDataConf.lean) and `Shape` (Lemmas/TypedExact.lean) are inductions; the
successful runs of `parse_ifdata_from_spec`, the loop over the definitions and `parse_ifdata` described once
(`fromSpec_inv`, `trySpecs_inv`, `parseIfdata_inv`; Lemmas/IfDataConf.lean, IfDataSim.lean and IfDataUnknown.lean read them).
-/
namespace A2l.IfData
open A2l.Tree A2l.Aml A2l.G A2l.Sc

section
variable {e : Env} {f32 : List Char → Option (List Char)} {ctx : Ctx} {s s' : PState}

/-- a value as the writer emits it behind the white space: identifier / tag / enum item verbatim, string content
    (written quoted and escaped), integer of type `intTyOf w` with its notation flag (`printInt`), the text of a float,
    `/begin`, `/end` -/
inductive WV where
  | ident (s : List Char)
  | str (s : List Char)
  | int (w : Nat) (v : Int) (hex : Bool)
  | f32 (txt : List Char)
  | f64 (txt : List Char)
  | begin_
  | end_
  deriving Repr, DecidableEq

mutual
/-- the values that `GenericIfData::write` (`top = true`) / `write_item` (`top = false`) emit, in list order -/
def values (top : Bool) : Gen → List WV
  | .none => []
  | .int w _ v hex => [.int w v hex]
  | .float _ txt => [.f32 txt]
  | .double _ txt => [.f64 txt]
  | .str _ s => [.str s]
  | .array items => valuesL items
  | .enumItem _ s => [.ident s]
  | .seq items => valuesL items
  | .taggedStruct items => valuesT items
  | .taggedUnion items => valuesT items
  | .struct _ items => valuesL items
  | .block _ items => if top then valuesL items else []
def valuesL : List Gen → List WV
  | [] => []
  | g :: rest => values false g ++ valuesL rest
def valuesT : List (TItem Gen) → List WV
  | [] => []
  | it :: rest =>
    (if it.isBlock then [.begin_] else []) ++ [.ident it.tag] ++ values true it.data ++
      (if it.isBlock then [.end_, .ident it.tag] else []) ++ valuesT rest
end

/-- a written value and the token it was read from say the same thing. For a number the value is compared under
    the reading that the written value has (integer type / f32 / f64). The second clause of `str` is the one
    tolerated deviation: the non-strict reader accepts an identifier where a string is defined (with a diagnostic) and
    the value is then written as a string. -/
def agree (strict : Bool) (f32 : List Char → Option (List Char)) : WV → PTok → Prop
  | .ident s, t => t.ty = 0 ∧ t.text = s
  | .str s, t => (t.ty = 4 ∧ unescape (stripQuotes t.text) = .ok s) ∨ (strict = false ∧ t.ty = 0 ∧ t.text = s)
  | .int w v hex, t => t.ty = 5 ∧ parseInt (intTyOf w) t.text = some (v, hex)
  | .f32 txt, t => t.ty = 5 ∧ f32 t.text = some txt
  | .f64 txt, t => t.ty = 5 ∧ t.fl = some txt
  | .begin_, t => t.ty = 1
  | .end_, t => t.ty = 2

/-- two lists are related element by element -/
inductive All2 {α β : Type} (R : α → β → Prop) : List α → List β → Prop where
  | nil : All2 R [] []
  | cons {a : α} {b : β} {l1 : List α} {l2 : List β} : R a b → All2 R l1 l2 → All2 R (a :: l1) (b :: l2)

theorem All2.append {α β : Type} {R : α → β → Prop} {a c : List α} {b d : List β}
    (h1 : All2 R a b) (h2 : All2 R c d) : All2 R (a ++ c) (b ++ d) := by
  induction h1 with
  | nil => exact h2
  | cons h _ ih => exact All2.cons h ih

theorem All2.single {α β : Type} {R : α → β → Prop} {a : α} {b : β} (h : R a b) : All2 R [a] [b] :=
  All2.cons h All2.nil

/-- the tokens from cursor position `a` up to `b`, without the comments -/
def span (toks : Array PTok) (a b : Nat) : List PTok :=
  ((toks.toList.drop a).take (b - a)).filter (fun t => t.ty ≠ 6)

/-- the cursor moved forward from `s` to `s'` inside the token array and the values `ws` are, one by one and in order,
    what the tokens in between say -/
def Rel (e : Env) (f32 : List Char → Option (List Char)) (s s' : PState) (ws : List WV) : Prop :=
  s.pos ≤ s'.pos ∧ s'.pos ≤ e.toks.size ∧ All2 (agree e.strict f32) ws (span e.toks s.pos s'.pos)

theorem span_eq_seg (e : Env) (a b : Nat) : span e.toks a b = (seg e a b).filter (fun t => t.ty ≠ 6) := rfl

theorem span_self (e : Env) (a : Nat) : span e.toks a a = [] := by
  rw [span_eq_seg, seg_self]; rfl

theorem span_append (e : Env) {a b c : Nat} (h1 : a ≤ b) (h2 : b ≤ c) :
    span e.toks a c = span e.toks a b ++ span e.toks b c := by
  rw [span_eq_seg, ← seg_append e h1 h2, List.filter_append]; rfl

theorem span_step (e : Env) (a : Nat) (t : PTok) (h : e.toks[a]? = some t) :
    span e.toks a (a + 1) = if t.ty ≠ 6 then [t] else [] := by
  rw [span_eq_seg, seg_one e h]
  by_cases h6 : t.ty = 6 <;> simp [h6]

/-- the cursor went forward from `s` to `s'` inside the token array over (comments and) tokens that satisfy `P` -/
def Spans (e : Env) (P : List PTok → Prop) (s s' : PState) : Prop :=
  s.pos ≤ s'.pos ∧ s'.pos ≤ e.toks.size ∧ P (span e.toks s.pos s'.pos)

theorem Spans.nil {P : List PTok → Prop} (hp : s'.pos = s.pos) (h : P []) (hs : s.pos ≤ e.toks.size) : Spans e P s s' := by
  unfold Spans
  rw [hp, span_self]
  exact ⟨Nat.le_refl _, hs, h⟩

theorem Spans.append {P Q R : List PTok → Prop} {s1 : PState} (h1 : Spans e P s s1) (h2 : Spans e Q s1 s')
    (h : ∀ l1 l2, P l1 → Q l2 → R (l1 ++ l2)) : Spans e R s s' :=
  ⟨Nat.le_trans h1.1 h2.1, h2.2.1, span_append e h1.1 h2.1 ▸ h _ _ h1.2.2 h2.2.2⟩

theorem Spans.imp {P Q : List PTok → Prop} (h1 : Spans e P s s') (h : ∀ l, P l → Q l) : Spans e Q s s' :=
  ⟨h1.1, h1.2.1, h _ h1.2.2⟩

theorem Rel.refl (f32 : List Char → Option (List Char)) (s : PState) (h : s.pos ≤ e.toks.size) : Rel e f32 s s [] :=
  Spans.nil rfl .nil h

theorem Rel.trans {s s1 s2 : PState} {w1 w2 : List WV}
    (h1 : Rel e f32 s s1 w1) (h2 : Rel e f32 s1 s2 w2) : Rel e f32 s s2 (w1 ++ w2) :=
  Spans.append h1 h2 fun _ _ => All2.append

theorem attempt_ok {α β} {m : PM α} {f : Except Diag α → PM β} {s : PState} {b : β} {s2 : PState}
    (h : (attempt m >>= f) e s = .ok b s2) :
    (∃ a s1, m e s = .ok a s1 ∧ f (.ok a) e s1 = .ok b s2) ∨
    (∃ d s1, m e s = .err d s1 ∧ f (.error d) e s1 = .ok b s2) := by
  rw [bind_def] at h
  unfold attempt at h
  cases hm : m e s with
  | ok a s1 => rw [hm] at h; exact .inl ⟨a, s1, rfl, h⟩
  | err d s1 => rw [hm] at h; exact .inr ⟨d, s1, rfl, h⟩
  | panic => rw [hm] at h; cases h
  | fuel => rw [hm] at h; cases h

theorem lineOffset_ok {β} {f : Nat → PM β} {b : β} {s2 : PState}
    (h : (getLineOffset >>= f) e s = .ok b s2) : ∃ n, f n e s = .ok b s2 :=
  have ⟨n, _, h1, h2⟩ := bind_eq_ok h
  ⟨n, getLineOffset_ok h1 ▸ h2⟩

theorem pure_ok {α} {a b : α} {s s2 : PState} (h : (Pure.pure a : PM α) e s = .ok b s2) : a = b ∧ s = s2 := by
  cases h; exact ⟨rfl, rfl⟩

/-- giving up: the cursor goes back to the checkpoint `p` -/
theorem reset_ok {α} {p : Nat} {a r : α} {s1 s2 : PState}
    (h : (do setTokenpos p; pure a : PM α) e s1 = .ok r s2) : r = a ∧ s2.pos = p := by
  simp only [setTokenpos_bind] at h
  obtain ⟨rfl, rfl⟩ := pure_ok h
  exact ⟨rfl, rfl⟩

/-- without the comments, the tokens that `expect_token` passed are the token it returned -/
theorem _root_.A2l.Tree.OneTok.span {t : PTok} (o : OneTok e s t s') : span e.toks s.pos s'.pos = [t] := by
  obtain ⟨cs, hc1, hc2⟩ := o.toks
  rw [span_eq_seg, hc1, List.filter_append, List.filter_eq_nil_iff.2 fun x hx => by simp [hc2 x hx]]
  simp [o.nc]

theorem Rel.samePos {s s1 s2 : PState} {ws : List WV}
    (h : Rel e f32 s s1 ws) (hp : s2.pos = s1.pos) : Rel e f32 s s2 ws := by
  unfold Rel at *
  rw [hp]; exact h

theorem Rel.fromPos {s s0 s2 : PState} {ws : List WV}
    (h : Rel e f32 s s2 ws) (hp : s0.pos = s.pos) : Rel e f32 s0 s2 ws := by
  unfold Rel at *
  rw [hp]; exact h

theorem _root_.A2l.Tree.OneTok.spans {t : PTok} {P : List PTok → Prop} (o : OneTok e s t s') (h : P [t]) : Spans e P s s' :=
  ⟨Nat.le_of_lt o.pos, o.le_size, o.span ▸ h⟩

theorem _root_.A2l.Tree.OneTok.rel {t : PTok} {w : WV} (o : OneTok e s t s') (ha : agree e.strict f32 w t) : Rel e f32 s s' [w] :=
  o.spans (All2.single ha)

theorem getIdentifier_ok (f32 : List Char → Option (List Char)) {v : List Char}
    (h : getIdentifier ctx e s = .ok v s') : Rel e f32 s s' [.ident v] :=
  have ⟨_, o, hty, hv, _⟩ := Tree.getIdentifier_ok h
  o.rel ⟨hty, hv.symm⟩

theorem getString_ok (f32 : List Char → Option (List Char)) {v : List Char}
    (h : getString ctx e s = .ok v s') : Rel e f32 s s' [.str v] :=
  have ⟨_, o, hv⟩ := Tree.getString_ok h
  o.rel (hv.imp id fun ⟨h1, h2, h3⟩ => ⟨h1, h2, h3.symm⟩)

theorem getFloat_tok {v : List Char}
    (h : getFloat f32 ctx e s = .ok v s') : ∃ t, OneTok e s t s' ∧ t.ty = 5 ∧ f32 t.text = some v := by
  unfold getFloat at h
  obtain ⟨t, s1, h1, h2⟩ := bind_eq_ok h
  obtain ⟨o, hty, -, -⟩ := expectToken_ok h1
  cases hp : f32 t.text with
  | none => rw [hp] at h2; cases h2
  | some r => rw [hp] at h2; cases h2; exact ⟨t, o, hty, hp⟩

theorem values_makeBlock (d : Gen) (line : Nat) : values true (makeBlock d line) = values false d := by
  unfold makeBlock
  split
  · simp [values]
  · rw [values]
    simp [valuesL]

theorem spans_step {s : PState} {t : PTok} {P : List PTok → Prop}
    (ht : e.toks[s.pos]? = some t) (h : P (if t.ty ≠ 6 then [t] else [])) : Spans e P s (s.step t) :=
  ⟨Nat.le_succ _, getElem?_some_lt ht, span_step e s.pos t ht ▸ h⟩

theorem rel_adv {s : PState} {t : PTok} {w : WV}
    (ht : e.toks[s.pos]? = some t) (h6 : t.ty ≠ 6) (ha : agree e.strict f32 w t) : Rel e f32 s (s.step t) [w] :=
  spans_step ht (if_pos h6 ▸ All2.single ha)

theorem rel_adv_comment {s : PState} {t : PTok}
    (ht : e.toks[s.pos]? = some t) (h6 : t.ty = 6) : Rel e f32 s (s.step t) [] :=
  spans_step ht (if_neg (not_not_intro h6) ▸ All2.nil)

/-- what a run of `skipComments` does; what is to be said of its result is an induction on `SkipTo` -/
theorem skipComments_run (ctx : Ctx) : ∀ (fuel : Nat) (s : PState),
    skipComments ctx fuel e s = .fuel ∨ ∃ s2, skipComments ctx fuel e s = .ok () s2 ∧ SkipTo e s s2
  | 0, _ => .inl rfl
  | fuel + 1, s => by
    rw [skipComments]
    simp only [peekToken_bind]
    cases ht : e.toks[s.pos]? with
    | none => exact .inr ⟨s, rfl, .stop fun t h => by rw [ht] at h; cases h⟩
    | some t =>
      dsimp only
      split
      · rename_i h6
        rw [bind_def, getToken_eval, ht]
        rcases skipComments_run ctx fuel (s.step t) with h | ⟨s2, h, hs⟩
        · exact .inl h
        · exact .inr ⟨s2, h, .cmt ht h6 hs⟩
      · rename_i h6
        exact .inr ⟨s, rfl, .stop fun t' h => by rw [ht] at h; cases h; exact h6⟩

theorem _root_.A2l.Tree.SkipTo.rel {s s2 : PState} (h : SkipTo e s s2) (hs : s.pos ≤ e.toks.size) : Rel e f32 s s2 [] := by
  induction h with
  | stop _ => exact Rel.refl f32 _ hs
  | cmt ht h6 _ ih => exact (rel_adv_comment ht h6).trans (ih (getElem?_some_lt ht))

theorem skipComments_ok (f32 : List Char → Option (List Char)) (ctx : Ctx) (fuel : Nat) (s : PState) (u : Unit)
    (s' : PState) (h : skipComments ctx fuel e s = .ok u s') (hs : s.pos ≤ e.toks.size) : Rel e f32 s s' [] := by
  rcases skipComments_run (e := e) ctx fuel s with h' | ⟨s2, h', hk⟩ <;> rw [h'] at h <;> cases h
  exact hk.rel hs

theorem endOfTagged_ok (f32 : List Char → Option (List Char)) {newctx : Ctx} {tag : List Char} {isBlock : Bool}
    {off : Nat} (h : endOfTagged newctx tag isBlock e s = .ok off s')
    (hs : s.pos ≤ e.toks.size) :
    Rel e f32 s s' (if isBlock then [.end_, .ident tag] else []) := by
  unfold endOfTagged at h
  split at h
  · rename_i hb
    rw [if_pos hb]
    obtain ⟨t1, s1, h1, h2⟩ := bind_eq_ok h
    obtain ⟨n, h2⟩ := lineOffset_ok h2
    obtain ⟨t2, s2, h3, h4⟩ := bind_eq_ok h2
    obtain ⟨o1, hty1, -, -⟩ := expectToken_ok h1
    obtain ⟨o2, hty2, -, -⟩ := expectToken_ok h3
    dsimp only at h4
    split at h4
    · cases h4
    · rename_i heq
      obtain ⟨_, rfl⟩ := pure_ok h4
      exact (o1.rel (w := .end_) hty1).trans (o2.rel (w := .ident tag) ⟨hty2, by simpa using heq⟩)
  · rename_i hb
    rw [if_neg hb]
    obtain ⟨_, rfl⟩ := pure_ok h
    exact Rel.refl f32 s hs

theorem getNextTagOrComment_ok (f32 : List Char → Option (List Char)) {tok : PTok} {isBlock : Bool} {off : Nat}
    (h : getNextTagOrComment ctx e s = .ok (.block tok isBlock off) s') :
    Rel e f32 s s' ((if isBlock then [.begin_] else []) ++ [.ident tok.text]) := by
  have hr := nextTag_rel ctx e s
  rw [h] at hr
  cases hr with
  | block ho h1 _ hx =>
    have ⟨o, hty, _, _⟩ := expectToken_ok hx
    exact (rel_adv (w := .begin_) ho (by omega) h1).trans (o.rel (w := .ident tok.text) ⟨hty, rfl⟩)
  | keyword _ hx =>
    have ⟨o, hty, _, _⟩ := expectToken_ok hx
    exact o.rel (w := .ident _) ⟨hty, rfl⟩

/-! ## the interpreter: its successful runs as a relation

`Run e f32 sp ctx s g s'`: `parse_ifdata_item` for the definition `sp`, started in state `s`, returns `g` in state `s'`.
One constructor per way through the code; the loops have relations of their own, without budget and accumulator. What a
run read is recorded by the equation of the primitive that read it; the offsets that `get_line_offset` returns are left
open. What holds of every accepted content is proved by one application of `Run.rec` (pattern matching on the six
mutual relations elaborates too, at fifteen times the cost). -/

/-- the tags of a tagged struct that `parse_ifdata_taggedstruct` accepts: equal tags only for repeating members -/
def TagsOk (rep : List Char → Bool) (tags : List (List Char)) : Prop :=
  tags.Pairwise (fun a b => a = b → rep a = true)

theorem TagsOk.reverse {rep : List Char → Bool} {tags : List (List Char)} (h : TagsOk rep tags) : TagsOk rep tags.reverse :=
  List.pairwise_reverse.2 (h.imp fun h hba => hba ▸ h hba.symm)

end

section
variable (e : Env) (f32 : List Char → Option (List Char))

mutual
inductive Run : Spec → Ctx → PState → Gen → PState → Prop where
  | none : Run .none ctx s .none s
  | int : getInteger ctx w e s = .ok (v, hex) s' → Run (.int w) ctx s (.int w off v hex) s'
  | float : getFloat f32 ctx e s = .ok v s' → Run .float ctx s (.float off v) s'
  | double : getDouble ctx e s = .ok v s' → Run .double ctx s (.double off v) s'
  | str : getStringMaxlen ctx dim e s = .ok v s' → Run (.array (.int 0) dim) ctx s (.str off v) s'
  | array : of ≠ .int 0 → RunArr of ctx dim s vs s' → Run (.array of dim) ctx s (.array vs) s'
  | enum : getIdentifier ctx e s = .ok v s' → (lookupKV items v).isSome = true →
      Run (.enum items) ctx s (.enumItem off v) s'
  | struct : RunAll items ctx s vs s' → Run (.struct items) ctx s (.struct 0 vs) s'
  | seq : RunSeq of ctx s vs s' → Run (.seq of) ctx s (.seq vs) s'
  | taggedStruct : RunTags items ctx s its s' → TagsOk (repOf items) (its.map (·.tag)) →
      Run (.taggedStruct items) ctx s (.taggedStruct its) s'
  | taggedUnionNone : s'.pos = s.pos → Run (.taggedUnion items) ctx s (.taggedUnion []) s'
  | taggedUnion : RunTag items ctx s it s' → Run (.taggedUnion items) ctx s (.taggedUnion [it]) s'
/-- the members of a struct, one after the other -/
inductive RunAll : List Spec → Ctx → PState → List Gen → PState → Prop where
  | nil : RunAll [] ctx s [] s
  | cons : Run sp ctx s v s1 → RunAll rest ctx s1 vs s' → RunAll (sp :: rest) ctx s (v :: vs) s'
/-- at most `n` array elements; an element that consumed nothing is the last -/
inductive RunArr : Spec → Ctx → Nat → PState → List Gen → PState → Prop where
  | zero : RunArr of ctx 0 s [] s
  | last : Run of ctx s v s' → s'.pos = s.pos → RunArr of ctx (n + 1) s [v] s'
  | more : Run of ctx s v s1 → s1.pos ≠ s.pos → RunArr of ctx n s1 vs s' → RunArr of ctx (n + 1) s (v :: vs) s'
/-- sequence elements, each of which consumed something; the loop ends (element failed or empty) with the cursor where
    the last attempt started -/
inductive RunSeq : Spec → Ctx → PState → List Gen → PState → Prop where
  | stop : s'.pos = s.pos → RunSeq of ctx s [] s'
  | elem : Run of ctx s v s1 → s1.pos ≠ s.pos → RunSeq of ctx s1 vs s' → RunSeq of ctx s (v :: vs) s'
/-- one tagged item: comments, (`/begin`) tag, the content read with the first member of that tag, (`/end` tag) -/
inductive RunTag : List (Tagged Spec) → Ctx → PState → TItem Gen → PState → Prop where
  | mk {tok : PTok} : skipComments ctx (e.toks.size + 1) e s = .ok () s1 →
      getNextTagOrComment ctx e s1 = .ok (.block tok isBlock startOff) s2 →
      lookupTagged items tok.text = some tg → tg.isBlock = isBlock →
      Run tg.item ⟨tok.text, tok.fileid, tok.line⟩ { s2 with seqId := s2.seqId + 1 } data s3 →
      endOfTagged ⟨tok.text, tok.fileid, tok.line⟩ tok.text isBlock e s3 = .ok endOff s' →
      RunTag items ctx s ⟨tok.line, s2.seqId + 1, startOff, endOff, tok.text, makeBlock data tok.line, isBlock⟩ s'
/-- tagged items up to the first place where none is found -/
inductive RunTags : List (Tagged Spec) → Ctx → PState → List (TItem Gen) → PState → Prop where
  | done : s'.pos = s.pos → RunTags items ctx s [] s'
  | item : RunTag items ctx s it s1 → RunTags items ctx s1 its s' → RunTags items ctx s (it :: its) s'
end
end

variable {e : Env} {f32 : List Char → Option (List Char)} {ctx : Ctx} {s s' : PState}

theorem _root_.A2l.Aml.lookupTagged_cons (t : Tagged Spec) (rest : List (Tagged Spec)) (k : List Char) :
    lookupTagged (t :: rest) k = if t.tag = k then some t else lookupTagged rest k := by
  unfold lookupTagged
  rw [List.find?_cons]
  by_cases h : t.tag = k <;> simp [h]

theorem _root_.A2l.Aml.lookupTagged_some {l : List (Tagged Spec)} {k : List Char} {t : Tagged Spec}
    (h : lookupTagged l k = some t) : t ∈ l ∧ t.tag = k :=
  ⟨List.mem_of_find?_eq_some h, of_decide_eq_true (List.find?_some (p := fun x : Tagged Spec => decide (x.tag = k)) h)⟩

/-- `spec.get(tag)`: the first member with that tag, read by `parse_ifdata_item` -/
theorem dispatch_some : ∀ {l : List (Tagged Spec)} {tag : List Char} {b : Bool} {p : Ctx → PM Gen},
    dispatch f32 l tag = some (b, p) →
    ∃ tg, lookupTagged l tag = some tg ∧ tg.isBlock = b ∧ p = fun ctx => itemP f32 tg.item ctx
  | [], _, _, _, h => by rw [dispatch] at h; cases h
  | t :: rest, tag, b, p, h => by
    rw [dispatch] at h
    rw [lookupTagged_cons]
    split at h
    · rename_i heq
      cases h
      exact ⟨t, if_pos heq, rfl, rfl⟩
    · rename_i hne
      rw [if_neg hne]
      exact dispatch_some h

def RunsD (e : Env) (f32 : List Char → Option (List Char)) (items : List (Tagged Spec)) : Prop :=
  ∀ tg ∈ items, ∀ ctx s g s', itemP f32 tg.item ctx e s = .ok g s' → Run e f32 tg.item ctx s g s'

section loops
variable {of : Spec} (hp : ∀ s g s', itemP f32 of ctx e s = .ok g s' → Run e f32 of ctx s g s')
include hp

theorem arrayLoop_run : ∀ (n : Nat) (s : PState) (vs : List Gen) (s' : PState),
    arrayLoop (itemP f32 of ctx) n e s = .ok vs s' → RunArr e f32 of ctx n s vs s'
  | 0, s, vs, s', h => by
    obtain ⟨rfl, rfl⟩ := pure_ok h
    exact .zero
  | n + 1, s, vs, s', h => by
    rw [arrayLoop] at h
    simp only [getTokenpos_bind] at h
    obtain ⟨v, s1, h1, h2⟩ := bind_eq_ok h
    simp only [getTokenpos_bind] at h2
    split at h2
    · rename_i heq
      obtain ⟨rfl, rfl⟩ := pure_ok h2
      exact .last (hp s v s1 h1) heq
    · rename_i hne
      obtain ⟨vs', s2, h3, h4⟩ := bind_eq_ok h2
      obtain ⟨rfl, rfl⟩ := pure_ok h4
      exact .more (hp s v s1 h1) hne (arrayLoop_run n s1 vs' s2 h3)

theorem seqLoop_run : ∀ (fuel : Nat) (acc : List Gen) (s : PState) (vs : List Gen) (s' : PState),
    seqLoop (itemP f32 of ctx) fuel acc e s = .ok vs s' → ∃ new, vs = acc.reverse ++ new ∧ RunSeq e f32 of ctx s new s'
  | 0, _, _, _, _, h => by cases h
  | fuel + 1, acc, s, vs, s', h => by
    rw [seqLoop] at h
    simp only [getTokenpos_bind] at h
    have hstop : ∀ s1 : PState, ((do setTokenpos s.pos; pure acc.reverse : PM (List Gen)) e s1 = .ok vs s') →
        ∃ new, vs = acc.reverse ++ new ∧ RunSeq e f32 of ctx s new s' :=
      fun s1 h1 => have ⟨hv, hp⟩ := reset_ok h1; ⟨[], hv.trans (List.append_nil _).symm, .stop hp⟩
    rcases attempt_ok h with ⟨v, s1, h1, h2⟩ | ⟨d, s1, h1, h2⟩
    · simp only [getTokenpos_bind] at h2
      split at h2
      · exact hstop s1 h2
      · rename_i hne
        obtain ⟨new, hnew, r⟩ := seqLoop_run fuel (v :: acc) s1 vs s' h2
        exact ⟨v :: new, by rw [hnew, List.reverse_cons, List.append_assoc]; rfl, .elem (hp s v s1 h1) hne r⟩
    · exact hstop s1 h2

end loops

theorem taggedItem_run {items : List (Tagged Spec)} (hd : RunsD e f32 items) {r : Option (TItem Gen)}
    (h : taggedItem (dispatch f32 items) ctx e s = .ok r s') :
    (r = none ∧ s'.pos = s.pos) ∨ ∃ it, r = some it ∧ RunTag e f32 items ctx s it s' := by
  unfold taggedItem at h
  simp only [getTokenpos_bind, getEnv_bind] at h
  obtain ⟨u, s1, h1, h2⟩ := bind_eq_ok h
  rcases attempt_ok h2 with ⟨bc, s2, h3, h4⟩ | ⟨d', s2, h3, h4⟩
  · cases bc with
    | comment tok off => exact .inl (reset_ok h4)
    | none => exact .inl (reset_ok h4)
    | block tok isBlock startOff =>
      dsimp only at h4
      cases hdt : dispatch f32 items tok.text with
      | none => rw [hdt] at h4; exact .inl (reset_ok h4)
      | some bp =>
        obtain ⟨b, p⟩ := bp
        rw [hdt] at h4
        dsimp only at h4
        split at h4
        · exact .inl (reset_ok h4)
        · rename_i hb
          obtain rfl : b = isBlock := Decidable.of_not_not hb
          obtain ⟨tg, hlk, hblk, rfl⟩ := dispatch_some hdt
          simp only [getNextId_bind] at h4
          obtain ⟨data, s3, h5, h6⟩ := bind_eq_ok h4
          obtain ⟨endOff, s4, h7, h8⟩ := bind_eq_ok h6
          obtain ⟨rfl, rfl⟩ := pure_ok h8
          exact .inr ⟨_, rfl, .mk h1 h3 hlk hblk (hd tg (lookupTagged_some hlk).1 _ _ _ _ h5) h7⟩
  · exact .inl (reset_ok h4)

/-- the items behind `acc`, read one after the other; **no duplicate of a non-repeating member**: the tags of what the
    loop returns are pairwise different, except for members that may repeat, if those of `acc` are -/
theorem tsLoop_run {items : List (Tagged Spec)} (hd : RunsD e f32 items) (rep : List Char → Bool) (ctx : Ctx) :
    ∀ (fuel : Nat) (acc : List (TItem Gen)) (s : PState) (vs : List (TItem Gen)) (s' : PState),
    tsLoop (dispatch f32 items) rep ctx fuel acc e s = .ok vs s' →
    ∃ new, vs = acc.reverse ++ new ∧ RunTags e f32 items ctx s new s' ∧
      (TagsOk rep (acc.map (·.tag)) → TagsOk rep (vs.map (·.tag)))
  | 0, _, _, _, _, h => by cases h
  | fuel + 1, acc, s, vs, s', h => by
    rw [tsLoop] at h
    obtain ⟨r, s1, h1, h2⟩ := bind_eq_ok h
    rcases taggedItem_run hd h1 with ⟨rfl, hpos⟩ | ⟨it, rfl, hr⟩
    · obtain ⟨rfl, rfl⟩ := pure_ok h2
      exact ⟨[], (List.append_nil _).symm, .done hpos, fun hacc => List.map_reverse ▸ hacc.reverse⟩
    · dsimp only at h2
      split at h2
      · cases h2
      rename_i hnd
      obtain ⟨new, hnew, r2, hok⟩ := tsLoop_run hd rep ctx fuel (it :: acc) s1 vs s' h2
      refine ⟨it :: new, by rw [hnew, List.reverse_cons, List.append_assoc]; rfl, .item hr r2, fun hacc => hok (.cons ?_ hacc)⟩
      intro b hb hab
      obtain ⟨x, hx, rfl⟩ := List.mem_map.1 hb
      exact Decidable.by_contra fun hr => hnd ⟨List.any_eq_true.2 ⟨x, hx, decide_eq_true hab.symm⟩, Bool.eq_false_iff.2 hr⟩

mutual
theorem itemP_run (f32 : List Char → Option (List Char)) : ∀ (sp : Spec) (ctx : Ctx) (s : PState) (g : Gen) (s' : PState),
    itemP f32 sp ctx e s = .ok g s' → Run e f32 sp ctx s g s'
  | .none, ctx, s, g, s', h => by
    obtain ⟨rfl, rfl⟩ := pure_ok h
    exact .none
  | .int w, ctx, s, g, s', h => by
    obtain ⟨⟨v, hex⟩, s1, h1, h2⟩ := bind_eq_ok h
    obtain ⟨off, h2⟩ := lineOffset_ok h2
    obtain ⟨rfl, rfl⟩ := pure_ok h2
    exact .int h1
  | .float, ctx, s, g, s', h => by
    obtain ⟨v, s1, h1, h2⟩ := bind_eq_ok h
    obtain ⟨off, h2⟩ := lineOffset_ok h2
    obtain ⟨rfl, rfl⟩ := pure_ok h2
    exact .float h1
  | .double, ctx, s, g, s', h => by
    obtain ⟨v, s1, h1, h2⟩ := bind_eq_ok h
    obtain ⟨off, h2⟩ := lineOffset_ok h2
    obtain ⟨rfl, rfl⟩ := pure_ok h2
    exact .double h1
  | .array of dim, ctx, s, g, s', h => by
    rw [itemP.eq_def] at h
    dsimp only at h
    split at h
    · obtain ⟨v, s1, h1, h2⟩ := bind_eq_ok h
      obtain ⟨off, h2⟩ := lineOffset_ok h2
      obtain ⟨rfl, rfl⟩ := pure_ok h2
      exact .str h1
    · rename_i hne
      obtain ⟨vs, s1, h1, h2⟩ := bind_eq_ok h
      obtain ⟨rfl, rfl⟩ := pure_ok h2
      exact .array hne (arrayLoop_run (itemP_run f32 of ctx) dim s vs s1 h1)
  | .enum items, ctx, s, g, s', h => by
    obtain ⟨v, s1, h1, h2⟩ := bind_eq_ok h
    obtain ⟨off, h2⟩ := lineOffset_ok h2
    split at h2
    · rename_i hsome
      obtain ⟨rfl, rfl⟩ := pure_ok h2
      exact .enum h1 hsome
    · cases h2
  | .struct items, ctx, s, g, s', h => by
    obtain ⟨vs, s1, h1, h2⟩ := bind_eq_ok h
    obtain ⟨rfl, rfl⟩ := pure_ok h2
    exact .struct (itemsP_run f32 items ctx s vs s1 h1)
  | .seq of, ctx, s, g, s', h => by
    rw [itemP] at h
    simp only [getEnv_bind] at h
    obtain ⟨vs, s1, h1, h2⟩ := bind_eq_ok h
    obtain ⟨rfl, rfl⟩ := pure_ok h2
    obtain ⟨new, rfl, r⟩ := seqLoop_run (itemP_run f32 of ctx) _ [] s vs s1 h1
    exact .seq r
  | .taggedStruct items, ctx, s, g, s', h => by
    rw [itemP] at h
    simp only [getEnv_bind] at h
    obtain ⟨vs, s1, h1, h2⟩ := bind_eq_ok h
    obtain ⟨rfl, rfl⟩ := pure_ok h2
    obtain ⟨new, rfl, r, hok⟩ := tsLoop_run (membersP_run f32 items) _ ctx _ [] s vs s1 h1
    exact .taggedStruct r (hok .nil)
  | .taggedUnion items, ctx, s, g, s', h => by
    obtain ⟨r, s1, h1, h2⟩ := bind_eq_ok h
    rcases taggedItem_run (membersP_run f32 items) h1 with ⟨rfl, hpos⟩ | ⟨it, rfl, hr⟩
    · obtain ⟨rfl, rfl⟩ := pure_ok h2
      exact .taggedUnionNone hpos
    · obtain ⟨rfl, rfl⟩ := pure_ok h2
      exact .taggedUnion hr

theorem itemsP_run (f32 : List Char → Option (List Char)) : ∀ (l : List Spec) (ctx : Ctx) (s : PState) (vs : List Gen)
    (s' : PState), itemsP f32 l ctx e s = .ok vs s' → RunAll e f32 l ctx s vs s'
  | [], ctx, s, vs, s', h => by
    rw [itemsP] at h
    obtain ⟨rfl, rfl⟩ := pure_ok h
    exact .nil
  | sp :: rest, ctx, s, vs, s', h => by
    rw [itemsP] at h
    obtain ⟨v, s1, h1, h2⟩ := bind_eq_ok h
    obtain ⟨vs', s2, h3, h4⟩ := bind_eq_ok h2
    obtain ⟨rfl, rfl⟩ := pure_ok h4
    exact .cons (itemP_run f32 sp ctx s v s1 h1) (itemsP_run f32 rest ctx s1 vs' s2 h3)

theorem membersP_run (f32 : List Char → Option (List Char)) : ∀ (l : List (Tagged Spec)), RunsD e f32 l
  | [], _, hm => nomatch hm
  | t :: rest, tg, hm => by
    rcases List.mem_cons.1 hm with h | hm'
    · exact h ▸ itemP_run f32 t.item
    · exact membersP_run f32 rest tg hm'
end

def RelP (e : Env) (f32 : List Char → Option (List Char)) (p : PM Gen) : Prop :=
  ∀ s g s', s.pos ≤ e.toks.size → p e s = .ok g s' → Rel e f32 s s' (values false g)

def RelD (e : Env) (f32 : List Char → Option (List Char)) (d : List Char → Option (Bool × (Ctx → PM Gen))) : Prop :=
  ∀ tag b p, d tag = some (b, p) → ∀ ctx, RelP e f32 (p ctx)

theorem valuesT_cons (it : TItem Gen) (rest : List (TItem Gen)) : valuesT (it :: rest) = valuesT [it] ++ valuesT rest := by
  simp [valuesT]

theorem Run.rel {sp : Spec} {g : Gen} (h : Run e f32 sp ctx s g s') : s.pos ≤ e.toks.size → Rel e f32 s s' (values false g) :=
  Run.rec
    (motive_1 := fun _ _ s g s' _ => s.pos ≤ e.toks.size → Rel e f32 s s' (values false g))
    (motive_2 := fun _ _ s vs s' _ => s.pos ≤ e.toks.size → Rel e f32 s s' (valuesL vs))
    (motive_3 := fun _ _ _ s vs s' _ => s.pos ≤ e.toks.size → Rel e f32 s s' (valuesL vs))
    (motive_4 := fun _ _ s vs s' _ => s.pos ≤ e.toks.size → Rel e f32 s s' (valuesL vs))
    (motive_5 := fun _ _ s it s' _ => s.pos ≤ e.toks.size → Rel e f32 s s' (valuesT [it]))
    (motive_6 := fun _ _ s its s' _ => s.pos ≤ e.toks.size → Rel e f32 s s' (valuesT its))
    (none := Rel.refl f32 _)
    (int := fun h _ => have ⟨_, o, hv⟩ := Tree.getInteger_ok h; o.rel hv)
    (float := fun h _ => have ⟨_, o, hv⟩ := getFloat_tok h; o.rel hv)
    (double := fun h _ => have ⟨_, o, hv⟩ := Tree.getDouble_ok h; o.rel hv)
    (str := fun h _ => have ⟨_, o, hv, _⟩ := Tree.getStringMaxlen_ok h
      o.rel (hv.imp id fun ⟨h1, h2, h3⟩ => ⟨h1, h2, h3.symm⟩))
    (array := fun _ _ ih => ih)
    (enum := fun h _ _ => getIdentifier_ok f32 h)
    (struct := fun _ ih => ih)
    (seq := fun _ ih => ih)
    (taggedStruct := fun _ _ ih => ih)
    (taggedUnionNone := fun hp hs => (Rel.refl f32 _ hs).samePos hp)
    (taggedUnion := fun _ ih => ih)
    (nil := Rel.refl f32 _)
    (cons := fun _ _ ih1 ih2 hs => have r1 := ih1 hs; r1.trans (ih2 r1.2.1))
    (zero := Rel.refl f32 _)
    (last := fun _ _ ih hs => have r1 := ih hs; r1.trans (Rel.refl f32 _ r1.2.1))
    (more := fun _ _ _ ih1 ih2 hs => have r1 := ih1 hs; r1.trans (ih2 r1.2.1))
    (stop := fun hp hs => (Rel.refl f32 _ hs).samePos hp)
    (elem := fun _ _ _ ih1 ih2 hs => have r1 := ih1 hs; r1.trans (ih2 r1.2.1))
    (mk := fun h1 h2 _ _ _ h3 ih hs => by
      have r0 := skipComments_ok f32 _ _ _ _ _ h1 hs
      have r1 := getNextTagOrComment_ok f32 h2
      have r2 := (ih r1.2.1).fromPos rfl
      have := ((r0.trans r1).trans r2).trans (endOfTagged_ok f32 h3 r2.2.1)
      simpa [valuesT, values_makeBlock] using this)
    (done := fun hp hs => (Rel.refl f32 _ hs).samePos hp)
    (item := fun _ _ ih1 ih2 hs => have r1 := ih1 hs; valuesT_cons _ _ ▸ r1.trans (ih2 r1.2.1))
    h

theorem RunArr.length {of : Spec} {n : Nat} {vs : List Gen} (h : RunArr e f32 of ctx n s vs s') (hs : s.pos ≤ e.toks.size) :
    s.pos ≤ s'.pos ∧ s'.pos ≤ e.toks.size ∧ vs.length ≤ n ∧ vs.length ≤ s'.pos - s.pos + 1 := by
  induction n generalizing s vs with
  | zero =>
    cases h
    exact ⟨Nat.le_refl _, hs, Nat.le_refl _, Nat.zero_le _⟩
  | succ n ih =>
    cases h with
    | last r _ =>
      have r1 := r.rel hs
      exact ⟨r1.1, r1.2.1, Nat.succ_le_succ (Nat.zero_le _), Nat.succ_le_succ (Nat.zero_le _)⟩
    | more r hne rs =>
      have r1 := r.rel hs
      have ⟨h1, h2, h3, h4⟩ := ih rs r1.2.1
      have := r1.1
      exact ⟨Nat.le_trans r1.1 h1, h2, Nat.succ_le_succ h3, Nat.succ_le_succ (by omega)⟩

theorem itemP_ok (f32 : List Char → Option (List Char)) (sp : Spec) (ctx : Ctx) : RelP e f32 (itemP f32 sp ctx) :=
  fun s g s' hs h => (itemP_run f32 sp ctx s g s' h).rel hs

theorem itemsP_ok (f32 : List Char → Option (List Char)) : ∀ (l : List Spec) (ctx : Ctx) (s : PState) (vs : List Gen)
    (s' : PState), s.pos ≤ e.toks.size → itemsP f32 l ctx e s = .ok vs s' → Rel e f32 s s' (valuesL vs) :=
  fun l ctx s vs s' hs h => (Run.struct (itemsP_run f32 l ctx s vs s' h)).rel hs

theorem dispatch_ok (f32 : List Char → Option (List Char)) : ∀ (l : List (Tagged Spec)), RelD e f32 (dispatch f32 l) :=
  fun _ _ _ _ h ctx => by
    obtain ⟨tg, _, _, rfl⟩ := dispatch_some h
    exact itemP_ok f32 tg.item ctx

/-- the cursor is at a `/end` token -/
def AtEnd (e : Env) (s : PState) : Prop := ∃ t, e.toks[s.pos]? = some t ∧ t.ty = 2

/-- the outcomes of `parse_ifdata_from_spec`: the item parser fails, or it succeeds and behind the comments that follow
    there is no `/end` (in both cases the cursor is reset), or there is one -/
theorem fromSpec_inv {sp : Spec} {r : Option Gen}
    (h : fromSpec f32 ctx sp e s = .ok r s') :
    (r = none ∧ s'.pos = s.pos ∧
      ((∃ d s1, itemP f32 sp ctx e s = .err d s1) ∨
       ∃ g s1 s2, itemP f32 sp ctx e s = .ok g s1 ∧ skipComments ctx (e.toks.size + 1) e s1 = .ok () s2 ∧ ¬ AtEnd e s2)) ∨
    ∃ g s1, itemP f32 sp ctx e s = .ok g s1 ∧ skipComments ctx (e.toks.size + 1) e s1 = .ok () s' ∧ AtEnd e s' ∧
      r = some (makeBlock g ctx.line) := by
  unfold fromSpec at h
  simp only [getTokenpos_bind] at h
  rcases attempt_ok h with ⟨g, s1, h1, h2⟩ | ⟨d, s1, h1, h2⟩
  · dsimp only at h2
    simp only [getEnv_bind] at h2
    obtain ⟨u, s2, h3, h4⟩ := bind_eq_ok h2
    simp only [peekToken_bind] at h4
    cases ht : e.toks[s2.pos]? with
    | none =>
      rw [ht] at h4
      obtain ⟨hr, hp⟩ := reset_ok h4
      exact .inl ⟨hr, hp, .inr ⟨g, s1, s2, h1, h3, fun ⟨t, ht', _⟩ => by rw [ht] at ht'; cases ht'⟩⟩
    | some t =>
      rw [ht] at h4
      dsimp only at h4
      split at h4
      · rename_i h22
        obtain ⟨rfl, rfl⟩ := pure_ok h4
        exact .inr ⟨g, s1, h1, h3, ⟨t, ht, h22⟩, rfl⟩
      · rename_i h22
        obtain ⟨hr, hp⟩ := reset_ok h4
        exact .inl ⟨hr, hp, .inr ⟨g, s1, s2, h1, h3, fun ⟨t', ht', h2'⟩ => by rw [ht] at ht'; cases ht'; exact h22 h2'⟩⟩
  · obtain ⟨hr, hp⟩ := reset_ok h2
    exact .inl ⟨hr, hp, .inl ⟨d, s1, h1⟩⟩

/-- the loop of `parse_ifdata` over the definitions: all of them reject the content (each tried from the same cursor
    position), or one accepts it -/
theorem trySpecs_inv : ∀ (specs : List Spec) (s : PState)
    (r : Option Gen) (s' : PState), trySpecs f32 ctx specs e s = .ok r s' →
    (r = none ∧ s'.pos = s.pos ∧
      ∀ sp ∈ specs, ∃ s0 s0', s0.pos = s.pos ∧ fromSpec f32 ctx sp e s0 = .ok none s0') ∨
    ∃ sp ∈ specs, ∃ s0 g, s0.pos = s.pos ∧ fromSpec f32 ctx sp e s0 = .ok (some g) s' ∧ r = some g
  | [], s, r, s', h => by
    rw [trySpecs] at h
    obtain ⟨rfl, rfl⟩ := pure_ok h
    exact .inl ⟨rfl, rfl, fun sp hm => by cases hm⟩
  | sp :: rest, s, r, s', h => by
    rw [trySpecs] at h
    obtain ⟨r1, s1, h1, h2⟩ := bind_eq_ok h
    cases r1 with
    | some g =>
      obtain ⟨rfl, rfl⟩ := pure_ok h2
      exact .inr ⟨sp, List.mem_cons_self .., s, g, rfl, h1, rfl⟩
    | none =>
      dsimp only at h2
      have hp : s1.pos = s.pos := by
        rcases fromSpec_inv h1 with ⟨_, hp, _⟩ | ⟨_, _, _, _, _, hr⟩
        · exact hp
        · cases hr
      rcases trySpecs_inv rest s1 r s' h2 with ⟨hr, hp', hall⟩ | ⟨sp', hm, s0, g, hp0, hf, hr⟩
      · refine .inl ⟨hr, hp'.trans hp, fun sp' hm => ?_⟩
        rcases List.mem_cons.1 hm with rfl | hm'
        · exact ⟨s, s1, rfl, h1⟩
        · obtain ⟨s0, s0', hp0, hf⟩ := hall sp' hm'
          exact ⟨s0, s0', hp0.trans hp, hf⟩
      · exact .inr ⟨sp', List.mem_cons_of_mem _ hm, s0, g, hp0.trans hp, hf, hr⟩

/-- the content is not empty: the token at the cursor exists and is not `/end` -/
def NonEmpty (e : Env) (s : PState) : Prop := ∃ t, e.toks[s.pos]? = some t ∧ t.ty ≠ 2

instance (e : Env) (s : PState) : Decidable (NonEmpty e s) :=
  match h : e.toks[s.pos]? with
  | none => isFalse fun ⟨_, ht, _⟩ => by rw [h] at ht; cases ht
  | some t =>
    if h2 : t.ty = 2 then isFalse fun ⟨_, ht, hne⟩ => by rw [h] at ht; cases ht; exact hne h2
    else isTrue ⟨t, h, h2⟩

theorem parseIfdata_empty {specs : List Spec}
    (h : ¬ NonEmpty e s) : parseIfdata f32 specs ctx e s = .ok (none, false) s := by
  unfold parseIfdata
  simp only [peekToken_bind]
  cases ht : e.toks[s.pos]? with
  | none => rfl
  | some t =>
    dsimp only
    rw [if_neg fun h2 => h ⟨t, ht, h2⟩]
    rfl

theorem parseIfdata_nonEmpty {specs : List Spec}
    (h : NonEmpty e s) : parseIfdata f32 specs ctx e s =
      (trySpecs f32 ctx specs >>= fun r => match r with
        | some g => pure (some g, true)
        | none => unknownStart ctx >>= fun g => pure (some g, false)) e s := by
  obtain ⟨t, ht, h2⟩ := h
  unfold parseIfdata
  simp only [peekToken_bind]
  rw [ht]
  dsimp only
  rw [if_pos h2]
  rfl

/-- **the three outcomes of `parse_ifdata`**: the content is empty; a definition accepted it; none did and the fallback
    kept it -/
theorem parseIfdata_inv {specs : List Spec} {s : PState} {r : Option Gen} {valid : Bool}
    (h : parseIfdata f32 specs ctx e s = .ok (r, valid) s') :
    (¬ NonEmpty e s ∧ r = none ∧ valid = false ∧ s' = s) ∨
    NonEmpty e s ∧
      ((∃ g, trySpecs f32 ctx specs e s = .ok (some g) s' ∧ r = some g ∧ valid = true) ∨
       ∃ s1 g, trySpecs f32 ctx specs e s = .ok none s1 ∧ unknownStart ctx e s1 = .ok g s' ∧ r = some g ∧ valid = false) := by
  by_cases hne : NonEmpty e s
  · rw [parseIfdata_nonEmpty hne] at h
    obtain ⟨r1, s1, h1, h2⟩ := bind_eq_ok h
    cases r1 with
    | some g =>
      cases h2
      exact .inr ⟨hne, .inl ⟨g, h1, rfl, rfl⟩⟩
    | none =>
      obtain ⟨g, s2, h3, h4⟩ := bind_eq_ok h2
      cases h4
      exact .inr ⟨hne, .inr ⟨s1, g, h1, h3, rfl, rfl⟩⟩
  · rw [parseIfdata_empty hne] at h
    cases h
    exact .inl ⟨hne, rfl, rfl, rfl⟩

theorem parseIfdata_valid_inv {specs : List Spec} {s : PState}
    {r : Option Gen} (h : parseIfdata f32 specs ctx e s = .ok (r, true) s') :
    s.pos < e.toks.size ∧ ∃ g, r = some g ∧ trySpecs f32 ctx specs e s = .ok (some g) s' := by
  rcases parseIfdata_inv h with ⟨_, _, hv, _⟩ | ⟨⟨t, ht, _⟩, ⟨g, h1, hr, _⟩ | ⟨_, _, _, _, _, hv⟩⟩
  · cases hv
  · exact ⟨getElem?_some_lt ht, g, hr, h1⟩
  · cases hv

/-- **a block that `parse_ifdata` flags as valid**: one of the definitions, tried from a state with the same cursor, was
    interpreted successfully, and behind it there is nothing but comments up to a `/end`, in front of which the cursor
    stays; what is stored is `parse_ifdata_make_block` of what the interpreter built -/
theorem parseIfdata_valid_run {specs : List Spec} {s : PState}
    {r : Option Gen} (h : parseIfdata f32 specs ctx e s = .ok (r, true) s') :
    s.pos < e.toks.size ∧ ∃ sp ∈ specs, ∃ s0 g s1, s0.pos = s.pos ∧ itemP f32 sp ctx e s0 = .ok g s1 ∧
      skipComments ctx (e.toks.size + 1) e s1 = .ok () s' ∧ AtEnd e s' ∧ r = some (makeBlock g ctx.line) := by
  obtain ⟨hlt, g, rfl, h1⟩ := parseIfdata_valid_inv h
  rcases trySpecs_inv specs s (some g) s' h1 with ⟨hr, _⟩ | ⟨sp, hm, s0, g0, hp0, hf, hr⟩
  · cases hr
  · rcases fromSpec_inv hf with ⟨hr', _⟩ | ⟨d, s1, hi, h3, hend, hr'⟩
    · cases hr'
    · exact ⟨hlt, sp, hm, s0, d, s1, hp0, hi, h3, hend, hr.trans hr'⟩

end A2l.IfData
