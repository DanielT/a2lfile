import A2lVerif.Model.Include
import A2lVerif.Lemmas.Lex
/-!
# Lemmas for C16: `tokenize` (include resolution) of `src/tokenizer.rs`

The index arithmetic of the splice over `include_directives` is shown to compute a plain recursion over the token
list (`walk`, `splice_eq_walk`); everything else is proved about the walk, by induction along its cases
(`directive_induction`, the step at a directive being `incStep`): totality, the errors and the chains
`ReachesMissing` / `ReachesLimit`, the simulation of the inline-expansion specifications `expand` / `expandI`
(`tokenize_sim`), and that the depth budget matters for `IncludeFileError` only.

`splice_eq_walk` needs one fact about `tokenize_core` beyond C03 (`lex_quoteOk`, Lemmas/Lex.lean): the token directly behind an
`Include` token, if it is a String or Identifier token whose first byte is `"`, spans at least two bytes; the splice
takes `&filetext[filename_start + 1 .. filename_end - 1]` of it.  (An A2ML block token may consist of a single `"`,
but it always follows an Identifier token.)
-/

namespace A2l.Inc
open A2l.Lex (Bytes TokType)

def isName (t : Tok) : Prop := t.ttype = .string ∨ t.ttype = .identifier
instance (t : Tok) : Decidable (isName t) := by unfold isName; infer_instance

/-- the text of the name token without the surrounding quotes -/
def nameAt (b : Bytes) (s e : Nat) : Path :=
  if b[s]? = some 34 ∧ b[e - 1]? = some 34 then (b.extract (s + 1) (e - 1)).toList else (b.extract s e).toList

def nameOf (b : Bytes) (t : Tok) : Path := nameAt b t.startpos t.endpos

/-- the file that the directive `/include nm` in file `filename` names -/
def resolve (fs : FS) (filename : Filename) (b : Bytes) (nm : Tok) : Filename :=
  { full := makeIncludeFilename fs (nameOf b nm) filename.full, display := nameOf b nm }

/-- the state after the included file has been tokenized to `r` -/
def St.add (st : St) (r : TokenResult) : St :=
  { tokens := st.tokens ++ r.tokens, filenames := st.filenames ++ r.filenames,
    filedatas := st.filedatas ++ r.filedata, nextFileid := st.nextFileid + r.filenames.length }

def St.push (st : St) (l : List Tok) : St := { st with tokens := st.tokens ++ l }

/-- the splice as a plain walk over the token list: an `Include` token followed by a name token is replaced by the
    tokens of the named file, every other token is copied; `rec` tokenizes the included file, `rec = none`:
    the depth limit is reached and no file is loaded -/
def walk (rec : Option Rec) (fs : FS) (filename : Filename) (b : Bytes) : List Tok → St → R St
  | [], st => .ok st
  | t :: ts, st =>
    if t.ttype = .include then
      match ts with
      | [] => .err (.IncompleteIncludeError filename.display t.line)
      | nm :: ts' =>
        if isName nm then
          match rec with
          | none => .err (.IncludeFileError filename.display nm.line (nameOf b nm))
          | some f =>
            match load fs (resolve fs filename b nm).full with
            | some data =>
              match f (resolve fs filename b nm) st.nextFileid data with
              | .ok r => walk rec fs filename b ts' (st.add r)
              | .err e => .err e
              | .panic => .panic
              | .hang => .hang
            | none => .err (.IncludeFileError filename.display nm.line (nameOf b nm))
        else .err (.IncompleteIncludeError filename.display t.line)
    else walk rec fs filename b ts (st.push [t])

def St.init (filename : Filename) (fileid : Nat) (b : Bytes) : St :=
  { tokens := [], filenames := [filename], filedatas := [b], nextFileid := fileid + 1 }

/-- `Ok(TokenResult { tokens, filenames, filedata })` -/
def finish : R St → Res
  | .ok st => .ok { tokens := st.tokens, filedata := st.filedatas, filenames := st.filenames }
  | .err e => .err e
  | .panic => .panic
  | .hang => .hang

def R.andThen {α β : Type} (x : R α) (f : α → R β) : R β :=
  match x with
  | .ok a => f a
  | .err e => .err e
  | .panic => .panic
  | .hang => .hang

theorem R.andThen_eq_ok {α β : Type} {x : R α} {f : α → R β} {c : β} (h : x.andThen f = .ok c) :
    ∃ a, x = .ok a ∧ f a = .ok c := by
  cases x with
  | ok a => exact ⟨a, rfl, h⟩
  | err e => cases h
  | panic => cases h
  | hang => cases h

theorem R.andThen_eq_err {α β : Type} {x : R α} {f : α → R β} {e : Err} (h : x.andThen f = .err e) :
    x = .err e ∨ ∃ a, x = .ok a ∧ f a = .err e := by
  cases x with
  | ok a => exact .inr ⟨a, rfl, h⟩
  | err e' => cases h; exact .inl rfl
  | panic => cases h
  | hang => cases h

theorem finish_eq (x : R St) :
    finish x = x.andThen fun st => .ok { tokens := st.tokens, filedata := st.filedatas, filenames := st.filenames } := by
  cases x <;> rfl

def R.Total {α : Type} (x : R α) : Prop := x ≠ .panic ∧ x ≠ .hang

theorem R.Total.andThen {α β : Type} {x : R α} {f : α → R β} (hx : x.Total) (hf : ∀ a, (f a).Total) :
    (x.andThen f).Total := by
  cases x with
  | ok a => exact hf a
  | err e => exact ⟨nofun, nofun⟩
  | panic => exact absurd rfl hx.1
  | hang => exact absurd rfl hx.2

/-- not an `IncludeFileError`: the results that do not depend on the depth budget -/
def R.NotIncFile {α : Type} (x : R α) : Prop := ∀ f l nm, x ≠ .err (.IncludeFileError f l nm)

/-- `y` is `x` unless `x` is an `IncludeFileError`: the result under a larger depth budget against that under a smaller -/
def R.Le {α : Type} (x y : R α) : Prop := x.NotIncFile → y = x

theorem R.Le.refl {α : Type} (x : R α) : x.Le x := fun _ => rfl

theorem R.Le.andThen {α β : Type} {x y : R α} {f g : α → R β} (hx : x.Le y) (hf : ∀ a, (f a).Le (g a)) :
    (x.andThen f).Le (y.andThen g) := by
  intro h
  cases x with
  | ok a => rw [hx fun _ _ _ => nofun]; exact hf a h
  | err e => rw [hx fun p l nm he => h p l nm (by rw [he]; rfl)]; rfl
  | panic => rw [hx fun _ _ _ => nofun]; rfl
  | hang => rw [hx fun _ _ _ => nofun]; rfl

/-- a relation between two recursive calls, lifted to the `Option`s in which they are handed down: where the first is
    available so is the second, and they are related; at the depth limit (`none`) nothing is asked -/
def Lift {α β : Type} (R : α → β → Prop) (x : Option α) (y : Option β) : Prop :=
  ∀ a, x = some a → ∃ b, y = some b ∧ R a b

theorem Lift.none {α β : Type} {R : α → β → Prop} {y : Option β} : Lift R none y := nofun

theorem Lift.some {α β : Type} {R : α → β → Prop} {a : α} {b : β} (h : R a b) : Lift R (some a) (some b) :=
  fun _ ha => by cases ha; exact ⟨b, rfl, h⟩

variable {rec : Option Rec} {fs : FS} {n : Nat} {fn : Filename} {fid : Nat} {b : Bytes}

theorem walk_nil {st : St} :
    walk rec fs fn b [] st = .ok st := by rfl

theorem walk_cons_copy {t : Tok} {ts : List Tok} {st : St} (h : t.ttype ≠ .include) :
    walk rec fs fn b (t :: ts) st = walk rec fs fn b ts (st.push [t]) := by
  rw [walk.eq_def]; simp only [if_neg h]

theorem walk_inc_nil {t : Tok} {st : St} (h : t.ttype = .include) :
    walk rec fs fn b [t] st = .err (.IncompleteIncludeError fn.display t.line) := by
  rw [walk.eq_def]; simp only [if_pos h]

theorem walk_inc_notName {t nm : Tok} {ts : List Tok} {st : St} (h : t.ttype = .include) (hn : ¬ isName nm) :
    walk rec fs fn b (t :: nm :: ts) st = .err (.IncompleteIncludeError fn.display t.line) := by
  rw [walk.eq_def]; simp only [if_pos h, if_neg hn]

/-- the directive `/include nm` met with the locals `st`: the locals after the named file has been tokenized (by
    `rec`) and spliced in -/
def incStep (rec : Option Rec) (fs : FS) (fn : Filename) (b : Bytes) (nm : Tok) (st : St) : R St :=
  match rec with
  | none => .err (.IncludeFileError fn.display nm.line (nameOf b nm))
  | some f =>
    match load fs (resolve fs fn b nm).full with
    | none => .err (.IncludeFileError fn.display nm.line (nameOf b nm))
    | some data => (f (resolve fs fn b nm) st.nextFileid data).andThen fun r => .ok (st.add r)

theorem walk_directive {t nm : Tok} {ts : List Tok} {st : St} (h : t.ttype = .include) (hn : isName nm) :
    walk rec fs fn b (t :: nm :: ts) st = (incStep rec fs fn b nm st).andThen (walk rec fs fn b ts) := by
  rw [walk.eq_def]
  simp only [if_pos h, if_pos hn, incStep]
  cases rec with
  | none => rfl
  | some f =>
    simp only
    cases load fs (resolve fs fn b nm).full with
    | none => rfl
    | some data => simp only; cases f (resolve fs fn b nm) st.nextFileid data <;> rfl

theorem incStep_missing {nm : Tok} {st : St} (h : load fs (resolve fs fn b nm).full = none) :
    incStep rec fs fn b nm st = .err (.IncludeFileError fn.display nm.line (nameOf b nm)) := by
  cases rec with
  | none => rfl
  | some f => simp only [incStep, h]

theorem incStep_load {f : Rec} {nm : Tok} {st : St} {data : Bytes}
    (h : load fs (resolve fs fn b nm).full = some data) :
    incStep (some f) fs fn b nm st =
      (f (resolve fs fn b nm) st.nextFileid data).andThen fun r => .ok (st.add r) := by
  simp only [incStep, h]

theorem incStep_cases (rec : Option Rec) (fs : FS) (fn : Filename) (b : Bytes) (nm : Tok) (st : St) :
    (incStep rec fs fn b nm st = .err (.IncludeFileError fn.display nm.line (nameOf b nm)) ∧
      (rec = none ∨ load fs (resolve fs fn b nm).full = none)) ∨
    ∃ g data, rec = some g ∧ load fs (resolve fs fn b nm).full = some data ∧
      incStep rec fs fn b nm st = (g (resolve fs fn b nm) st.nextFileid data).andThen fun r => .ok (st.add r) := by
  cases rec with
  | none => exact .inl ⟨rfl, .inl rfl⟩
  | some g =>
    cases hl : load fs (resolve fs fn b nm).full with
    | none => exact .inl ⟨incStep_missing hl, .inr rfl⟩
    | some data => exact .inr ⟨g, data, rfl, rfl, incStep_load hl⟩

/-- induction over a token list along the cases of `walk`: `inc` marks the `Include` tokens, `nm` the tokens that
    can be a file name -/
theorem directive_induction {α : Type} (inc nm : α → Prop) [DecidablePred inc] [DecidablePred nm]
    {motive : List α → Prop} (nil : motive [])
    (copy : ∀ t ts, ¬ inc t → motive ts → motive (t :: ts))
    (last : ∀ t, inc t → motive [t])
    (noName : ∀ t x ts, inc t → ¬ nm x → motive (t :: x :: ts))
    (name : ∀ t x ts, inc t → nm x → motive ts → motive (t :: x :: ts)) : ∀ l, motive l
  | [] => nil
  | [t] => if h : inc t then last t h else copy t [] h nil
  | t :: x :: ts =>
    if h : inc t then
      if hx : nm x then name t x ts h hx (directive_induction inc nm nil copy last noName name ts)
      else noName t x ts h hx
    else copy t (x :: ts) h (directive_induction inc nm nil copy last noName name (x :: ts))

theorem walk_noInc :
    ∀ (seg l : List Tok) (st : St), (∀ t ∈ seg, t.ttype ≠ .include) →
      walk rec fs fn b (seg ++ l) st = walk rec fs fn b l (st.push seg) := by
  intro seg
  induction seg with
  | nil => intro l st _; simp only [St.push, List.nil_append, List.append_nil]
  | cons t seg ih =>
    intro l st h
    have ht : t.ttype ≠ .include := h t List.mem_cons_self
    rw [List.cons_append, walk_cons_copy ht, ih l _ (fun t' ht' => h t' (List.mem_cons_of_mem _ ht'))]
    simp only [St.push, List.append_assoc, List.singleton_append]

def Starts (l : List Tok) : Prop := l = [] ∨ ∃ inc rest, l = inc :: rest ∧ inc.ttype = .include

theorem exists_segment (l : List Tok) :
    ∃ seg l', l = seg ++ l' ∧ (∀ t ∈ seg, t.ttype ≠ .include) ∧ Starts l' := by
  induction l with
  | nil => exact ⟨[], [], rfl, by simp, .inl rfl⟩
  | cons t l ih =>
    by_cases ht : t.ttype = .include
    · exact ⟨[], t :: l, rfl, by simp, .inr ⟨t, l, rfl, ht⟩⟩
    · obtain ⟨seg, l', rfl, hs, hl'⟩ := ih
      exact ⟨t :: seg, l', rfl, List.forall_mem_cons.2 ⟨ht, hs⟩, hl'⟩

theorem includeDirectives_cons_inc {inc : Tok} {rest : List Tok} {o : Nat} (h : inc.ttype = .include) :
    includeDirectives (inc :: rest) o = o :: includeDirectives rest (o + 1) := by
  rw [includeDirectives, if_pos h]

theorem includeDirectives_noInc {seg l : List Tok} {o : Nat} (h : ∀ t ∈ seg, t.ttype ≠ .include) :
    includeDirectives (seg ++ l) o = includeDirectives l (o + seg.length) := by
  induction seg generalizing o with
  | nil => rfl
  | cons t seg ih =>
    rw [List.cons_append, includeDirectives, if_neg (h t List.mem_cons_self),
      ih (fun t' ht' => h t' (List.mem_cons_of_mem _ ht')), List.length_cons, Nat.add_assoc, Nat.add_comm 1]

theorem sliceL_mid {α : Type} (A seg C : List α) :
    sliceL (A ++ seg ++ C) A.length (A.length + seg.length) = .ok seg := by
  unfold sliceL
  rw [if_pos (by simp)]
  congr 1
  simp [List.take_append]

/-- what the splice needs of the output of `tokenize_core` (see `wf_of_lex`) -/
structure WF (b : Bytes) (input : List Tok) : Prop where
  span : ∀ t ∈ input, t.startpos < t.endpos ∧ t.endpos ≤ b.size
  quote : ∀ i a c, input[i]? = some a → input[i + 1]? = some c → a.ttype = .include → isName c →
    b[c.startpos]? = some 34 → c.startpos + 2 ≤ c.endpos

theorem stripQuotes_strip (s e : Nat) (h0 : b[s]? = some 34) (h1 : b[e - 1]? = some 34) (he : e ≠ 0) :
    stripQuotes b s e = .ok (s + 1, e - 1) := by
  rw [stripQuotes, h0, h1]
  exact (if_pos rfl).trans ((if_neg he).trans (if_pos rfl))

theorem stripQuotes_keep (s e : Nat) (c0 c1 : UInt8) (h0 : b[s]? = some c0) (h1 : b[e - 1]? = some c1)
    (he : e ≠ 0) (h : ¬ (c0 = 34 ∧ c1 = 34)) : stripQuotes b s e = .ok (s, e) := by
  rw [stripQuotes, h0, h1]
  by_cases hc0 : c0 = 34
  · have hc1 : ¬ (c1 == 34) = true := fun h' => h ⟨hc0, of_decide_eq_true h'⟩
    simp only [if_neg he, if_neg hc1, ite_self]
  · exact if_neg fun h' => hc0 (of_decide_eq_true h')

theorem incName_eq (t : Tok) (hs : t.startpos < t.endpos) (he : t.endpos ≤ b.size)
    (hq : b[t.startpos]? = some 34 → t.startpos + 2 ≤ t.endpos) : incName b t = .ok (nameOf b t) := by
  have hne : t.endpos ≠ 0 := Nat.ne_zero_of_lt hs
  rw [incName, nameOf, nameAt]
  by_cases h : b[t.startpos]? = some 34 ∧ b[t.endpos - 1]? = some 34
  · rw [stripQuotes_strip _ _ h.1 h.2 hne, if_pos h]
    simp only [Lex.slice, if_pos (And.intro (Nat.le_sub_one_of_lt (hq h.1)) (Nat.le_trans (Nat.sub_le _ _) he))]
  · obtain ⟨c0, h0⟩ : ∃ c, b[t.startpos]? = some c := ⟨_, Array.getElem?_eq_getElem (Nat.lt_of_lt_of_le hs he)⟩
    obtain ⟨c1, h1⟩ : ∃ c, b[t.endpos - 1]? = some c :=
      ⟨_, Array.getElem?_eq_getElem (Nat.lt_of_lt_of_le (Nat.sub_one_lt hne) he)⟩
    rw [stripQuotes_keep _ _ _ _ h0 h1 hne (fun h' => h ⟨h'.1 ▸ h0, h'.2 ▸ h1⟩), if_neg h]
    simp only [Lex.slice, if_pos (And.intro (Nat.le_of_lt hs) he)]

theorem loop_succ (input : List Tok) (dirs : List Nat) (n idx : Nat) (st : St) :
    loop rec fs fn b input dirs (n + 1) idx st =
      (directive rec fs fn b input dirs idx st).andThen (loop rec fs fn b input dirs n (idx + 1)) := by
  rw [loop]; cases directive rec fs fn b input dirs idx st <;> rfl

theorem directive_walk (input : List Tok) (dirs : List Nat) (k : Nat) (st : St) (pre seg l' : List Tok) (inc : Tok)
    (hinput : input = pre ++ inc :: (seg ++ l')) (hinc : inc.ttype = .include)
    (hseg : ∀ t ∈ seg, t.ttype ≠ .include) (hl' : Starts l') (wf : WF b input)
    (hp : dirs[k]? = some pre.length) (hq : dirs[k + 1]? = some (pre.length + 1 + seg.length)) :
    walk rec fs fn b (inc :: (seg ++ l')) st =
      (directive rec fs fn b input dirs (k + 1) st).andThen (walk rec fs fn b l') := by
  have hslice : sliceL input (pre.length + 1) (pre.length + 1 + seg.length) = .ok seg := by
    have h2 := sliceL_mid (pre ++ [inc]) seg l'
    rwa [List.length_append, List.length_singleton, List.append_assoc, List.append_assoc, List.singleton_append,
      ← hinput] at h2
  have hincAt : input[pre.length]? = some inc := by
    rw [hinput, List.getElem?_append_right (Nat.le_refl _), Nat.sub_self]; rfl
  unfold directive
  rw [if_neg (Nat.succ_ne_zero k), Nat.add_sub_cancel, hp, hq]
  simp only
  rw [hslice]
  cases seg with
  | nil =>
    simp only [incomplete, hincAt, List.nil_append, R.andThen]
    rcases hl' with hl' | ⟨inc', r, hl', hinc'⟩
    · subst hl'; exact walk_inc_nil hinc
    · subst hl'
      exact walk_inc_notName hinc (by rw [isName, hinc']; exact fun h => h.elim nofun nofun)
  | cons t0 seg' =>
    simp only
    by_cases hn : isName t0
    · have hmem : t0 ∈ input := by
        rw [hinput]; exact List.mem_append_right _ (List.mem_cons_of_mem _ List.mem_cons_self)
      have hnext : input[pre.length + 1]? = some t0 := by
        rw [hinput, List.getElem?_append_right (Nat.le_add_right _ _), Nat.add_sub_cancel_left]; rfl
      have hname := incName_eq t0 (wf.span t0 hmem).1 (wf.span t0 hmem).2
        (wf.quote _ _ _ hincAt hnext hinc hn)
      rw [if_pos (show t0.ttype = .string ∨ t0.ttype = .identifier from hn), hname, List.cons_append,
        walk_directive hinc hn]
      simp only [incStep, resolve]
      cases rec with
      | none => rfl
      | some f =>
      simp only
      cases load fs (makeIncludeFilename fs (nameOf b t0) fn.full) with
      | none => rfl
      | some data =>
        simp only
        cases f { full := makeIncludeFilename fs (nameOf b t0) fn.full, display := nameOf b t0 }
          st.nextFileid data with
        | ok r =>
          simp only [R.andThen]
          rw [walk_noInc _ _ _ (fun t ht => hseg t (List.mem_cons_of_mem _ ht))]
          simp [St.add, St.push]
        | err e => rfl
        | panic => rfl
        | hang => rfl
    · rw [if_neg (show ¬ (t0.ttype = .string ∨ t0.ttype = .identifier) from hn)]
      simp only [incomplete, hincAt, List.cons_append, R.andThen]
      exact walk_inc_notName hinc hn

/-- the loop from the `k`-th directive on is the walk over the rest `l` of the input, which starts at that directive
    (`pre`: the input in front of it, `dpre`: the positions of the `k` directives in `pre`) -/
theorem loop_walk (input : List Tok) (dirs : List Nat) (wf : WF b input) :
    ∀ (m k : Nat) (pre l : List Tok) (dpre : List Nat) (st : St),
      input = pre ++ l → Starts l → dpre.length = k →
      dirs = dpre ++ includeDirectives l pre.length ++ [input.length] →
      (includeDirectives l pre.length).length = m →
      loop rec fs fn b input dirs m (k + 1) st = walk rec fs fn b l st := by
  intro m
  induction m with
  | zero =>
    intro k pre l dpre st hinput hl hk hdirs hm
    rcases hl with hl | ⟨inc, rest, hl, hinc⟩
    · subst hl; simp [loop, walk_nil]
    · subst hl; rw [includeDirectives_cons_inc hinc] at hm; simp at hm
  | succ m ih =>
    intro k pre l dpre st hinput hl hk hdirs hm
    rcases hl with hl | ⟨inc, rest, hl, hinc⟩
    · subst hl; simp [includeDirectives] at hm
    · subst hl
      obtain ⟨seg, l', hrest, hsegNo, hstarts⟩ := exists_segment rest
      rw [includeDirectives_cons_inc hinc, hrest, includeDirectives_noInc hsegNo] at hdirs hm
      have hlen : (pre ++ inc :: seg).length = pre.length + 1 + seg.length := by
        rw [List.length_append, List.length_cons, Nat.add_comm seg.length 1, ← Nat.add_assoc]
      have hinput' : input = pre ++ inc :: (seg ++ l') := by rw [hinput, hrest]
      have hp : dirs[k]? = some pre.length := by
        rw [hdirs, List.append_assoc, List.getElem?_append_right (Nat.le_of_eq hk), hk, Nat.sub_self]
        rfl
      have hq : dirs[k + 1]? = some (pre.length + 1 + seg.length) := by
        rw [hdirs, List.append_assoc, List.getElem?_append_right (hk ▸ Nat.le_succ _), hk, Nat.add_sub_cancel_left]
        rcases hstarts with h | ⟨inc', r, h, hinc'⟩
        · subst h
          have : input.length = pre.length + 1 + seg.length := by rw [hinput', List.append_nil, hlen]
          rw [this]; rfl
        · subst h
          rw [includeDirectives_cons_inc hinc']; rfl
      rw [loop_succ, hrest, directive_walk input dirs k st pre seg l' inc hinput' hinc hsegNo hstarts wf hp hq]
      congr 1
      funext st'
      refine ih (k + 1) (pre ++ inc :: seg) l' (dpre ++ [pre.length]) st' ?_ hstarts
        (by rw [List.length_append, hk]; rfl) ?_ ?_
      · rw [hinput', List.append_assoc, List.cons_append]
      · rw [hdirs, hlen]; simp only [List.append_assoc, List.singleton_append]
      · rw [hlen]; exact Nat.succ.inj hm

theorem splice_eq_walk (input : List Tok) (wf : WF b input) :
    splice rec fs fn fid b input = finish (walk rec fs fn b input (St.init fn fid b)) := by
  obtain ⟨seg, l, hin, hsegNo, hstarts⟩ := exists_segment input
  have hspan : includeDirectives input 0 = includeDirectives l (0 + seg.length) := by
    rw [hin, includeDirectives_noInc hsegNo]
  have hwalk : walk rec fs fn b input (St.init fn fid b) = walk rec fs fn b l ((St.init fn fid b).push seg) := by
    conv => lhs; rw [hin]
    exact walk_noInc _ _ _ hsegNo
  rw [hwalk]
  unfold splice
  simp only
  rw [hspan]
  rcases hstarts with h | ⟨inc, rest, h, hinc⟩
  · subst h
    simp only [List.append_nil] at hin
    simp [includeDirectives, walk_nil, finish, St.push, St.init, hin]
  · have hslice : sliceL input 0 seg.length = .ok seg := by
      have := sliceL_mid [] seg l
      simpa [← hin] using this
    rw [h, includeDirectives_cons_inc hinc]
    simp only [List.isEmpty_cons, Bool.false_eq_true, if_false, List.getElem?_cons_zero, Nat.zero_add]
    rw [hslice]
    simp only
    have hloop := loop_walk (rec := rec) (fs := fs) (fn := fn) input
      (seg.length :: includeDirectives rest (seg.length + 1) ++ [input.length]) wf
      (includeDirectives rest (seg.length + 1)).length.succ 0 seg l []
      { tokens := seg, filenames := [fn], filedatas := [b], nextFileid := fid + 1 }
      hin (by rw [h]; exact .inr ⟨inc, rest, rfl, hinc⟩) rfl
      (by rw [h, includeDirectives_cons_inc hinc]; simp)
      (by rw [h, includeDirectives_cons_inc hinc]; simp)
    have hlen : (seg.length :: includeDirectives rest (seg.length + 1) ++ [input.length]).length - 1 =
        (includeDirectives rest (seg.length + 1)).length.succ := by simp
    rw [hlen, hloop, h]
    have hst : ({ tokens := seg, filenames := [fn], filedatas := [b], nextFileid := fid + 1 } : St) =
        (St.init fn fid b).push seg := by simp [St.init, St.push]
    rw [hst]
    cases walk rec fs fn b (inc :: rest) ((St.init fn fid b).push seg) <;> rfl

theorem wf_of_lex (lt : List Lex.Token) (h : Lex.tokenize b = .ok lt) :
    WF b (lt.map (Tok.ofLex fid)) where
  span := by
    intro t ht
    obtain ⟨t0, ht0, rfl⟩ := List.mem_map.1 ht
    exact (Lex.tokenize_post_of h).1 t0 ht0
  quote := by
    intro i a c ha hc hinc hn hq
    rw [List.getElem?_map] at ha hc
    obtain ⟨a0, ha0, rfl⟩ := Option.map_eq_some_iff.1 ha
    obtain ⟨c0, hc0, rfl⟩ := Option.map_eq_some_iff.1 hc
    exact Lex.lex_quoteOk b lt h i a0 c0 ha0 hc0 hinc hn hq

/-- the recursive call that is available with the depth budget `n`: none at `0` (`depth = MAX_INCLUDE_DEPTH`) -/
def deeper (fs : FS) : Nat → Option Rec
  | 0 => none
  | n + 1 => some (tokenize fs n)

theorem tokenize_eq_with :
    tokenize fs n fn fid b = tokenizeWith (deeper fs n) fs fn fid b := by
  cases n <;> rfl

theorem tokenizeWith_walk :
    tokenizeWith rec fs fn fid b =
      match Lex.tokenize b with
      | .err k l => .err (.Lex fn.display k l)
      | .panic => .panic
      | .hang => .hang
      | .ok lt => finish (walk rec fs fn b (lt.map (Tok.ofLex fid)) (St.init fn fid b)) := by
  rw [tokenizeWith]
  cases h : Lex.tokenize b with
  | ok lt => exact splice_eq_walk _ (wf_of_lex lt h)
  | err k l => rfl
  | panic => rfl
  | hang => rfl

theorem incStep_total (hrec : ∀ g, rec = some g → ∀ f i d, (g f i d).Total) {nm : Tok} {st : St} :
    (incStep rec fs fn b nm st).Total := by
  obtain ⟨he, -⟩ | ⟨g, data, hg, -, he⟩ := incStep_cases rec fs fn b nm st <;> rw [he]
  · exact ⟨nofun, nofun⟩
  · exact (hrec g hg _ _ _).andThen fun r => ⟨nofun, nofun⟩

theorem walk_total (hrec : ∀ g, rec = some g → ∀ f i d, (g f i d).Total) {l : List Tok} {st : St} :
    (walk rec fs fn b l st).Total := by
  induction l using directive_induction (fun t => t.ttype = .include) isName generalizing st with
  | nil => exact ⟨nofun, nofun⟩
  | copy t ts h ih => rw [walk_cons_copy h]; exact ih
  | last t h => rw [walk_inc_nil h]; exact ⟨nofun, nofun⟩
  | noName t x ts h hx => rw [walk_inc_notName h hx]; exact ⟨nofun, nofun⟩
  | name t x ts h hx ih =>
    rw [walk_directive h hx]; exact (incStep_total hrec).andThen fun _ => ih

theorem tokenizeWith_total (hrec : ∀ g, rec = some g → ∀ f i d, (g f i d).Total) :
    (tokenizeWith rec fs fn fid b).Total := by
  rw [tokenizeWith_walk]
  cases h : Lex.tokenize b with
  | ok lt => simp only [finish_eq]; exact (walk_total hrec).andThen fun _ => ⟨nofun, nofun⟩
  | err k l => exact ⟨nofun, nofun⟩
  | panic => exact (h ▸ Lex.tokenize_post b : Lex.Post b .panic).elim
  | hang => exact (h ▸ Lex.tokenize_post b : Lex.Post b .hang).elim

/-- the lexer neither panics nor hangs (C03), the splice adds no panic of its own, and the recursion ends with the
    depth budget -/
theorem tokenize_is_total (fs : FS) : ∀ (n : Nat) (fn : Filename) (fid : Nat) (b : Bytes),
    (tokenize fs n fn fid b).Total
  | 0, fn, fid, b => tokenizeWith_total (rec := none) nofun
  | n + 1, fn, fid, b =>
    tokenizeWith_total (rec := some (tokenize fs n)) (fun g hg => by cases hg; exact tokenize_is_total fs n)

theorem walk_append {pre rest : List Tok} {st st1 : St} (h : walk rec fs fn b pre st = .ok st1) :
    walk rec fs fn b (pre ++ rest) st = walk rec fs fn b rest st1 := by
  induction pre using directive_induction (fun t => t.ttype = .include) isName generalizing st with
  | nil => rw [walk_nil] at h; cases h; rfl
  | copy t ts ht ih =>
    rw [walk_cons_copy ht] at h
    rw [List.cons_append, walk_cons_copy ht, ih h]
  | last t ht => rw [walk_inc_nil ht] at h; cases h
  | noName t x ts ht hx => rw [walk_inc_notName ht hx] at h; cases h
  | name t x ts ht hx ih =>
    rw [walk_directive ht hx] at h
    obtain ⟨st2, h2, hw⟩ := R.andThen_eq_ok h
    rw [List.cons_append, List.cons_append, walk_directive ht hx, h2]
    exact ih hw

/-- the part of `tokenize` (depth budget `n`) in front of a directive has been spliced without an error -/
def Resolves (fs : FS) (n : Nat) (fn : Filename) (fid : Nat) (b : Bytes) (pre : List Lex.Token) (st1 : St) : Prop :=
  walk (deeper fs n) fs fn b (pre.map (Tok.ofLex fid)) (St.init fn fid b) = .ok st1

theorem resolves_nil :
    Resolves fs n fn fid b [] (St.init fn fid b) := walk_nil

theorem resolves_of_noInc {pre : List Lex.Token} (h : ∀ t ∈ pre, t.ttype ≠ .include) :
    Resolves fs n fn fid b pre ((St.init fn fid b).push (pre.map (Tok.ofLex fid))) := by
  have := walk_noInc (rec := deeper fs n) (fs := fs) (fn := fn) (b := b) (pre.map (Tok.ofLex fid)) [] (St.init fn fid b)
    (fun t ht => by obtain ⟨t0, ht0, rfl⟩ := List.mem_map.1 ht; exact h t0 ht0)
  rwa [List.append_nil, walk_nil] at this

/-- the file named by the directive `/include nm` in the file `fn` with content `b` -/
def target (fs : FS) (fn : Filename) (b : Bytes) (nm : Lex.Token) : Filename :=
  { full := makeIncludeFilename fs (nameAt b nm.startpos nm.endpos) fn.full, display := nameAt b nm.startpos nm.endpos }

theorem resolve_ofLex (nm : Lex.Token) :
    resolve fs fn b (Tok.ofLex fid nm) = target fs fn b nm := rfl

theorem tokenize_at_directive {pre post : List Lex.Token} {inc : Lex.Token} {st1 : St}
    (hlex : Lex.tokenize b = .ok (pre ++ inc :: post)) (hpre : Resolves fs n fn fid b pre st1) :
    tokenize fs n fn fid b =
      finish (walk (deeper fs n) fs fn b ((inc :: post).map (Tok.ofLex fid)) st1) := by
  rw [tokenize_eq_with, tokenizeWith_walk, hlex]
  simp only [List.map_append]
  rw [walk_append hpre]

theorem tokenize_directive {pre post : List Lex.Token} {inc nm : Lex.Token} {st1 : St}
    (hlex : Lex.tokenize b = .ok (pre ++ inc :: nm :: post))
    (hinc : inc.ttype = .include) (hnm : nm.ttype = .string ∨ nm.ttype = .identifier)
    (hpre : Resolves fs n fn fid b pre st1) :
    tokenize fs n fn fid b =
      finish ((incStep (deeper fs n) fs fn b (Tok.ofLex fid nm) st1).andThen
        (walk (deeper fs n) fs fn b (post.map (Tok.ofLex fid)))) := by
  rw [tokenize_at_directive hlex hpre, List.map_cons, List.map_cons, walk_directive (by exact hinc) (by exact hnm)]

/-- an error inside an included file is the error of the including file (`?`) -/
theorem include_error_propagates {pre post : List Lex.Token} {inc nm : Lex.Token} {st1 : St} {data : Bytes} {e : Err}
    (hlex : Lex.tokenize b = .ok (pre ++ inc :: nm :: post))
    (hinc : inc.ttype = .include) (hnm : nm.ttype = .string ∨ nm.ttype = .identifier)
    (hpre : Resolves fs (n + 1) fn fid b pre st1)
    (hload : load fs (target fs fn b nm).full = some data)
    (herr : tokenize fs n (target fs fn b nm) st1.nextFileid data = .err e) :
    tokenize fs (n + 1) fn fid b = .err e := by
  rw [tokenize_directive hlex hinc hnm hpre, deeper, incStep_load (by exact hload), resolve_ofLex, herr]
  rfl

/-- a directive that can be reached through a chain of resolvable includes names a file that does not exist
    (`n`: depth budget of the file `fn`) -/
inductive ReachesMissing (fs : FS) : Nat → Filename → Nat → Bytes → Err → Prop
  | here (n : Nat) (fn : Filename) (fid : Nat) (b : Bytes) (pre post : List Lex.Token) (inc nm : Lex.Token) (st1 : St) :
      Lex.tokenize b = .ok (pre ++ inc :: nm :: post) →
      inc.ttype = .include → (nm.ttype = .string ∨ nm.ttype = .identifier) →
      Resolves fs n fn fid b pre st1 →
      load fs (target fs fn b nm).full = none →
      ReachesMissing fs n fn fid b (.IncludeFileError fn.display nm.line (nameAt b nm.startpos nm.endpos))
  | deeper (n : Nat) (fn : Filename) (fid : Nat) (b : Bytes) (pre post : List Lex.Token) (inc nm : Lex.Token) (st1 : St)
      (data : Bytes) (e : Err) :
      Lex.tokenize b = .ok (pre ++ inc :: nm :: post) →
      inc.ttype = .include → (nm.ttype = .string ∨ nm.ttype = .identifier) →
      Resolves fs (n + 1) fn fid b pre st1 →
      load fs (target fs fn b nm).full = some data →
      ReachesMissing fs n (target fs fn b nm) st1.nextFileid data e →
      ReachesMissing fs (n + 1) fn fid b e

theorem reachesMissing_err {e : Err} (h : ReachesMissing fs n fn fid b e) : tokenize fs n fn fid b = .err e := by
  induction h with
  | here n fn fid b pre post inc nm st1 hlex hinc hnm hpre hmiss =>
    rw [tokenize_directive hlex hinc hnm hpre, incStep_missing (by exact hmiss)]; rfl
  | deeper n fn fid b pre post inc nm st1 data e hlex hinc hnm hpre hload _ ih =>
    exact include_error_propagates hlex hinc hnm hpre hload ih

/-- a chain of `n` nested resolvable includes below the file `fn` (depth budget `n`) ends at a directive with a usable
    name at depth budget `0`: the depth limit is reached -/
inductive ReachesLimit (fs : FS) : Nat → Filename → Nat → Bytes → Err → Prop
  | here (fn : Filename) (fid : Nat) (b : Bytes) (pre post : List Lex.Token) (inc nm : Lex.Token) (st1 : St) :
      Lex.tokenize b = .ok (pre ++ inc :: nm :: post) →
      inc.ttype = .include → (nm.ttype = .string ∨ nm.ttype = .identifier) →
      Resolves fs 0 fn fid b pre st1 →
      ReachesLimit fs 0 fn fid b (.IncludeFileError fn.display nm.line (nameAt b nm.startpos nm.endpos))
  | deeper (n : Nat) (fn : Filename) (fid : Nat) (b : Bytes) (pre post : List Lex.Token) (inc nm : Lex.Token) (st1 : St)
      (data : Bytes) (e : Err) :
      Lex.tokenize b = .ok (pre ++ inc :: nm :: post) →
      inc.ttype = .include → (nm.ttype = .string ∨ nm.ttype = .identifier) →
      Resolves fs (n + 1) fn fid b pre st1 →
      load fs (target fs fn b nm).full = some data →
      ReachesLimit fs n (target fs fn b nm) st1.nextFileid data e →
      ReachesLimit fs (n + 1) fn fid b e

theorem reachesLimit_err {e : Err} (h : ReachesLimit fs n fn fid b e) : tokenize fs n fn fid b = .err e := by
  induction h with
  | here fn fid b pre post inc nm st1 hlex hinc hnm hpre =>
    rw [tokenize_directive hlex hinc hnm hpre]; rfl
  | deeper n fn fid b pre post inc nm st1 data e hlex hinc hnm hpre hload _ ih =>
    exact include_error_propagates hlex hinc hnm hpre hload ih

theorem first_include {pre post : List Lex.Token} {inc nm : Lex.Token} {fn' : Filename} {data : Bytes}
    (hlex : Lex.tokenize b = .ok (pre ++ inc :: nm :: post)) (hpre : ∀ t ∈ pre, t.ttype ≠ .include)
    (hinc : inc.ttype = .include) (hnm : nm.ttype = .string ∨ nm.ttype = .identifier)
    (htgt : target fs fn b nm = fn') (hload : load fs fn'.full = some data) :
    (∀ fid, tokenize fs 0 fn fid b = .err (.IncludeFileError fn.display nm.line fn'.display)) ∧
    ∀ n e, (∀ fid, tokenize fs n fn' fid data = .err e) → ∀ fid, tokenize fs (n + 1) fn fid b = .err e := by
  subst htgt
  exact ⟨fun fid => reachesLimit_err (.here fn fid b pre post inc nm _ hlex hinc hnm (resolves_of_noInc hpre)),
    fun n e h fid => include_error_propagates hlex hinc hnm (resolves_of_noInc hpre) hload (h _)⟩

/-- `main.a2l` -/
def mainName : Path := [109, 97, 105, 110, 46, 97, 50, 108]

/-- `/include "main.a2l"` -/
def selfInc : Bytes := #[47, 105, 110, 99, 108, 117, 100, 101, 32, 34, 109, 97, 105, 110, 46, 97, 50, 108, 34]

theorem selfInc_lex : Lex.tokenize selfInc = .ok
    [{ ttype := .include, startpos := 0, endpos := 8, line := 1 },
     { ttype := .string, startpos := 9, endpos := 19, line := 1 }] := by decide +kernel

theorem selfInc_name : nameAt selfInc 9 19 = mainName := by decide +kernel

theorem selfInc_target (fs : FS) (hfs : fs mainName = some selfInc) (fn : Filename) (hfn : fn.full = mainName) :
    target fs fn selfInc { ttype := .string, startpos := 9, endpos := 19, line := 1 } =
      { full := mainName, display := mainName } := by
  have hnorm : normalize mainName = mainName := by decide +kernel
  have habs : isAbsolute mainName = false := by decide +kernel
  have hpar : parent mainName = some [] := by decide +kernel
  simp only [target, selfInc_name, hfn, makeIncludeFilename, hnorm, habs, hpar, join, FS.exists]
  simp [hfs]

theorem selfInc_load (fs : FS) (hfs : fs mainName = some selfInc) : load fs mainName = some selfInc := by
  rw [load, hfs, Option.map_some, stripBom, if_neg (by decide)]

/-- the self-including file under the depth budget `n` reaches the depth limit: the error is that of the innermost
    level — the file reached after `n` nested directives, whose own directive is refused — handed up unchanged; that
    level's file name is the name written in the directive (`main.a2l`) unless it is the outermost level (`n = 0`) -/
theorem self_include_limit_aux (fs : FS) (hfs : fs mainName = some selfInc) :
    ∀ (n : Nat) (fn : Filename) (fid : Nat), fn.full = mainName →
      ReachesLimit fs n fn fid selfInc (.IncludeFileError (if n = 0 then fn.display else mainName) 1 mainName) := by
  intro n
  induction n with
  | zero =>
    intro fn fid _
    have := ReachesLimit.here (fs := fs) fn fid selfInc [] [] _ _ _ selfInc_lex rfl (.inl rfl)
      resolves_nil
    rw [selfInc_name] at this
    simpa using this
  | succ n ih =>
    intro fn fid hfn
    have h1 : ReachesLimit fs n { full := mainName, display := mainName } (St.init fn fid selfInc).nextFileid selfInc
        (.IncludeFileError mainName 1 mainName) := by
      simpa using ih { full := mainName, display := mainName } (St.init fn fid selfInc).nextFileid rfl
    rw [← selfInc_target fs hfs fn hfn] at h1
    have := ReachesLimit.deeper (fs := fs) n fn fid selfInc [] [] _ _ _ selfInc _ selfInc_lex rfl (.inl rfl)
      resolves_nil
      (by rw [selfInc_target fs hfs fn hfn]; exact selfInc_load fs hfs) h1
    simpa using this

/-- the path of the file named by the directive `/include nm` in the file `base` with content `b` -/
def targetPath (fs : FS) (base : Path) (b : Bytes) (nm : Lex.Token) : Path :=
  makeIncludeFilename fs (nameAt b nm.startpos nm.endpos) base

theorem target_full (nm : Lex.Token) :
    (target fs fn b nm).full = targetPath fs fn.full b nm := by rw [target, targetPath]

/-- **the specification** on token lists: walk the list; `Include` followed by a String/Identifier token `nm` is
    replaced by the expansion (`rec`) of the file that `nm` names; every other token is copied as (kind, text).
    `rec = none`: the depth limit is reached.  Result `none`: a directive cannot be resolved -/
def expandToks (rec : Option (Path → Bytes → Option (List (TokType × Bytes)))) (fs : FS) (base : Path) (b : Bytes) :
    List Lex.Token → Option (List (TokType × Bytes))
  | [] => some []
  | t :: ts =>
    if t.ttype = .include then
      match ts with
      | [] => none
      | nm :: ts' =>
        if nm.ttype = .string ∨ nm.ttype = .identifier then
          match rec with
          | none => none
          | some f =>
            match load fs (targetPath fs base b nm) with
            | some data =>
              match f (targetPath fs base b nm) data, expandToks rec fs base b ts' with
              | some inner, some out => some (inner ++ out)
              | _, _ => none
            | none => none
        else none
    else
      match expandToks rec fs base b ts with
      | some out => some ((t.ttype, b.extract t.startpos t.endpos) :: out)
      | none => none

def expandWith (rec : Option (Path → Bytes → Option (List (TokType × Bytes)))) (fs : FS) (base : Path) (b : Bytes) :
    Option (List (TokType × Bytes)) :=
  match Lex.tokenize b with
  | .ok lt => expandToks rec fs base b lt
  | _ => none

/-- the flattened token stream of the file `base` with content `b`, at most `n` levels of includes below it -/
def expand (fs : FS) : Nat → Path → Bytes → Option (List (TokType × Bytes))
  | 0, base, b => expandWith none fs base b
  | n + 1, base, b => expandWith (some (expand fs n)) fs base b

/-- (kind, file id, text) -/
abbrev Item := TokType × Nat × Bytes

/-- the specification with file ids: the file being expanded has id `fid`, `next` is the next free id; every
    included file occurrence takes the next free id, the files it includes take the following ones.
    Returns the items and the next free id. -/
def expandIToks (rec : Option (Path → Nat → Bytes → Option (List Item × Nat))) (fs : FS) (base : Path) (b : Bytes)
    (fid : Nat) : List Lex.Token → Nat → Option (List Item × Nat)
  | [], next => some ([], next)
  | t :: ts, next =>
    if t.ttype = .include then
      match ts with
      | [] => none
      | nm :: ts' =>
        if nm.ttype = .string ∨ nm.ttype = .identifier then
          match rec with
          | none => none
          | some f =>
            match load fs (targetPath fs base b nm) with
            | some data =>
              match f (targetPath fs base b nm) next data with
              | some (inner, next1) =>
                match expandIToks rec fs base b fid ts' next1 with
                | some (out, next2) => some (inner ++ out, next2)
                | none => none
              | none => none
            | none => none
        else none
    else
      match expandIToks rec fs base b fid ts next with
      | some (out, next1) => some ((t.ttype, fid, b.extract t.startpos t.endpos) :: out, next1)
      | none => none

def expandIWith (rec : Option (Path → Nat → Bytes → Option (List Item × Nat))) (fs : FS) (base : Path) (fid : Nat)
    (b : Bytes) : Option (List Item × Nat) :=
  match Lex.tokenize b with
  | .ok lt => expandIToks rec fs base b fid lt (fid + 1)
  | _ => none

def expandI (fs : FS) : Nat → Path → Nat → Bytes → Option (List Item × Nat)
  | 0, base, fid, b => expandIWith none fs base fid b
  | n + 1, base, fid, b => expandIWith (some (expandI fs n)) fs base fid b

/-- forget the file ids -/
def Item.kt (i : Item) : TokType × Bytes := (i.1, i.2.2)

/-- the recursive calls of the two specifications -/
abbrev RecS := Path → Bytes → Option (List (TokType × Bytes))
abbrev RecI := Path → Nat → Bytes → Option (List Item × Nat)

theorem expandWith_of_lex {rec : Option RecS} {base : Path} {lt : List Lex.Token} (hl : Lex.tokenize b = .ok lt) :
    expandWith rec fs base b = expandToks rec fs base b lt := by
  rw [expandWith, hl]

/-- `expandWith` / `expandIWith` are `some` only on contents that `tokenize_core` accepts -/
theorem lexed_eq_some {α : Type} {r : Lex.Res} {f : List Lex.Token → Option α} {x : α}
    (h : (match r with | .ok lt => f lt | _ => none) = some x) : ∃ lt, r = .ok lt ∧ f lt = some x := by
  cases r with
  | ok lt => exact ⟨lt, rfl, h⟩
  | err k l => cases h
  | panic => cases h
  | hang => cases h

def KtRel : Option RecI → Option RecS → Prop :=
  Lift fun g g' => ∀ p i d res, g p i d = some res → g' p d = some (res.1.map Item.kt)

theorem expandIToks_kt {recI : Option RecI} {recS : Option RecS} {base : Path} (hrec : KtRel recI recS)
    {lt : List Lex.Token} {next : Nat} {res : List Item × Nat}
    (h : expandIToks recI fs base b fid lt next = some res) :
    expandToks recS fs base b lt = some (res.1.map Item.kt) := by
  fun_induction expandIToks recI fs base b fid lt next generalizing res
  case case1 => cases h; rfl
  case case4 t next hinc nm ts' hn g hg data hload inner next1 hrec1 out next2 hout ih =>
    obtain ⟨g', hg', hgg⟩ := hrec g hg
    subst hg hg'
    rw [hout] at h
    cases h
    rw [expandToks.eq_def]
    simp only [if_pos hinc, if_pos hn, hload, hgg _ _ _ _ hrec1, ih hout, List.map_append]
  case case5 t next hinc nm ts' hn g hg data hload inner next1 hrec1 hout ih =>
    subst hg
    rw [hout] at h
    cases h
  case case9 t ts next hinc out next1 hout ih =>
    cases h
    rw [expandToks.eq_def]
    simp only [if_neg hinc, ih hout]
    rfl
  -- in the other cases the specification with ids is `none`
  all_goals cases h

theorem expandIWith_kt {recI : Option RecI} {recS : Option RecS} (hrec : KtRel recI recS)
    {base : Path} {res : List Item × Nat}
    (h : expandIWith recI fs base fid b = some res) : expandWith recS fs base b = some (res.1.map Item.kt) := by
  obtain ⟨lt, hl, h⟩ := lexed_eq_some h
  rw [expandWith_of_lex hl]
  exact expandIToks_kt hrec h

theorem expandI_kt (fs : FS) : ∀ (n : Nat) (base : Path) (fid : Nat) (b : Bytes) (res : List Item × Nat),
    expandI fs n base fid b = some res → expand fs n base b = some (res.1.map Item.kt) := by
  intro n
  induction n with
  | zero => exact fun _ _ _ _ h => expandIWith_kt (recS := none) .none h
  | succ n ih => exact fun _ _ _ _ h => expandIWith_kt (.some ih) h

/-- the (kind, file id, text) view of a token vector; `fds` are the contents of the files `fid, fid + 1, …` -/
def view3 (fid : Nat) (fds : List Bytes) (toks : List Tok) : List Item :=
  toks.map fun t => (t.ttype, t.fileid, tokText fds fid t)

theorem view3_append (fds : List Bytes) (l1 l2 : List Tok) :
    view3 fid fds (l1 ++ l2) = view3 fid fds l1 ++ view3 fid fds l2 := by simp [view3]

theorem view3_extend {fds more : List Bytes} {toks : List Tok}
    (h : ∀ t ∈ toks, fid ≤ t.fileid ∧ t.fileid < fid + fds.length) :
    view3 fid (fds ++ more) toks = view3 fid fds toks := by
  apply List.map_congr_left
  intro t ht
  have := h t ht
  simp only [tokText]
  rw [List.getElem?_append_left (Nat.sub_lt_left_of_lt_add this.1 this.2)]

theorem view3_shift {fds more : List Bytes} {toks : List Tok} (h : ∀ t ∈ toks, fid + fds.length ≤ t.fileid) :
    view3 fid (fds ++ more) toks = view3 (fid + fds.length) more toks := by
  apply List.map_congr_left
  intro t ht
  have := h t ht
  simp only [tokText]
  rw [List.getElem?_append_right (Nat.le_sub_of_add_le' this), Nat.sub_sub]

/-- the tokens of the file itself: everything except the directives -/
def ownToks : List Lex.Token → List Lex.Token
  | [] => []
  | t :: ts =>
    if t.ttype = .include then
      match ts with
      | [] => []
      | _ :: ts' => ownToks ts'
    else t :: ownToks ts

theorem ownToks_cons_copy (t : Lex.Token) (ts : List Lex.Token) (h : ¬ t.ttype = .include) :
    ownToks (t :: ts) = t :: ownToks ts := by
  rw [ownToks.eq_def]; simp only [if_neg h]

def hasId (fid : Nat) (t : Tok) : Bool := t.fileid == fid

/-- invariant of the locals of `tokenize(filename, fid, b)` -/
structure StInv (fn : Filename) (fid : Nat) (b : Bytes) (st : St) : Prop where
  names : st.filenames.length = st.filedatas.length
  next : st.nextFileid = fid + st.filedatas.length
  first : st.filedatas[0]? = some b
  firstName : st.filenames[0]? = some fn
  range : ∀ t ∈ st.tokens, fid ≤ t.fileid ∧ t.fileid < fid + st.filedatas.length
  noInc : ∀ t ∈ st.tokens, t.ttype ≠ .include

/-- well-formedness of a `TokenResult` of `tokenize(filename, fid, b)`: the invariant of the locals it was made from -/
abbrev ResOk (fn : Filename) (fid : Nat) (b : Bytes) (r : TokenResult) : Prop :=
  StInv fn fid b { tokens := r.tokens, filenames := r.filenames, filedatas := r.filedata,
                   nextFileid := fid + r.filedata.length }

theorem StInv.pos {st : St} (h : StInv fn fid b st) :
    1 ≤ st.filedatas.length := by
  have := h.first
  cases hf : st.filedatas with
  | nil => rw [hf] at this; simp at this
  | cons a l => simp

/-- the recursive call computes the expansion of the included file (and both stop at the same depth) -/
def Sim : Option Rec → Option RecI → Prop :=
  Lift fun g g' => ∀ fn fid b r, g fn fid b = .ok r →
    ResOk fn fid b r ∧ g' fn.full fid b = some (view3 fid r.filedata r.tokens, fid + r.filedata.length)

theorem StInv.add {st : St} (h : StInv fn fid b st)
    {fn' : Filename} {b' : Bytes} {r : TokenResult} (hr : ResOk fn' st.nextFileid b' r) :
    StInv fn fid b (st.add r) where
  names := by
    show (st.filenames ++ r.filenames).length = (st.filedatas ++ r.filedata).length
    rw [List.length_append, List.length_append, h.names, hr.names]
  next := by
    show st.nextFileid + r.filenames.length = fid + (st.filedatas ++ r.filedata).length
    rw [List.length_append, h.next, hr.names, Nat.add_assoc]
  first := (List.getElem?_append_left h.pos).trans h.first
  firstName := (List.getElem?_append_left (h.names ▸ h.pos)).trans h.firstName
  range := by
    intro t ht
    show fid ≤ t.fileid ∧ t.fileid < fid + (st.filedatas ++ r.filedata).length
    rw [List.length_append, ← Nat.add_assoc]
    rcases List.mem_append.1 ht with ht | ht
    · exact ⟨(h.range t ht).1, Nat.lt_add_right _ (h.range t ht).2⟩
    · -- the ids of `r` begin at `st.nextFileid = fid + st.filedatas.length`
      have := hr.range t ht
      rw [h.next] at this
      exact ⟨Nat.le_trans (Nat.le_add_right _ _) this.1, this.2⟩
  noInc := fun t ht => (List.mem_append.1 ht).elim (h.noInc t) (hr.noInc t)

theorem StInv.pushOwn {st : St} (h : StInv fn fid b st)
    (t : Lex.Token) (ht : t.ttype ≠ .include) : StInv fn fid b (st.push [Tok.ofLex fid t]) where
  names := h.names
  next := h.next
  first := h.first
  firstName := h.firstName
  range := by
    intro t' ht'
    simp only [St.push, List.mem_append, List.mem_singleton] at ht' ⊢
    rcases ht' with ht' | ht'
    · exact h.range t' ht'
    · subst ht'; exact ⟨Nat.le_refl _, Nat.lt_add_of_pos_right h.pos⟩
  noInc := by
    intro t' ht'
    simp only [St.push, List.mem_append, List.mem_singleton] at ht'
    rcases ht' with ht' | ht'
    · exact h.noInc t' ht'
    · subst ht'; exact ht

theorem walk_sim (recM : Option Rec) (recS : Option RecI) (hsim : Sim recM recS) (lt : List Lex.Token) :
    ∀ (st st' : St), StInv fn fid b st →
      walk recM fs fn b (lt.map (Tok.ofLex fid)) st = .ok st' →
      StInv fn fid b st' ∧
      (∃ out, expandIToks recS fs fn.full b fid lt st.nextFileid = some (out, st'.nextFileid) ∧
        view3 fid st'.filedatas st'.tokens = view3 fid st.filedatas st.tokens ++ out) ∧
      st'.tokens.filter (hasId fid) = st.tokens.filter (hasId fid) ++ (ownToks lt).map (Tok.ofLex fid) := by
  induction lt using directive_induction (fun t : Lex.Token => t.ttype = .include)
      (fun t => t.ttype = .string ∨ t.ttype = .identifier) with
  | nil =>
    intro st st' inv h
    rw [List.map_nil, walk_nil] at h
    cases h
    exact ⟨inv, ⟨[], by simp [expandIToks], by simp⟩, by simp [ownToks]⟩
  | last t hinc =>
    intro st st' _ h
    rw [List.map_cons, List.map_nil, walk_inc_nil (by exact hinc)] at h; cases h
  | noName t x ts hinc hn =>
    intro st st' _ h
    rw [List.map_cons, List.map_cons, walk_inc_notName (by exact hinc) (by exact hn)] at h; cases h
  | name t nm ts' hinc hn ih =>
    intro st st' inv h
    rw [List.map_cons, List.map_cons, walk_directive (by exact hinc) (by exact hn)] at h
    obtain ⟨st2, h2, h⟩ := R.andThen_eq_ok h
    obtain ⟨he, -⟩ | ⟨g, data, hM, hload, he⟩ := incStep_cases recM fs fn b (Tok.ofLex fid nm) st <;> rw [he] at h2
    · cases h2
    obtain ⟨r, hrec, hst⟩ := R.andThen_eq_ok h2
    cases hst
    obtain ⟨g', hg', hsim'⟩ := hsim g hM
    subst hM hg'
    rw [resolve_ofLex] at hload hrec
    obtain ⟨hr, hspec⟩ := hsim' _ _ _ _ hrec
    obtain ⟨inv', ⟨out, hexp, hview⟩, hown⟩ := ih (st.add r) st' (inv.add hr) h
    refine ⟨inv', ⟨view3 st.nextFileid r.filedata r.tokens ++ out, ?_, ?_⟩, ?_⟩
    · have hnext : st.nextFileid + r.filedata.length = (st.add r).nextFileid := hr.names ▸ rfl
      rw [target_full] at hload hspec
      rw [expandIToks.eq_def]
      simp only [if_pos hinc, if_pos hn, hload, hspec, hnext, hexp]
    · rw [hview]
      simp only [St.add, view3_append]
      rw [view3_extend inv.range, List.append_assoc,
        view3_shift (fun t ht => inv.next ▸ (hr.range t ht).1), inv.next]
    · rw [hown]
      simp only [St.add, List.filter_append, ownToks, if_pos hinc]
      -- ids of the included file are `≥ st.nextFileid > fid`
      have hlt : ∀ t ∈ r.tokens, fid < t.fileid := fun t ht =>
        Nat.lt_of_lt_of_le (Nat.lt_add_of_pos_right inv.pos) (inv.next ▸ (hr.range t ht).1)
      rw [(List.filter_eq_nil_iff (l := r.tokens)).2 fun t ht => by simpa [hasId] using Nat.ne_of_gt (hlt t ht),
        List.append_nil]
  | copy t ts hinc ih =>
    intro st st' inv h
    rw [List.map_cons, walk_cons_copy (by exact hinc)] at h
    obtain ⟨inv', ⟨out, hexp, hview⟩, hown⟩ := ih _ st' (inv.pushOwn t hinc) h
    refine ⟨inv', ⟨(t.ttype, fid, b.extract t.startpos t.endpos) :: out, ?_, ?_⟩, ?_⟩
    · rw [expandIToks.eq_def]
      simp only [if_neg hinc, show st.nextFileid = (st.push [Tok.ofLex fid t]).nextFileid from rfl, hexp]
    · rw [hview]
      simp only [St.push, view3_append, List.append_assoc]
      simp only [view3, List.map_cons, List.map_nil, List.cons_append, List.nil_append, tokText, Tok.ofLex,
        Nat.sub_self, inv.first]
    · rw [hown]
      simp only [St.push, List.filter_append, ownToks_cons_copy t ts hinc, List.map_cons, List.append_assoc]
      congr 1
      simp [hasId, Tok.ofLex]

theorem StInv.init : StInv fn fid b (St.init fn fid b) where
  names := rfl
  next := rfl
  first := rfl
  firstName := rfl
  range := by intro t ht; simp [St.init] at ht
  noInc := by intro t ht; simp [St.init] at ht

theorem tokenizeWith_sim {recM : Option Rec} {recS : Option RecI} (hsim : Sim recM recS) {r : TokenResult}
    (h : tokenizeWith recM fs fn fid b = .ok r) :
    ResOk fn fid b r ∧
    expandIWith recS fs fn.full fid b = some (view3 fid r.filedata r.tokens, fid + r.filedata.length) ∧
    ∀ lt, Lex.tokenize b = .ok lt → r.tokens.filter (hasId fid) = (ownToks lt).map (Tok.ofLex fid) := by
  rw [tokenizeWith_walk] at h
  cases hl : Lex.tokenize b with
  | err k l => rw [hl] at h; cases h
  | panic => rw [hl] at h; cases h
  | hang => rw [hl] at h; cases h
  | ok lt =>
    rw [hl] at h
    simp only at h
    rw [finish_eq] at h
    obtain ⟨st', hw, hr⟩ := R.andThen_eq_ok h
    cases hr
    obtain ⟨inv', ⟨out, hexp, hview⟩, hown⟩ :=
      walk_sim _ _ hsim lt _ st' StInv.init hw
    refine ⟨by rw [ResOk, ← inv'.next]; exact inv', ?_, ?_⟩
    · rw [expandIWith, hl]
      simp only
      have h1 : (St.init fn fid b).nextFileid = fid + 1 := rfl
      rw [h1] at hexp
      rw [hexp, hview, inv'.next]
      simp [St.init, view3]
    · intro lt' hlt'
      cases hlt'
      rw [hown]
      simp [St.init]

theorem tokenize_sim (fs : FS) : ∀ (n : Nat) (fn : Filename) (fid : Nat) (b : Bytes) (r : TokenResult),
    tokenize fs n fn fid b = .ok r →
    ResOk fn fid b r ∧
    expandI fs n fn.full fid b = some (view3 fid r.filedata r.tokens, fid + r.filedata.length) ∧
    ∀ lt, Lex.tokenize b = .ok lt → r.tokens.filter (hasId fid) = (ownToks lt).map (Tok.ofLex fid) := by
  intro n
  induction n with
  | zero =>
    intro fn fid b r h
    exact tokenizeWith_sim (recS := none) .none h
  | succ n ih =>
    intro fn fid b r h
    exact tokenizeWith_sim (recS := some (expandI fs n))
      (.some fun fn fid b r h => ⟨(ih fn fid b r h).1, (ih fn fid b r h).2.1⟩) h

/-- the recursive call under a larger budget agrees with the one under the smaller budget wherever the latter is not
    an `IncludeFileError` -/
def BudgetRel : Option Rec → Option Rec → Prop := Lift fun gA gB => ∀ f i d, (gA f i d).Le (gB f i d)

theorem incStep_mono {recA recB : Option Rec} (hrec : BudgetRel recA recB) {nm : Tok} {st : St} :
    (incStep recA fs fn b nm st).Le (incStep recB fs fn b nm st) := by
  obtain ⟨he, -⟩ | ⟨gA, data, rfl, hl, he⟩ := incStep_cases recA fs fn b nm st
  · exact fun h => absurd he (h _ _ _)
  · obtain ⟨gB, rfl, hAB⟩ := hrec gA rfl
    rw [he, incStep_load hl]; exact (hAB _ _ _).andThen fun _ => .refl _

theorem walk_mono {recA recB : Option Rec} (hrec : BudgetRel recA recB) {l : List Tok} {st : St} :
    (walk recA fs fn b l st).Le (walk recB fs fn b l st) := by
  induction l using directive_induction (fun t => t.ttype = .include) isName generalizing st with
  | nil => exact .refl _
  | copy t ts ht ih => rw [walk_cons_copy ht, walk_cons_copy ht]; exact ih
  | last t ht => rw [walk_inc_nil ht, walk_inc_nil ht]; exact .refl _
  | noName t x ts ht hx => rw [walk_inc_notName ht hx, walk_inc_notName ht hx]; exact .refl _
  | name t x ts ht hx ih =>
    rw [walk_directive ht hx, walk_directive ht hx]; exact (incStep_mono hrec).andThen fun _ => ih

theorem tokenizeWith_mono {recA recB : Option Rec} (hrec : BudgetRel recA recB) :
    (tokenizeWith recA fs fn fid b).Le (tokenizeWith recB fs fn fid b) := by
  rw [tokenizeWith_walk, tokenizeWith_walk]
  cases Lex.tokenize b with
  | ok lt => simp only [finish_eq]; exact (walk_mono hrec).andThen fun _ => .refl _
  | err k l => exact .refl _
  | panic => exact .refl _
  | hang => exact .refl _

theorem deeper_succ_rel : ∀ n, BudgetRel (deeper fs n) (deeper fs (n + 1))
  | 0 => .none
  | n + 1 => .some fun f i d => by
    rw [tokenize_eq_with (n := n)]
    exact tokenizeWith_mono (deeper_succ_rel n)

theorem tokenize_budget_succ (fs : FS) (n : Nat) (fn : Filename) (fid : Nat) (b : Bytes) :
    (tokenize fs n fn fid b).Le (tokenize fs (n + 1) fn fid b) := by
  rw [tokenize_eq_with (n := n)]
  exact tokenizeWith_mono (deeper_succ_rel n)

theorem resolves_succ {pre : List Lex.Token} {st1 : St} (h : Resolves fs n fn fid b pre st1) :
    Resolves fs (n + 1) fn fid b pre st1 := by
  unfold Resolves at h ⊢
  rw [walk_mono (deeper_succ_rel n) (by rw [h]; intro x l nm hh; cases hh)]
  exact h

theorem reachesMissing_succ {e : Err} (h : ReachesMissing fs n fn fid b e) : ReachesMissing fs (n + 1) fn fid b e := by
  induction h with
  | here n fn fid b pre post inc nm st1 hlex hinc hnm hpre hmiss =>
    exact .here (n + 1) fn fid b pre post inc nm st1 hlex hinc hnm (resolves_succ hpre) hmiss
  | deeper n fn fid b pre post inc nm st1 data e hlex hinc hnm hpre hload _ ih =>
    exact .deeper (n + 1) fn fid b pre post inc nm st1 data e hlex hinc hnm (resolves_succ hpre) hload ih

theorem walk_err_split {lt : List Lex.Token} {st : St} {e : Err}
    (h : walk rec fs fn b (lt.map (Tok.ofLex fid)) st = .err e) :
    ∃ pre inc post st1, lt = pre ++ inc :: post ∧ inc.ttype = .include ∧
      walk rec fs fn b (pre.map (Tok.ofLex fid)) st = .ok st1 ∧
      (e = .IncompleteIncludeError fn.display inc.line ∨
       ∃ nm rest, post = nm :: rest ∧ (nm.ttype = .string ∨ nm.ttype = .identifier) ∧
         incStep rec fs fn b (Tok.ofLex fid nm) st1 = .err e) := by
  induction lt using directive_induction (fun t => (Tok.ofLex fid t).ttype = .include)
      (fun t => isName (Tok.ofLex fid t)) generalizing st with
  | nil => cases h
  | copy t ts ht ih =>
    rw [List.map_cons, walk_cons_copy ht] at h
    obtain ⟨pre, inc, post, st1, rfl, hi, hw, hc⟩ := ih h
    exact ⟨t :: pre, inc, post, st1, rfl, hi, by rw [List.map_cons, walk_cons_copy ht]; exact hw, hc⟩
  | last t ht =>
    rw [List.map_cons, List.map_nil, walk_inc_nil ht] at h; cases h
    exact ⟨[], t, [], st, rfl, ht, walk_nil, .inl rfl⟩
  | noName t x ts ht hx =>
    rw [List.map_cons, List.map_cons, walk_inc_notName ht hx] at h; cases h
    exact ⟨[], t, x :: ts, st, rfl, ht, walk_nil, .inl rfl⟩
  | name t x ts ht hx ih =>
    rw [List.map_cons, List.map_cons, walk_directive ht hx] at h
    rcases R.andThen_eq_err h with hs | ⟨st2, hs, h⟩
    · exact ⟨[], t, x :: ts, st, rfl, ht, walk_nil, .inr ⟨x, ts, rfl, hx, hs⟩⟩
    · obtain ⟨pre, inc, post, st1, rfl, hi, hw, hc⟩ := ih h
      exact ⟨t :: x :: pre, inc, post, st1, rfl, hi, by
        rw [List.map_cons, List.map_cons, walk_directive ht hx, hs]; exact hw, hc⟩

theorem tokenize_err_at {e : Err} (h : tokenize fs n fn fid b = .err e) :
    (∃ k l, e = .Lex fn.display k l) ∨
    ∃ pre inc post st1, Lex.tokenize b = .ok (pre ++ inc :: post) ∧ inc.ttype = .include ∧
      Resolves fs n fn fid b pre st1 ∧
      (e = .IncompleteIncludeError fn.display inc.line ∨
       ∃ nm rest, post = nm :: rest ∧ (nm.ttype = .string ∨ nm.ttype = .identifier) ∧
         incStep (deeper fs n) fs fn b (Tok.ofLex fid nm) st1 = .err e) := by
  rw [tokenize_eq_with, tokenizeWith_walk] at h
  cases hl : Lex.tokenize b with
  | err k l => rw [hl] at h; cases h; exact .inl ⟨k, l, rfl⟩
  | panic => rw [hl] at h; cases h
  | hang => rw [hl] at h; cases h
  | ok lt =>
    rw [hl] at h
    simp only [finish_eq] at h
    obtain hw | ⟨_, _, h⟩ := R.andThen_eq_err h
    · obtain ⟨pre, inc, post, st1, rfl, hc⟩ := walk_err_split hw
      exact .inr ⟨pre, inc, post, st1, rfl, hc⟩
    · cases h

theorem expandToks_mono {recA recB : Option RecS} {base : Path}
    (hrec : Lift (fun gA gB => ∀ p d out, gA p d = some out → gB p d = some out) recA recB)
    {lt : List Lex.Token} {out : List (TokType × Bytes)} (h : expandToks recA fs base b lt = some out) :
    expandToks recB fs base b lt = some out := by
  fun_induction expandToks recA fs base b lt generalizing out
  case case1 => simpa [expandToks] using h
  case case4 t hinc nm ts' hn g hg data hload inner out' h2 h1 ih =>
    obtain ⟨gB, hB, hAB⟩ := hrec g hg
    subst hg hB
    rw [h1, h2] at h
    rw [expandToks.eq_def]
    simp only [if_pos hinc, if_pos hn, hload, hAB _ _ _ h1, ih h2]
    exact h
  case case5 t hinc nm ts' hn g hg data hload hno ih =>
    subst hg
    split at h
    · rename_i inner out' h1 h2; exact (hno inner out' h1 h2).elim
    · cases h
  case case8 t ts hinc out' h2 ih =>
    rw [expandToks.eq_def]
    simp only [if_neg hinc, ih h2]
    exact h
  all_goals cases h

theorem expandWith_mono {recA recB : Option RecS} {base : Path}
    (hrec : Lift (fun gA gB => ∀ p d out, gA p d = some out → gB p d = some out) recA recB)
    {out : List (TokType × Bytes)} (h : expandWith recA fs base b = some out) :
    expandWith recB fs base b = some out := by
  obtain ⟨lt, hl, h⟩ := lexed_eq_some h
  rw [expandWith_of_lex hl]
  exact expandToks_mono hrec h

theorem expand_succ (fs : FS) : ∀ (n : Nat) (base : Path) (b : Bytes) (out : List (TokType × Bytes)),
    expand fs n base b = some out → expand fs (n + 1) base b = some out
  | 0, _, _, _, h => expandWith_mono (recB := some (expand fs 0)) .none h
  | n + 1, _, _, _, h => expandWith_mono (.some (expand_succ fs n)) h

/-- an included file occurrence that is expanded with the next free id `nx` uses the ids `[nx, nx')` and returns
    `nx'`, which is larger -/
def IdsOk (g : RecI) : Prop :=
  ∀ p nx d inner nx', g p nx d = some (inner, nx') → nx < nx' ∧ ∀ i ∈ inner, nx ≤ i.2.1 ∧ i.2.1 < nx'

theorem expandIToks_ids {rec : Option RecI} {base : Path} (hrec : ∀ g, rec = some g → IdsOk g)
    {lt : List Lex.Token} {next : Nat} {out : List Item} {next' : Nat}
    (h : expandIToks rec fs base b fid lt next = some (out, next')) :
    next ≤ next' ∧ ∀ i ∈ out, i.2.1 = fid ∨ (next ≤ i.2.1 ∧ i.2.1 < next') := by
  fun_induction expandIToks rec fs base b fid lt next generalizing out next'
  case case1 => cases h; exact ⟨Nat.le_refl _, by simp⟩
  case case4 t next hinc nm ts' hn g hg data hload inner next1 hrec1 out2 next2 hout ih =>
    obtain ⟨h1, h2⟩ := hrec g hg _ _ _ _ _ hrec1
    obtain ⟨h3, h4⟩ := ih hout
    subst hg
    rw [hout] at h
    cases h
    refine ⟨Nat.le_trans (Nat.le_of_lt h1) h3, fun i hi => ?_⟩
    rcases List.mem_append.1 hi with hi | hi
    · exact .inr ⟨(h2 i hi).1, Nat.lt_of_lt_of_le (h2 i hi).2 h3⟩
    · exact (h4 i hi).imp_right fun h5 => ⟨Nat.le_trans (Nat.le_of_lt h1) h5.1, h5.2⟩
  case case5 t next hinc nm ts' hn g hg data hload inner next1 hrec1 hout ih =>
    subst hg
    rw [hout] at h
    cases h
  case case9 t ts next hinc out2 next1 hout ih =>
    cases h
    obtain ⟨h3, h4⟩ := ih hout
    refine ⟨h3, fun i hi => ?_⟩
    rcases List.mem_cons.1 hi with hi | hi
    · subst hi; exact .inl rfl
    · exact h4 i hi
  all_goals cases h

theorem expandIWith_ids (rec : Option RecI) (hrec : ∀ g, rec = some g → IdsOk g) : IdsOk (expandIWith rec fs) := by
  intro base fid b out next' h
  obtain ⟨lt, _, h⟩ := lexed_eq_some h
  obtain ⟨h1, h2⟩ := expandIToks_ids hrec h
  refine ⟨h1, fun i hi => ?_⟩
  rcases h2 i hi with h3 | h3
  · rw [h3]; exact ⟨Nat.le_refl _, h1⟩
  · exact ⟨Nat.le_of_succ_le h3.1, h3.2⟩

theorem expandI_ids (fs : FS) (n : Nat) : IdsOk (expandI fs n) := by
  induction n with
  | zero => exact expandIWith_ids none nofun
  | succ n ih => exact expandIWith_ids (some (expandI fs n)) fun g hg => by cases hg; exact ih

/-- the recursive call of the specification that is available with the depth budget `n` -/
def deeperI (fs : FS) : Nat → Option (Path → Nat → Bytes → Option (List Item × Nat))
  | 0 => none
  | n + 1 => some (expandI fs n)

theorem deeperI_ids : ∀ g, deeperI fs n = some g → IdsOk g := by
  intro g hg
  cases n with
  | zero => cases hg
  | succ m => cases hg; exact expandI_ids fs m

end A2l.Inc
