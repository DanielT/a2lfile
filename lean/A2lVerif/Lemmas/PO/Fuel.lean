import A2lVerif.Lemmas.PO.SeqOk
import A2lVerif.Lemmas.RT.Node
/-! # C02: the fuel of `runParseFile` (`4 · tokens + 64`) suffices to read a written stream back

`OT.needL` (the fuel bound of the read-back theorems of Lemmas/RT) is at most `3 · tokens + 13` if every parameter list
has at most one parameter without tokens: sequences are last (`seqTblOk`) and arrays have a positive dimension
(`arrTblOk`). -/
namespace A2l.Tree
open A2l.G A2l.Sc

def arrDimB : ItemTy → Bool
  | .arr _ n => decide (1 ≤ n)
  | _ => true

/-- **the table hypothesis about arrays**: no array parameter of dimension 0 (decidable; true of the shipped table) -/
def arrTblOk (tbl : Table) : Bool :=
  tbl.all (fun en => match en.def_ with
    | .block _ items _ _ => items.all arrDimB
    | _ => true)

theorem arrTblOk_block {tbl : Table} {ty : Nat} {isB : Bool} {items : List ItemTy} {arms : List Arm} {ht : Bool}
    (h : arrTblOk tbl = true) (hl : tbl.lookup ty = some (.block isB items arms ht)) : items.all arrDimB = true := by
  obtain ⟨en, hmem, hd⟩ := lookup_mem hl
  have := List.all_eq_true.1 h en hmem
  rw [hd] at this
  exact this

theorem elemToks_pos {c : RCfg} {it : ItemTy} {v : Val} (ind : Nat) (h : ElemOk c it v) :
    1 ≤ (elemToks ind v).length := by
  revert h
  fun_cases ElemOk c it v <;> intro h
  next ty ty' info fs ch cm =>
    obtain ⟨-, -, -, -, sits, -, hne, hs⟩ := h
    have hlen := scalars_len c ind sits fs hs
    cases sits with
    | nil => exact absurd rfl hne
    | cons it its =>
      cases fs with
      | nil => exact hs.elim
      | cons f fs => simp only [elemToks, hlen, List.length_cons]; omega
  next => exact h.elim
  next =>
    obtain ⟨-, ht, w, hw⟩ := isScalar_asElem (scalarOk_isScalar c h) ind
    rw [ht, hw]
    exact Nat.le_refl 1

theorem length_le_flatMap {α β} (f : α → List β) : ∀ (vs : List α), (∀ v ∈ vs, 1 ≤ (f v).length) →
    vs.length ≤ (vs.flatMap f).length
  | [], _ => Nat.le_refl _
  | v :: vs, h => by
    have h1 := h v List.mem_cons_self
    have h2 := length_le_flatMap f vs (fun x hx => h x (List.mem_cons_of_mem _ hx))
    simp only [List.flatMap_cons, List.length_cons, List.length_append]
    omega

theorem elem_count {c : RCfg} {it : ItemTy} {v : Val} (ind : Nat) (hok : ElemOk c it v) :
    1 + vlen v ≤ 2 * (fieldToks ind v).length := by
  have hv : vlen v = 0 := by
    have hs := elemOk_shape c hok
    cases v with
    | arr vs | seq vs => cases hs
    | _ => rfl
  have := elemToks_pos ind hok
  rw [fieldToks_of_elem c hok ind, hv]
  omega

theorem fieldWf_count {c : RCfg} {it : ItemTy} {f : Val} (ind : Nat) (h : FieldWf c it f) (ha : arrDimB it = true) :
    1 + vlen f ≤ 2 * (fieldToks ind f).length + 1 ∧
      ((∀ of stop, it ≠ .seq of stop) → 1 + vlen f ≤ 2 * (fieldToks ind f).length) := by
  revert h
  fun_cases FieldWf c it f <;> intro h
  next of n vs =>
    have hn : 1 ≤ n := by simpa [arrDimB] using ha
    have := length_le_flatMap (elemToks ind) vs (fun v hv => elemToks_pos ind (h.2 v hv))
    simp only [vlen, fieldToks]
    omega
  next => exact h.elim
  next of stop vs =>
    have := length_le_flatMap (elemToks ind) vs (fun v hv => elemToks_pos ind (h.1 v hv))
    simp only [vlen, fieldToks]
    exact ⟨by omega, fun hh => absurd rfl (hh of stop)⟩
  next => exact h.elim
  next =>
    have := elem_count ind h
    exact ⟨Nat.le_succ_of_le this, fun _ => this⟩

theorem fieldsWf_count {c : RCfg} (ind : Nat) : ∀ (its : List ItemTy) (fs : List Val), FieldsWf c its fs →
    seqLastB its = true → its.all arrDimB = true →
    fs.length + (fs.map vlen).sum ≤ 2 * (fieldsToks ind fs).length + 1
  | [], [], _, _, _ => by simp [fieldsToks]
  | [], _ :: _, h, _, _ => by simp [FieldsWf] at h
  | _ :: _, [], h, _, _ => by simp [FieldsWf] at h
  | [it], f :: fs, h, _, ha => by
    simp only [FieldsWf] at h
    cases fs with
    | cons _ _ => simp [FieldsWf] at h
    | nil =>
      have := (fieldWf_count ind h.1 (by simpa using ha)).1
      simp only [fieldsToks, List.flatMap_cons, List.flatMap_nil, List.append_nil, List.length_cons, List.length_nil,
        List.map_cons, List.map_nil, List.sum_cons, List.sum_nil]
      omega
  | it :: it2 :: its, f :: fs, h, hs, ha => by
    simp only [FieldsWf] at h
    simp only [seqLastB, Bool.and_eq_true] at hs
    simp only [List.all_cons, Bool.and_eq_true] at ha
    have h1 := (fieldWf_count ind h.1 ha.1).2 (fun of stop e => by rw [e] at hs; exact absurd hs.1 nofun)
    have h2 := fieldsWf_count ind (it2 :: its) fs h.2 hs.2 (by simpa using ha.2)
    simp only [fieldsToks] at h2 ⊢
    simp only [List.flatMap_cons, List.length_cons, List.length_append, List.map_cons, List.sum_cons] at h2 ⊢
    omega

mutual
theorem need_le_tokens_lemma (c : RCfg) (hs : seqTblOk c.e.table = true) (ha : arrTblOk c.e.table = true) :
    ∀ (x : OT) (parms : List Arm) (pib : Bool) (ind : Nat), OT.wf c parms pib x →
      1 ≤ (x.toks ind).length ∧ x.need ind ≤ 3 * (x.toks ind).length + 12
  | .cmt text off, _, _, ind, _ => by simp [OT.toks, OT.need]
  | .node arm tag blk ty so eo fields items, parms, pib, ind, h => by
    simp only [OT.wf] at h
    obtain ⟨a, its, arms, ht, -, -, -, -, hl, -, -, -, -, -, hfw, -, hwl, -⟩ := h
    have hf := fieldsWf_count (ind + 1) its fields hfw (seqTblOk_block hs hl).1 (arrTblOk_block ha hl)
    have hi := needL_le_tokens_lemma c hs ha items arms blk (ind + 1) hwl
    have hh : 1 ≤ (headToks ind tag blk so).length := by unfold headToks; split <;> simp
    simp only [OT.toks, OT.need, fieldsNeed, List.length_append]
    omega
theorem needL_le_tokens_lemma (c : RCfg) (hs : seqTblOk c.e.table = true) (ha : arrTblOk c.e.table = true) :
    ∀ (xs : List OT) (parms : List Arm) (pib : Bool) (ind : Nat), OT.wfL c parms pib xs →
      OT.needL ind xs ≤ 3 * (OT.toksL ind xs).length + 13
  | [], _, _, _, _ => by simp [OT.needL]
  | x :: xs, parms, pib, ind, h => by
    simp only [OT.wfL] at h
    have h1 := need_le_tokens_lemma c hs ha x parms pib ind h.1
    have h2 := needL_le_tokens_lemma c hs ha xs parms pib ind h.2
    simp only [OT.needL, OT.toksL, List.length_append]
    omega
end

end A2l.Tree
