import A2lVerif.Lemmas.TreeDev
import A2lVerif.Lemmas.RT.Node
import A2lVerif.Lemmas.PO.Fix
import A2lVerif.Lemmas.PO.Frame
import A2lVerif.Lemmas.PO.Hyps
import A2lVerif.Lemmas.PO.LInv
import A2lVerif.Lemmas.PO.Basic
import A2lVerif.Lemmas.RT.Writer
/-! # C02, the tagged loop: what `get_next_tag_or_comment` found; what is proved of `T::parse` and of the
tagged loop (statements); one turn of the loop on arbitrary input (strict mode) -/
namespace A2l.Tree
open A2l.G A2l.Sc

/-- a line offset measured behind the token that follows the `//` comment at `p` is at least 1 -/
theorem off_behind_line_comment {e : Env} {lx : LexEnv} (hin : InOk e lx) {p off : Nat}
    (h : lineOffset? e.toks (p + 2) = some off) (hsz : p + 2 < e.toks.size) {tc : PTok}
    (htc : e.toks[p]? = some tc) (h6 : tc.ty = 6) (hl : isLineCmt tc.text = true) : 1 ≤ off := by
  have hcur := getElem?_pos e.toks (p + 1) (Nat.lt_of_succ_lt hsz)
  have hlt := hin.lineCmt p tc _ htc h6 hl hcur
  rw [lineOffset?_two hsz htc hcur (by rw [hin.fid _ tc htc, hin.fid _ _ hcur]) (if_pos h6).symm (Nat.le_of_lt hlt)] at h
  cases h
  exact Nat.sub_pos_of_lt hlt

/-- a line offset `off` measured behind the token at the cursor: at least 1 if a `//` comment stands in front of that token
    (and a token follows it) -/
def OffOk (e : Env) (s : PState) (off : Nat) : Prop :=
  ∀ tc, 1 ≤ s.pos → e.toks[s.pos - 1]? = some tc → tc.ty = 6 → isLineCmt tc.text = true → s.pos + 1 < e.toks.size → 1 ≤ off

theorem offOk_of {e : Env} {lx : LexEnv} (hin : InOk e lx) {s : PState} {off : Nat}
    (h : lineOffset? e.toks (s.pos + 1) = some off) : OffOk e s off := by
  intro tc hp htc h6 hl hsz
  obtain ⟨p, hp⟩ := Nat.exists_eq_add_of_le' hp
  rw [hp] at h hsz htc
  exact off_behind_line_comment hin h hsz htc h6 hl

/-- what a successful `get_next_tag_or_comment` from `s` found, read off the tokens -/
inductive Turn (e : Env) (lx : LexEnv) (s : PState) : BlockContent → PState → Prop
  | none {s' : PState} : Adv2 s s' → s'.pos = s.pos → (∀ t0, e.toks[s.pos]? = some t0 → t0.ty ≠ 6) → Turn e lx s .none s'
  | comment {tok : PTok} {off : Nat} : e.toks[s.pos]? = some tok → tok.ty = 6 → OffOk e s off →
      Turn e lx s (.comment tok off) { s with pos := s.pos + 1 }
  /-- `/begin TAG` or `TAG`; third premise: where the cursor goes back to in front of a tag the parent does not know -/
  | block {tok : PTok} {isBlock : Bool} {off : Nat} {s' : PState} : Adv2 s s' → s.pos < s'.pos →
      s.pos ≤ s'.pos - 1 - (if isBlock = true then 1 else 0) →
      (∀ ind so, TSim lx (seg e s.pos s'.pos) (headToks ind tok.text isBlock so)) → tok.ty = 0 →
      e.toks[s'.pos - 1]? = some tok → (isBlock = false → OneTok e s tok s') → OffOk e s off →
      Turn e lx s (.block tok isBlock off) s'

theorem getNextTagOrComment_turn {e : Env} {lx : LexEnv} (hin : InOk e lx) {ctx : Ctx} {s : PState} {bc : BlockContent}
    {s' : PState} (h : getNextTagOrComment ctx e s = .ok bc s') : Turn e lx s bc s' := by
  have hr := nextTag_rel ctx e s
  rw [h] at hr
  cases hr with
  | comment ho h6 hl => exact .comment ho h6 (offOk_of hin hl)
  | block ho h1 hl hx =>
    obtain ⟨o1, hty, -, -⟩ := expectToken_ok hx
    have hp : s.pos + 1 < s'.pos := o1.pos
    refine .block ⟨Nat.le_of_lt (Nat.lt_of_succ_lt hp), by rw [o1.seq]; exact Nat.le_refl _, o1.ver⟩ (Nat.lt_of_succ_lt hp)
      (Nat.le_sub_one_of_lt (Nat.lt_sub_of_add_lt hp)) (fun ind so => ?_) hty o1.last nofun (offOk_of hin hl)
    simp only [headToks, if_true]
    rw [seg_cons e ho (Nat.lt_of_succ_lt hp)]
    exact TSim.tok _ ⟨1, beginText, so, ind⟩ _ _ (TokSim.begin_ _ _ h1 rfl rfl)
      (o1.sim (TokSim.ident _ ⟨0, _, 0, ind⟩ hty rfl rfl))
  | keyword hpl hx hl =>
    obtain ⟨o1, hty, -, -⟩ := expectToken_ok hx
    have h0 := getElem?_pos e.toks s.pos (Nat.lt_of_lt_of_le o1.pos o1.le_size)
    obtain ⟨-, r2⟩ := o1.first h0 (hpl _ h0).1
    refine .block o1.fwd o1.pos (Nat.le_sub_one_of_lt o1.pos) (fun ind so => ?_) hty o1.last (fun _ => o1)
      (offOk_of hin (r2 ▸ hl))
    simp only [headToks, Bool.false_eq_true, if_false]
    exact o1.sim (TokSim.ident _ ⟨0, _, so, ind⟩ hty rfl rfl)
  | none hpl hx hl =>
    have := (Framed.expectToken ctx 0 e).err hx
    exact .none ⟨Nat.le_refl _, this.1, this.2⟩ rfl fun t0 h0 => (hpl t0 h0).1

structure ArmsOk (e : Env) (arms : List Arm) : Prop where
  shape : arms.all (armB e.table) = true
  tags : ∀ a ∈ arms, IdentOk true (symText e.symbols a.tag)
  noA2ml : ∀ a ∈ arms, a.block = true → e.table.lookup a.ty ≠ some .special → symText e.symbols a.tag ≠ "A2ML".toList

/-- what is known of a block / keyword value `.block ty info fields ch cm` that `T::parse` returned; `items` = its
    sub-elements and comments in the order in which they stood in the input -/
structure NodeFacts (c : RCfg) (e : Env) (ty : Nat) (ctx : Ctx) (off : Nat) (s s' : PState)
    (info : Info) (fields : List Val) (ch : List (List Val)) (cm : List Cmt) (items : List OT)
    (isB : Bool) (its : List ItemTy) (arms : List Arm) (ht : Bool) : Prop where
  fwd : Adv2 s s'
  lookup : e.table.lookup ty = some (.block isB its arms ht)
  uidlt : s.seqId < info.uid
  uidle : info.uid ≤ s'.seqId
  soff : info.startOff = off
  fid : info.fileid = 0
  eoff : isB = false → info.endOff = 0
  fwf : FieldsWf c its (fields.map normField)
  nil : ht = false → items = []
  wfl : OT.wfL c arms isB items
  mult : MultOk true arms items
  ord : InOrder e (.block ty info fields ch cm) items
  canon : OT.posAll e.code items → Canon e (.block ty info fields ch cm) items
  /-- without position order: canonical relation to a reordering of position-restricted siblings (at every depth) -/
  sibc : ∃ items', OT.SibPL e.code items items' ∧ Canon e (.block ty info fields ch cm) items'
  lexf : ∀ f ∈ fields, FieldLex f
  lexv : OT.lexVL items
  eok : isB = true → ∀ text off, items.getLast? = some (.cmt text off) → isLineCmt text = true → 1 ≤ info.endOff
  eokL : OT.endOkL items
  /-- no item stands on the line of a line comment in front of it: the writer bumps no offset -/
  nb : OT.noBumpL false items
  /-- sequences of identifiers end where they should, in every written stream that goes on like the input -/
  idseq : (isB = true ∨ ht = false ∨ e.toks[s'.pos]? = none) → ∀ rest, NextRel (tailFrom e s'.pos) rest → FollowId rest →
    ∀ ind ind', (∀ stop, its.getLast? = some (.seq .ident stop) → SeqStops c .ident stop
        (nextNC (OT.toksL ind' items ++ (closeToks ind ctx.element isB info.endOff ++ rest)))) ∧
      OT.idSeqOkL c ind' items (closeToks ind ctx.element isB info.endOff ++ rest)
  /-- the written tokens correspond to the consumed ones (for a keyword with a tagged part — only the root — if the
      loop ran to the end of the file) -/
  sim : (isB = true ∨ ht = false ∨ e.toks[s'.pos]? = none) → ∀ ind ind', TSim c.lx (seg e s.pos s'.pos)
    (fieldsToks ind' fields ++ (OT.toksL ind' items ++ closeToks ind ctx.element isB info.endOff))

def TypePost (c : RCfg) (e : Env) (ty : Nat) (ctx : Ctx) (off : Nat) (s : PState) (v : Val) (s' : PState) : Prop :=
  ∃ info fields ch cm items isB its arms ht, v = .block ty info fields ch cm ∧
    NodeFacts c e ty ctx off s s' info fields ch cm items isB its arms ht

/-- what is known of the items `xs` one run of the tagged loop read -/
structure LoopRes (c : RCfg) (e : Env) (arms : List Arm) (pib : Bool) (s s' : PState) (xs : List OT) : Prop where
  fwd : Adv2 s s'
  wf : OT.wfL c arms pib xs
  lexv : OT.lexVL xs
  eokL : OT.endOkL xs
  /-- bookkeeping for the `/end` behind a trailing line comment -/
  nilpos : pib = true → xs = [] → s'.pos = s.pos
  lastCmt : pib = true → ∀ text off, xs.getLast? = some (.cmt text off) →
    s.pos < s'.pos ∧ ∃ t, e.toks[s'.pos - 1]? = some t ∧ t.ty = 6 ∧ t.text = text
  endnc : pib = true → ∀ t0, e.toks[s'.pos]? = some t0 → t0.ty ≠ 6
  idseq : (pib = true ∨ e.toks[s'.pos]? = none) → ∀ tail, NextRel (tailFrom e s'.pos) tail → FollowId tail →
    ∀ ind, OT.idSeqOkL c ind xs tail
  /-- if tokens remain behind the loop of a block (its `/end`): no offset has to be bumped; `alc` = the token in front
      of the loop's first item is a line comment -/
  nb : (pib = true → s'.pos < e.toks.size) → ∀ alc, (alc = true → pib = true ∧ 1 ≤ s.pos ∧
      ∃ tc, e.toks[s.pos - 1]? = some tc ∧ tc.ty = 6 ∧ isLineCmt tc.text = true) → OT.noBumpL alc xs
  sim : (pib = true ∨ e.toks[s'.pos]? = none) → ∀ ind, TSim c.lx (seg e s.pos s'.pos) (OT.toksL ind xs)
  /-- if the first item is a keyword: the call of its parser that read it, behind the first token that is not a comment -/
  first : ∀ i tag ty so eo fields its rest, xs = .node i tag false ty so eo fields its :: rest →
    ∃ t s1, OneTok e s t s1 ∧ arms.findIdx? (·.tag == t.sym) = some i ∧ ∃ f ctx' off s2 info fs ch cm s3,
      s2.pos = s1.pos ∧ parseType f ty ctx' off e s2 = .ok (.block ty info fs ch cm) s3 ∧ fields = fs.map normField

/-- non-repeating arms occur at most once -/
def NR (arms : List Arm) (P : List OT) : Prop :=
  ∀ j a, arms[j]? = some a → a.repeat_ = false → (P.filter (OT.isArm j)).length ≤ 1

/-- no `special` parser (A2ML, IF_DATA) returns a value: the loaded file has no such element.
    (`Canon` relates values of block types only; a hypothesis "the special parsers return well-formed values" of the
    same shape as `TypePost` cannot be satisfied by a parser that succeeds, because `TypePost` asks for a block type) -/
def NoSpecialOk (e : Env) : Prop :=
  ∀ ty ctx off s v s', e.table.lookup ty = some .special → e.special ty ctx off e.toks e.strict s ≠ .ok v s'

def TypeGoal (e : Env) (lx : LexEnv) (X : Array PTok) (fuel : Nat) : Prop :=
  ∀ ty ctx off s v s', parseType fuel ty ctx off e s = .ok v s' → ctx.fileid = 0 →
    TypePost (mkC e lx X s.ver) e ty ctx off s v s'

def TaggedGoal (e : Env) (lx : LexEnv) (X : Array PTok) (fuel : Nat) : Prop :=
  ∀ ctx arms pib ch cm s ch' cmR s', parseTagged fuel ctx arms pib ch cm e s = .ok (ch', cmR) s' →
    ctx.fileid = 0 → ArmsOk e arms →
    ∀ P sub R, LInv e arms P ch sub cm R s.seqId → NR arms P →
    ∃ xs sub' cm' R', cmR = cm'.reverse ∧ LInv e arms (P ++ xs) ch' sub' cm' R' s'.seqId ∧ NR arms (P ++ xs) ∧
      LoopRes (mkC e lx X s.ver) e arms pib s s' xs

theorem normElem_idem (v : Val) : normElem (normElem v) = normElem v := by cases v <;> rfl

theorem normField_idem (v : Val) : normField (normField v) = normField v := by
  cases v with
  | arr vs => simp [normField, normElem_idem]
  | seq vs => simp [normField, normElem_idem]
  | _ => rfl

theorem elemLex_normElem {v : Val} (h : ElemLex v) : ElemLex (normElem v) := by cases v <;> exact h

theorem fieldLex_normField {v : Val} (h : FieldLex v) : FieldLex (normField v) := by
  cases v with
  | arr vs => exact List.forall_mem_map.2 fun y hy => elemLex_normElem (h y hy)
  | seq vs => exact List.forall_mem_map.2 fun y hy => elemLex_normElem (h y hy)
  | _ => exact h

theorem map_normField_idem (fs : List Val) : (fs.map normField).map normField = fs.map normField := by
  simp [normField_idem]

theorem armB_block {tbl : Table} {a : Arm} {isB : Bool} {its : List ItemTy} {arms : List Arm} {ht : Bool}
    (h : armB tbl a = true) (hl : tbl.lookup a.ty = some (.block isB its arms ht)) :
    a.tag ≠ noSym ∧ isB = a.block ∧ (isB = false → ht = false) := by
  unfold armB at h
  rw [hl] at h
  simp only [Bool.and_eq_true, bne_iff_ne, ne_eq, beq_iff_eq, Bool.or_eq_true, Bool.not_eq_true'] at h
  refine ⟨h.1, h.2.1, fun hb => ?_⟩
  rcases h.2.2 with h' | h'
  · rw [hb] at h'; cases h'
  · exact h'

theorem NR.append_cmt {arms : List Arm} {P : List OT} (h : NR arms P) (text : List Char) (off : Nat) :
    NR arms (P ++ [.cmt text off]) := by
  intro j a ha hr
  have := h j a ha hr
  simpa [List.filter_append, OT.isArm] using this

theorem MultOk_strict_of {arms : List Arm} {items : List OT} (h1 : NR arms items)
    (h2 : ∀ j a, arms[j]? = some a → a.required = true → (items.filter (OT.isArm j)).length ≠ 0) :
    MultOk true arms items := by
  intro j a ha
  exact ⟨fun hr => h1 j a ha hr, fun hreq h0 => absurd h0 (h2 j a ha hreq)⟩

theorem NR.append_node {arms : List Arm} {P : List OT} (h : NR arms P) {i : Nat} {arm : Arm} (harm : arms[i]? = some arm)
    (hnew : arm.repeat_ = false → (P.filter (OT.isArm i)).length = 0) (tag : List Char) (blk : Bool) (ty so eo : Nat)
    (fields : List Val) (its : List OT) : NR arms (P ++ [.node i tag blk ty so eo fields its]) := by
  intro j a ha hrep
  rw [List.filter_append, List.length_append]
  by_cases hji : j = i
  · subst hji
    have haa : a = arm := by rw [harm] at ha; exact (Option.some.inj ha).symm
    subst haa
    simp [OT.isArm, hnew hrep]
  · have hne : (i == j) = false := beq_false_of_ne (fun h => hji h.symm)
    simp [OT.isArm, hne]; exact h j a ha hrep

/-! ## how `LoopRes` is built up: from the end of the loop backwards -/

section
variable {c : RCfg} {e : Env} {arms : List Arm} {pib : Bool} {s s' : PState} {xs : List OT}

theorem LoopRes.nil (hf : Adv2 s s')
    (hstop : (pib = true ∨ e.toks[s'.pos]? = none) → s'.pos = s.pos)
    (hnc : pib = true → ∀ t0, e.toks[s'.pos]? = some t0 → t0.ty ≠ 6) : LoopRes c e arms pib s s' [] where
  fwd := hf
  wf := trivial
  lexv := trivial
  eokL := trivial
  nilpos := fun hp _ => hstop (.inl hp)
  lastCmt := fun _ _ _ h => by cases h
  endnc := hnc
  idseq := fun _ _ _ _ _ => trivial
  nb := fun _ _ _ => by simp [OT.noBumpL]
  sim := fun hc _ => by rw [hstop hc, seg_self]; exact TSim.nil
  first := nofun

theorem loop_stop {P : List OT} {ch : List (List Val)} {sub : List (List (List OT))} {cm : List Cmt} {R : List GE}
    (hinv : LInv e arms P ch sub cm R s.seqId) (hnr : NR arms P)
    (hf : Adv2 s s') (hstop : (pib = true ∨ e.toks[s'.pos]? = none) → s'.pos = s.pos)
    (hnc : pib = true → ∀ t0, e.toks[s'.pos]? = some t0 → t0.ty ≠ 6) :
    ∃ xs sub' cm' R', cm.reverse = cm'.reverse ∧ LInv e arms (P ++ xs) ch sub' cm' R' s'.seqId ∧ NR arms (P ++ xs) ∧
      LoopRes c e arms pib s s' xs :=
  ⟨[], sub, cm, R, rfl, by rw [List.append_nil]; exact hinv.mono hf.seq, by rw [List.append_nil]; exact hnr,
    LoopRes.nil hf hstop hnc⟩

/-- a comment in front of the items of a keyword is dropped -/
theorem LoopRes.skip_cmt {tok : PTok}
    (h0 : e.toks[s.pos]? = some tok) (h6 : tok.ty = 6)
    (res : LoopRes c e arms false { s with pos := s.pos + 1 } s' xs) : LoopRes c e arms false s s' xs where
  fwd := ⟨Nat.le_of_succ_le res.fwd.pos, res.fwd.seq, res.fwd.ver⟩
  wf := res.wf
  lexv := res.lexv
  eokL := res.eokL
  nilpos := fun h => by cases h
  lastCmt := fun h => by cases h
  endnc := fun h => by cases h
  idseq := res.idseq
  nb := fun hsz alc halc => by
    cases alc with
    | true => exact absurd (halc rfl).1 (by simp)
    | false => exact res.nb hsz false (fun h => by cases h)
  sim := fun hc ind => by
    rw [seg_cons e h0 res.fwd.pos]
    exact TSim.skip tok _ _ h6 (res.sim hc ind)
  first := fun i tag ty so eo fields its rest hx =>
    have ⟨t, s1, o1, r⟩ := res.first i tag ty so eo fields its rest hx
    ⟨t, s1, o1.cons_cmt rfl rfl rfl h0 h6, r⟩

/-- a comment among the items of a block is kept; `hoff`: behind a `//` comment it stands on a new line -/
theorem LoopRes.cons_cmt {tok : PTok} {off : Nat}
    (h0 : e.toks[s.pos]? = some tok) (h6 : tok.ty = 6) (hct : CommentText tok.text)
    (hoff : OffOk e s off)
    (res : LoopRes c e arms true { s with pos := s.pos + 1, seqId := s.seqId + 1 } s' xs) :
    LoopRes c e arms true s s' (.cmt tok.text off :: xs) where
  fwd := ⟨Nat.le_of_succ_le res.fwd.pos, Nat.le_of_succ_le res.fwd.seq, res.fwd.ver⟩
  wf := ⟨by simp [OT.wf], res.wf⟩
  lexv := ⟨hct, res.lexv⟩
  eokL := ⟨trivial, res.eokL⟩
  nilpos := fun _ h => by cases h
  lastCmt := by
    intro _ text off' hl
    have hpos : s.pos + 1 ≤ s'.pos := res.fwd.pos
    cases xs with
    | nil =>
      simp only [List.getLast?_singleton, Option.some.injEq, OT.cmt.injEq] at hl
      have hp2 : s'.pos = s.pos + 1 := res.nilpos rfl rfl
      exact ⟨hpos, tok, by rw [hp2]; exact h0, h6, hl.1⟩
    | cons y ys =>
      rw [List.getLast?_cons_cons] at hl
      exact ⟨hpos, (res.lastCmt rfl text off' hl).2⟩
  endnc := res.endnc
  idseq := fun hc tail hnr hfi ind => ⟨trivial, res.idseq hc tail hnr hfi ind⟩
  nb := by
    intro hsz alc halc
    have hpos : s.pos + 1 ≤ s'.pos := res.fwd.pos
    simp only [OT.noBumpL]
    refine ⟨fun ha => ?_, res.nb hsz _ (fun hl => ⟨rfl, Nat.succ_pos _, tok, h0, h6, ?_⟩)⟩
    · obtain ⟨-, hp1, tc, htc, h6c, hlc⟩ := halc ha
      exact hoff tc hp1 htc h6c hlc (Nat.lt_of_le_of_lt hpos (hsz rfl))
    · rw [← isLineCommentText_eq hct]; exact hl
  sim := fun hc ind => by
    rw [seg_cons e h0 res.fwd.pos]
    exact TSim.tok tok ⟨6, tok.text, off, ind⟩ _ _ (TokSim.cmt tok _ h6 rfl rfl) (res.sim hc ind)
  first := nofun

/-- a sub-element in front of the items the rest of the loop read; `hso`: behind a `//` comment it stands on a new line;
    `hcall`: a keyword was read by this call of its parser, right behind its tag -/
theorem LoopRes.cons_node {s3 : PState} {i : Nat} {tag : List Char} {blk : Bool} {ty so eo : Nat} {fields : List Val}
    {its : List OT} {o : OT}
    (ho : o = .node i tag blk ty so eo fields its)
    (hst : c.e.strict = true) (f3 : Adv2 s s3) (hlt : s.pos < s3.pos)
    (hwf : OT.wf c arms pib o) (hlex : OT.lexV o) (hend : OT.endOk o)
    (hid : ∀ rest, NextRel (tailFrom e s3.pos) rest → FollowId rest → ∀ ind, OT.idSeqOk c ind o rest)
    (hsim : ∀ ind, TSim c.lx (seg e s.pos s3.pos) (OT.toks ind o))
    (hnb : OT.noBumpL false its)
    (hso : OffOk e s so)
    (hcall : blk = false → ∃ t s1, OneTok e s t s1 ∧ arms.findIdx? (·.tag == t.sym) = some i ∧
      ∃ f ctx' off s2 info fs ch cm s3, s2.pos = s1.pos ∧
        parseType f ty ctx' off e s2 = .ok (.block ty info fs ch cm) s3 ∧ fields = fs.map normField)
    (res : LoopRes c e arms pib s3 s' xs) : LoopRes c e arms pib s s' (o :: xs) := by
  subst ho
  exact {
    fwd := f3.trans res.fwd
    wf := ⟨hwf, res.wf⟩
    lexv := ⟨hlex, res.lexv⟩
    eokL := ⟨hend, res.eokL⟩
    nilpos := fun _ h => by cases h
    lastCmt := by
      intro hpb text off' hl
      cases xs with
      | nil => cases hl
      | cons y ys =>
        rw [List.getLast?_cons_cons] at hl
        obtain ⟨a1, a2⟩ := res.lastCmt hpb text off' hl
        exact ⟨Nat.lt_trans hlt a1, a2⟩
    endnc := res.endnc
    idseq := by
      intro hc tail hnr hfi ind
      refine ⟨hid _ ?_ (followId_toksL _ hst ind arms pib tail xs res.wf hfi) ind, res.idseq hc tail hnr hfi ind⟩
      rw [tailFrom_seg e res.fwd.pos]
      exact NextRel.of_sim (res.sim hc ind) hnr
    nb := by
      intro hsz alc halc
      simp only [OT.noBumpL]
      refine ⟨fun ha => ?_, hnb, res.nb hsz false (fun h => by cases h)⟩
      obtain ⟨hpb, hp1, tc, htc, h6c, hlc⟩ := halc ha
      exact hso tc hp1 htc h6c hlc (Nat.lt_of_le_of_lt (Nat.le_trans hlt res.fwd.pos) (hsz hpb))
    sim := fun hc ind => by
      rw [← seg_append e f3.pos res.fwd.pos]
      exact (hsim ind).append (res.sim hc ind)
    first := fun _ _ _ _ _ _ _ _ hx => by cases hx; exact hcall rfl }

end

theorem tagged_child_inv {e : Env} (hst : e.strict = true) {fuel : Nat} {ctx : Ctx} {arms : List Arm} {pib : Bool}
    {ch : List (List Val)} {cm : List Cmt} {s : PState} {r : List (List Val) × List Cmt} {s' : PState}
    {tok : PTok} {isBlock : Bool} {off : Nat} {s1 : PState} {i : Nat} {arm : Arm}
    (h : parseTagged (fuel + 1) ctx arms pib ch cm e s = .ok r s')
    (h1 : getNextTagOrComment ctx e s = .ok (.block tok isBlock off) s1)
    (hfi : arms.findIdx? (·.tag == tok.sym) = some i) (harm : arms[i]? = some arm) :
    arm.block = isBlock ∧ ¬ (arm.vlo ≠ 0 ∧ s1.ver < arm.vlo) ∧ ∃ l v s3,
      parseType fuel arm.ty ⟨tok.text, tok.fileid, tok.line⟩ off e { s1 with log := l } = .ok v s3 ∧
      (arm.repeat_ = false → ∀ cs, ch[i]? = some cs → cs = []) ∧
      parseTagged fuel ctx arms pib (setAt ch i (· ++ [v])) cm e s3 = .ok r s' := by
  rw [parseTagged_arm e s s1 ctx arms pib ch cm fuel tok isBlock off i arm h1 hfi harm] at h
  split at h
  rotate_left
  · cases h
  rename_i hform
  unfold taggedArmBody at h
  simp only [getState_bind] at h
  obtain ⟨hnew, h3⟩ := condE_ok hst h
  simp only [getState_bind] at h3
  obtain ⟨l, h4⟩ := condW_ok h3
  obtain ⟨v, s3, h5, h6⟩ := bind_eq_ok h4
  refine ⟨hform, hnew, l, v, s3, h5, ?_⟩
  cases hr : arm.repeat_ with
  | true => rw [hr] at h6; simp only [if_true] at h6; exact ⟨(fun h => by cases h), h6⟩
  | false =>
    rw [hr] at h6
    simp only [Bool.false_eq_true, if_false] at h6
    obtain ⟨hpres, h7⟩ := condE_ok hst h6
    have hnil : ∀ cs, ch[i]? = some cs → cs = [] := by
      intro cs hcs
      rw [hcs] at hpres
      cases cs with
      | nil => rfl
      | cons a as => simp at hpres
    rw [setAt_congr ch i (fun _ => [v]) (· ++ [v]) (fun x hx => by rw [hnil x hx]; rfl)] at h7
    exact ⟨fun _ => hnil, h7⟩

/-- a tag the parent does not know (strict mode): an error inside a block; the loop of a keyword ends in front of the tag -/
theorem tagged_unknown_inv {e : Env} (hst : e.strict = true) {fuel : Nat} {ctx : Ctx} {arms : List Arm} {pib : Bool}
    {ch : List (List Val)} {cm : List Cmt} {s : PState} {r : List (List Val) × List Cmt} {s' : PState}
    {tok : PTok} {isBlock : Bool} {off : Nat} {s1 : PState}
    (h : parseTagged (fuel + 1) ctx arms pib ch cm e s = .ok r s')
    (h1 : getNextTagOrComment ctx e s = .ok (.block tok isBlock off) s1)
    (hfi : arms.findIdx? (·.tag == tok.sym) = none) :
    pib = false ∧ r = (ch, cm.reverse) ∧ s' = { s1 with pos := s1.pos - 1 - (if isBlock = true then 1 else 0) } := by
  rw [parseTagged, bind_def, h1] at h
  dsimp -zeta only at h
  rw [hfi] at h
  dsimp -zeta only at h
  cases pib with
  | true =>
    simp only [if_true] at h
    obtain ⟨u, s2, h3, -⟩ := bind_eq_ok h
    unfold handleUnknownTaggedstructTag at h3
    rw [bind_def, errorOrLog_strict' hst] at h3
    cases h3
  | false =>
    simp only [Bool.false_eq_true, if_false] at h
    cases isBlock with
    | false =>
      simp only [Bool.false_eq_true, if_false, undo_bind] at h
      split at h
      · cases h
      · cases h; exact ⟨rfl, rfl, rfl⟩
    | true =>
      simp only [if_true, undo_bind] at h
      split at h
      · cases h
      · split at h
        · cases h
        · cases h; exact ⟨rfl, rfl, rfl⟩

section
variable {e : Env} {lx : LexEnv} (hin : InOk e lx) (X : Array PTok)
include hin

theorem child_node {arms : List Arm} {pib : Bool} (harms : ArmsOk e arms) {s s1 s3 : PState} {l : List Diag} {tok : PTok}
    {isBlock : Bool} {off i : Nat} {arm : Arm} (ht : Turn e lx s (.block tok isBlock off) s1)
    (hfi : arms.findIdx? (·.tag == tok.sym) = some i) (harm : arms[i]? = some arm) (hform : arm.block = isBlock)
    (hnew : ¬ (arm.vlo ≠ 0 ∧ s1.ver < arm.vlo))
    {info : Info} {fields : List Val} {cch : List (List Val)} {ccm : List Cmt} {its : List OT} {isB : Bool}
    {cits : List ItemTy} {carms : List Arm} {cht : Bool}
    (nf : NodeFacts (mkC e lx X s.ver) e arm.ty ⟨tok.text, tok.fileid, tok.line⟩ off { s1 with log := l } s3 info fields
      cch ccm its isB cits carms cht) {o : OT}
    (ho : o = .node i (symText e.symbols arm.tag) arm.block arm.ty info.startOff info.endOff (fields.map normField) its) :
    Adv2 s s3 ∧ s.pos < s3.pos ∧ OT.wf (mkC e lx X s.ver) arms pib o ∧ OT.lexV o ∧ OT.endOk o ∧
    (∀ rest, NextRel (tailFrom e s3.pos) rest → FollowId rest → ∀ ind, OT.idSeqOk (mkC e lx X s.ver) ind o rest) ∧
    ∀ ind, TSim lx (seg e s.pos s3.pos) (OT.toks ind o) := by
  subst ho
  have hst := hin.strict
  obtain ⟨hi, htag, -⟩ := List.findIdx?_eq_some_iff_getElem.1 hfi
  have hmem : arm ∈ arms := List.mem_of_getElem? harm
  have hab := List.all_eq_true.1 harms.shape arm hmem
  have htagEq : arm.tag = tok.sym := by
    have : arms[i] = arm := by rw [List.getElem?_eq_getElem hi] at harm; exact Option.some.inj harm
    rw [this] at htag; simpa using htag
  obtain _ | _ | ⟨f1, hlt1, -, hsimh, hty, hlast, -, -⟩ := ht
  obtain ⟨hnosym, hisB, hkw⟩ := armB_block hab nf.lookup
  subst hisB
  have htext : symText e.symbols arm.tag = tok.text := by
    rw [htagEq]; exact hin.symText _ tok hlast hty (by rw [← htagEq]; exact hnosym)
  have h13 : s1.pos ≤ s3.pos := nf.fwd.pos
  have hf13 : Adv2 s s3 := f1.trans ⟨h13, nf.fwd.seq, nf.fwd.ver⟩
  have hcond : arm.block = true ∨ cht = false ∨ e.toks[s3.pos]? = none := by
    cases hb : arm.block with
    | true => exact .inl rfl
    | false => exact .inr (.inl (hkw hb))
  refine ⟨hf13, Nat.lt_of_lt_of_le hlt1 h13, ?_, ?_, ⟨nf.eok, nf.eokL⟩, ?_, ?_⟩
  · simp only [OT.wf]
    refine ⟨arm, cits, carms, cht, harm, rfl, rfl, rfl, nf.lookup, ?_, ?_, ?_, ?_, map_normField_idem _, nf.fwf, nf.nil,
      nf.wfl, ?_⟩
    · intro hv
      exfalso
      apply hnew
      refine ⟨hv.1, ?_⟩
      have : (mkC e lx X s.ver).ver = s.ver := rfl
      rw [f1.ver]; rw [this] at hv; exact hv.2
    · intro hb; exact ⟨nf.eoff hb, hkw hb⟩
    · show IdentOk e.strict _
      rw [hst]; exact harms.tags arm hmem
    · show arms.findIdx? (fun x => x.tag == lx.symOf (symText e.symbols arm.tag)) = some i
      rw [htext, ← hin.sym _ tok hlast hty]; exact hfi
    · show MultOk e.strict carms its
      rw [hst]; exact nf.mult
  · simp only [OT.lexV]
    refine ⟨by rw [htext]; exact hin.identText _ tok hlast hty,
      fun hb => harms.noA2ml arm hmem hb (by rw [nf.lookup]; intro h; cases h),
      List.forall_mem_map.2 fun g hg => fieldLex_normField (nf.lexf g hg), nf.lexv⟩
  · intro rest hnr hfi ind
    obtain ⟨q1, q2⟩ := nf.idseq hcond rest hnr hfi ind (ind + 1)
    simp only [OT.idSeqOk]
    rw [htext]
    refine ⟨?_, q2⟩
    intro its' arms' ht' stop hl' hlast
    have hl'' : e.table.lookup arm.ty = some (.block arm.block its' arms' ht') := hl'
    rw [nf.lookup] at hl''
    rw [← (TyDef.block.inj (Option.some.inj hl'')).2.1] at hlast
    exact q1 stop hlast
  · intro ind
    have hsim2 := nf.sim hcond ind (ind + 1)
    have hseg : seg e s.pos s3.pos = seg e s.pos s1.pos ++ seg e s1.pos s3.pos := by
      rw [seg_append e f1.pos h13]
    rw [hseg]
    simp only [OT.toks]
    have hsimh := hsimh ind info.startOff
    rw [← hform] at hsimh
    rw [htext, fieldsToks_normField]
    exact hsimh.append hsim2

theorem tagged_step (fuel : Nat) (ihT : TypeGoal e lx X fuel) (ihL : TaggedGoal e lx X fuel) :
    TaggedGoal e lx X (fuel + 1) := by
  intro ctx arms pib ch cm s ch' cmR s' h hfid harms P sub R hinv hnr
  have hst := hin.strict
  have horig := h
  rw [parseTagged] at h
  obtain ⟨bc, s1, h1, h2⟩ := bind_eq_ok h
  cases getNextTagOrComment_turn hin h1 with
  | none f1 p1 hnc =>
    cases h2
    exact loop_stop hinv hnr f1 (fun _ => p1) (fun _ t0 h0 => hnc t0 (p1 ▸ h0))
  | @comment tok off h0 h6 hoff =>
    dsimp only at h2
    cases pib with
    | true =>
      simp only [if_true, getNextId_bind] at h2
      rw [show decide (tok.fileid ≠ 0) = false by simp [hin.fid _ _ h0]] at h2
      obtain ⟨xs, sub', cm', R', hcm, inv', nr', res'⟩ := ihL ctx arms true ch _ _ ch' cmR s' h2 hfid harms
        (P ++ [.cmt tok.text off]) sub _ (hinv.cmtStep tok.text ctx.line off) (hnr.append_cmt _ _)
      rw [List.append_assoc] at inv' nr'
      exact ⟨.cmt tok.text off :: xs, sub', cm', R', hcm, inv', nr',
        LoopRes.cons_cmt h0 h6 (hin.cmtText _ tok h0 h6) hoff res'⟩
    | false =>
      simp only [Bool.false_eq_true, if_false] at h2
      obtain ⟨xs, sub', cm', R', hcm, inv', nr', res'⟩ := ihL ctx arms false ch cm _ ch' cmR s' h2 hfid harms P sub R hinv hnr
      exact ⟨xs, sub', cm', R', hcm, inv', nr', LoopRes.skip_cmt h0 h6 res'⟩
  | @block tok isBlock off _ f1 hlt1 hp hsimh hty hlast hone hoff =>
    cases hfi : arms.findIdx? (·.tag == tok.sym) with
    | none =>
      -- the cursor goes back to a token in front of the tag: tokens remain
      obtain ⟨rfl, hr, rfl⟩ := tagged_unknown_inv hst horig h1 hfi
      cases hr
      refine loop_stop hinv hnr ⟨hp, f1.seq, f1.ver⟩ (fun hc => ?_) (fun h => by cases h)
      rcases hc with hc | hc
      · cases hc
      · rw [getElem?_pos e.toks _ (Nat.lt_of_le_of_lt (Nat.sub_le _ _) (getElem?_some_lt hlast))] at hc
        cases hc
    | some i =>
      obtain ⟨hi, -, -⟩ := List.findIdx?_eq_some_iff_getElem.1 hfi
      have harm : arms[i]? = some arms[i] := List.getElem?_eq_getElem hi
      generalize hA : arms[i] = arm at harm
      obtain ⟨hform, hnew, l, v, s3, h5, hempty, h8⟩ := tagged_child_inv hst horig h1 hfi harm
      obtain ⟨info, fields, cch, ccm, its, isB, cits, carms, cht, rfl, nf⟩ :=
        ihT arm.ty ⟨tok.text, tok.fileid, tok.line⟩ off _ v s3 h5 (hin.fid _ tok hlast)
      rw [show mkC e lx X ({ s1 with log := l } : PState).ver = mkC e lx X s.ver from congrArg _ f1.ver] at nf
      obtain ⟨f3, hlt3, hwf, hlexN, hendN, hidN, hsimN⟩ :=
        child_node hin X harms (pib := pib) (.block f1 hlt1 hp hsimh hty hlast hone hoff) hfi harm hform hnew nf rfl
      -- the invariant behind the element; a non-repeating arm was still empty
      obtain ⟨cs, hcs⟩ : ∃ cs, ch[i]? = some cs := ⟨_, List.getElem?_eq_getElem (hinv.len1 ▸ hi)⟩
      have hinv' := hinv.childStep (q' := s3.seqId) harm nf.canon nf.sibc nf.ord
        (Nat.lt_of_le_of_lt f1.seq nf.uidlt) nf.uidle
      have hnr' := hnr.append_node harm (fun hrep => by rw [← hinv.cnt i cs hcs, hempty hrep cs hcs]; rfl)
        (symText e.symbols arm.tag) arm.block arm.ty info.startOff info.endOff (fields.map normField) its
      obtain ⟨xs, sub', cm', R', hcm, inv', nr', res'⟩ := ihL ctx arms pib _ cm s3 ch' cmR s' h8 hfid harms _ _ _ hinv' hnr'
      rw [List.append_assoc] at inv' nr'
      rw [f3.ver] at res'
      refine ⟨_ :: xs, sub', cm', R', hcm, inv', nr',
        LoopRes.cons_node rfl hst f3 hlt3 hwf hlexN hendN hidN hsimN nf.nb (nf.soff ▸ hoff) (fun hb => ?_) res'⟩
      exact ⟨tok, s1, hone (hform ▸ hb), hfi, fuel, _, off, { s1 with log := l }, info, fields, cch, ccm, s3, rfl, h5, rfl⟩

end

end A2l.Tree
