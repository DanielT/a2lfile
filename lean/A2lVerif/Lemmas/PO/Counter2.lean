import A2lVerif.Lemmas.RT.Defs
/-! # C02: the inputs of the counterexamples (model level, small tables, strict mode) that show which hypotheses are
needed; what each shows is stated in Props/C02.lean (`seq_hypothesis_is_proof_artifact`, `inf_not_reloadable`,
`comments_dropped_example`) -/
namespace A2l.Tree.Counter2
open A2l.G A2l.Sc

def okB : PRes Val → Bool
  | .ok _ _ => true
  | _ => false

def errKind : PRes Val → Option DK
  | .err d _ => some d.kind
  | _ => none

/-! ## a sequence that ends for a reason other than the kind of the next token (`seqTblOk`)

`K 1 2 300` where `K` takes a sequence of `u8` followed by one `u16`: the greedy sequence loop stops at `300` because
`get_integer::<u8>` rejects it (the error is swallowed: `sequence_item.is_err()`), the `u16` parameter then reads it.
The strict load succeeds, the written tokens are the same, the reload succeeds — but `SeqStops` (the condition under
which Lemmas/RT proves that a written sequence is read back) is false: the token behind the sequence is a Number token,
the kind that starts an element. `seqTblOk` is a hypothesis of the PROOF of the round trip, not of the round trip. -/

/-- root keyword with the version keyword `V <u16> <u16>` and a keyword `K (<u8>)* <u16>` -/
def sTbl : Table :=
  [⟨0, .block false [] [⟨1, 2, false, false, false, 0, 0⟩, ⟨0, 1, false, true, false, 0, 0⟩] true⟩,
   ⟨1, .block false [.seq (.int 4) [], .int 5] [] false⟩, ⟨2, .block false [.int 5, .int 5] [] false⟩]
def sEnv (toks : Array PTok) : Env :=
  { toks := toks, strict := true, table := sTbl, known := ⟨0, 2, 1⟩, symbols := #["K", "V"] }
/-- tokens of `V 1 71 K 1 2 300` -/
def sToks : Array PTok :=
  #[⟨0, ['V'], 1, 0, 1, none⟩, ⟨5, ['1'], 1, 0, noSym, none⟩, ⟨5, ['7', '1'], 1, 0, noSym, none⟩,
    ⟨0, ['K'], 1, 0, 0, none⟩, ⟨5, ['1'], 1, 0, noSym, none⟩, ⟨5, ['2'], 1, 0, noSym, none⟩,
    ⟨5, ['3', '0', '0'], 1, 0, noSym, none⟩]
def sLx : LexEnv := ⟨fun t => if t = ['K'] then 0 else if t = ['V'] then 1 else noSym, fun _ => none⟩

/-! ## a float whose printed text is not a number token (`InOk.fl`, `InOk.numText`)

`F 1e999` under a float codec that lets a value that is not finite through (`get_double` before fix 1ba05af; it answers
`MalformedNumber` since): `str::parse::<f64>` gives infinity, `add_float` prints `inf`. The writer emits the text of the
value verbatim (`writeItem`), the tokenizer reads `inf` as an identifier, and `get_double` rejects it. -/

def fTbl : Table :=
  [⟨0, .block false [] [⟨1, 2, false, false, false, 0, 0⟩, ⟨0, 1, false, true, false, 0, 0⟩] true⟩,
   ⟨1, .block false [.double] [] false⟩, ⟨2, .block false [.int 5, .int 5] [] false⟩]
def fEnv (toks : Array PTok) : Env :=
  { toks := toks, strict := true, table := fTbl, known := ⟨0, 2, 1⟩, symbols := #["F", "V"] }
/-- tokens of `V 1 71 F 1e999`; the float codec turns `1e999` into `inf` -/
def fToks1 : Array PTok :=
  #[⟨0, ['V'], 1, 0, 1, none⟩, ⟨5, ['1'], 1, 0, noSym, none⟩, ⟨5, ['7', '1'], 1, 0, noSym, none⟩,
    ⟨0, ['F'], 1, 0, 0, none⟩, ⟨5, "1e999".toList, 1, 0, noSym, some "inf".toList⟩]
/-- tokens of the written text ` V 1 71 F inf` -/
def fToks2 : Array PTok :=
  #[⟨0, ['V'], 1, 0, 1, none⟩, ⟨5, ['1'], 1, 0, noSym, none⟩, ⟨5, ['7', '1'], 1, 0, noSym, none⟩,
    ⟨0, ['F'], 1, 0, 0, none⟩, ⟨0, "inf".toList, 1, 0, noSym, none⟩]

/-! ## comments that are dropped: at file level, and in front of a parameter

`/* a */ V 1 /* b */ 71`: the strict load succeeds (`parse_version` compares the identifier that `get_identifier`
returns, behind the comment, not the peeked token); no comment is stored: the root is not a
block (`the parent is not a block, so preserving the comment is currently not supported`), and `expect_token` skips
comments in front of parameters. -/

def cToks : Array PTok :=
  #[⟨6, "/* a */".toList, 1, 0, noSym, none⟩, ⟨0, ['V'], 1, 0, 1, none⟩, ⟨5, ['1'], 1, 0, noSym, none⟩,
    ⟨6, "/* b */".toList, 1, 0, noSym, none⟩, ⟨5, ['7', '1'], 1, 0, noSym, none⟩]

def noComments : Val → Bool
  | .block _ _ _ [[.block _ _ _ [] []], []] [] => true
  | _ => false

def commentsDroppedCheck : Bool :=
  match runParseFile (sEnv cToks) with
  | .ok v _ => noComments v
  | _ => false

end A2l.Tree.Counter2
