import A2lVerif.Lemmas.RT.Node
import A2lVerif.Lemmas.PO.Fields
import A2lVerif.Lemmas.PO.Loop
/-! # C02: `T::parse` on arbitrary input (strict mode), and the induction on the fuel -/
namespace A2l.Tree
open A2l.G A2l.Sc

theorem fieldWf_shape (c : RCfg) {it : ItemTy} {v : Val} (h : FieldWf c it v) : FieldShape v :=
  fieldOk_shape c (fieldOk_of_wf c h (rest := []) (by cases it <;> exact trivial))

theorem fieldsWf_shape (c : RCfg) : ∀ (its : List ItemTy) (fs : List Val), FieldsWf c its fs → ∀ f ∈ fs, FieldShape f
  | [], [], _ => by simp
  | [], _ :: _, h => by simp [FieldsWf] at h
  | _ :: _, [], h => by simp [FieldsWf] at h
  | it :: its, v :: vs, h => List.forall_mem_cons.2 ⟨fieldWf_shape c h.1, fieldsWf_shape c its vs h.2⟩

/-- the multiplicity checks behind the tagged loop passed (strict mode): no required arm is empty -/
theorem multCheck_ok {e : Env} (hst : e.strict = true) : ∀ (zs : List (Arm × List Val)) (s s' : PState),
    zs.foldlM (fun (_ : Unit) (ac : Arm × List Val) =>
        if ac.1.required ∧ ac.2.isEmpty then
          (if ac.1.repeat_ then errorOrLog .invalidMultiplicityNotPresent else fail .invalidMultiplicityNotPresent)
        else (pure () : PM Unit)) () e s = .ok () s' →
    s' = s ∧ ∀ z ∈ zs, ¬ (z.1.required = true ∧ z.2.isEmpty = true)
  | [], s, s', h => by
    rw [List.foldlM_nil] at h
    cases h
    exact ⟨rfl, fun _ h => (List.not_mem_nil h).elim⟩
  | z :: zs, s, s', h => by
    rw [List.foldlM_cons] at h
    obtain ⟨u, s1, h1, h2⟩ := bind_eq_ok h
    by_cases hc : z.1.required = true ∧ z.2.isEmpty = true
    · exfalso
      rw [if_pos hc] at h1
      cases hr : z.1.repeat_ with
      | true => rw [hr] at h1; simp only [if_true] at h1; rw [errorOrLog_strict' hst] at h1; cases h1
      | false => rw [hr] at h1; cases h1
    · rw [if_neg hc] at h1
      cases h1
      obtain ⟨rfl, hall⟩ := multCheck_ok hst zs s s' h2
      exact ⟨rfl, List.forall_mem_cons.2 ⟨hc, hall⟩⟩

theorem multOk_of_check {e : Env} {arms : List Arm} {items : List OT} {ch : List (List Val)}
    {sub : List (List (List OT))} {cm : List Cmt} {R : List GE} {q : Nat} (inv : LInv e arms items ch sub cm R q)
    (nr : NR arms items) (hmult : ∀ z ∈ arms.zip ch, ¬ (z.1.required = true ∧ z.2.isEmpty = true)) :
    MultOk true arms items := by
  refine MultOk_strict_of nr ?_
  intro j a ha hreq h0
  have hj : j < ch.length := by
    rw [inv.len1]; exact (List.getElem?_eq_some_iff.1 ha).1
  have hcs : ch[j]? = some ch[j] := List.getElem?_eq_getElem hj
  have hz : (a, ch[j]) ∈ arms.zip ch :=
    List.mem_of_getElem? (List.getElem?_zip_eq_some.2 ⟨ha, hcs⟩)
  have hcnt := inv.cnt j _ hcs
  apply hmult _ hz
  refine ⟨hreq, ?_⟩
  simp only [List.isEmpty_iff]
  exact List.eq_nil_of_length_eq_zero (by rw [hcnt]; exact h0)

theorem parseType_ok_lookup {e : Env} {fuel ty : Nat} {ctx : Ctx} {off : Nat} {s : PState} {v : Val} {s' : PState}
    (h : parseType (fuel + 1) ty ctx off e s = .ok v s') :
    (∃ isB its arms ht, e.table.lookup ty = some (.block isB its arms ht)) ∨
      (e.table.lookup ty = some .special ∧ e.special ty ctx off e.toks e.strict s = .ok v s') := by
  rw [parseType] at h
  simp only [getEnv_bind] at h
  cases hl : e.table.lookup ty with
  | none => rw [hl] at h; cases h
  | some d =>
    rw [hl] at h
    cases d with
    | enum _ => cases h
    | «opaque» => cases h
    | special => exact .inr ⟨rfl, h⟩
    | block isB its arms ht => exact .inl ⟨isB, its, arms, ht, rfl⟩

theorem followId_closeToks {rest : List WTok} (h : FollowId rest) (ind : Nat) (tag : List Char) (blk : Bool) (eo : Nat) :
    FollowId (closeToks ind tag blk eo ++ rest) := by
  cases blk with
  | false => exact h
  | true =>
    intro w hw h0
    simp only [closeToks, if_true, List.cons_append, nextNC] at hw
    rw [if_neg (by decide)] at hw
    cases hw
    cases h0

/-- the tagged part of `T::parse`: no items if the type has none, otherwise what the loop read, with what the
    invariant says at its end -/
theorem tagged_part {e : Env} {lx : LexEnv} (X : Array PTok) {fuel ty : Nat} {ctx : Ctx} {isB : Bool} {its : List ItemTy} {arms : List Arm} {ht : Bool}
    (ihL : TaggedGoal e lx X fuel) (hl : e.table.lookup ty = some (.block isB its arms ht)) (harms : ArmsOk e arms)
    (hnoarms : ht = false → arms = []) (hfid : ctx.fileid = 0) {fields : List Val} (hfs : ∀ f ∈ fields, FieldShape f)
    {s1 s2 : PState} {children : List (List Val)} {comments : List Cmt}
    (h3 : (if ht = true then parseTagged fuel ctx arms isB (arms.map fun _ => []) [] else pure ([], [])) e s1 =
      .ok (children, comments) s2)
    (hmult : ∀ z ∈ arms.zip children, ¬ (z.1.required = true ∧ z.2.isEmpty = true)) :
    ∃ items, Adv2 s1 s2 ∧ (ht = false → items = []) ∧ OT.wfL (mkC e lx X s1.ver) arms isB items ∧
      MultOk true arms items ∧ OT.lexVL items ∧ OT.endOkL items ∧
      (isB = true → ∀ text off, items.getLast? = some (.cmt text off) →
        1 ≤ s2.pos ∧ ∃ t, e.toks[s2.pos - 1]? = some t ∧ t.ty = 6 ∧ t.text = text) ∧
      (isB = true → ht = true → ∀ t0, e.toks[s2.pos]? = some t0 → t0.ty ≠ 6) ∧
      (∀ info, info.fileid = 0 → InOrder e (.block ty info fields children comments) items) ∧
      (∀ info, (OT.posAll e.code items → Canon e (.block ty info fields children comments) items) ∧
        ∃ items', OT.SibPL e.code items items' ∧ Canon e (.block ty info fields children comments) items') ∧
      ((isB = true ∨ ht = false ∨ e.toks[s2.pos]? = none) → ∀ tail, NextRel (tailFrom e s2.pos) tail → FollowId tail →
        ∀ ind, OT.idSeqOkL (mkC e lx X s1.ver) ind items tail) ∧
      ((isB = true → s2.pos < e.toks.size) → OT.noBumpL false items) ∧
      ((isB = true ∨ ht = false ∨ e.toks[s2.pos]? = none) → ∀ ind, TSim lx (seg e s1.pos s2.pos) (OT.toksL ind items)) := by
  cases ht with
  | false =>
    simp only [Bool.false_eq_true, if_false] at h3
    cases h3
    have ha := hnoarms rfl
    subst ha
    refine ⟨[], Adv2.refl _, fun _ => rfl, trivial, ?_, trivial, trivial, (fun _ _ _ h => by cases h),
      (fun _ h => by cases h), ?_, ?_, (fun _ _ _ _ _ => trivial), (fun _ => by simp [OT.noBumpL]),
      fun _ _ => TSim.seg_self e _⟩
    · intro j a ha; cases ha
    · exact fun info hfid' => InOrder.leaf hl hfid' fields
    · exact fun info => ⟨fun _ => Canon.leaf hl info hfs, [], .nil, Canon.leaf hl info hfs⟩
  | true =>
    simp only [if_true] at h3
    obtain ⟨xs, sub', cm', R', hcm, inv', nr', res'⟩ := ihL ctx arms isB _ [] s1 children comments s2 h3 hfid harms
      [] _ [] (LInv.init e arms s1.seqId) (by intro j a _ _; simp)
    rw [List.nil_append] at inv' nr'
    subst hcm
    have hcv : (isB = true ∨ true = false ∨ e.toks[s2.pos]? = none) → (isB = true ∨ e.toks[s2.pos]? = none) := by
      intro hc
      rcases hc with hc | hc | hc
      · exact .inl hc
      · cases hc
      · exact .inr hc
    exact ⟨xs, res'.fwd, (fun h => by cases h), res'.wf, multOk_of_check inv' nr' hmult, res'.lexv, res'.eokL,
      fun hb text off' hl => ⟨Nat.lt_of_le_of_lt (Nat.zero_le _) (res'.lastCmt hb text off' hl).1, (res'.lastCmt hb text off' hl).2⟩,
      fun hb _ => res'.endnc hb, fun info hfid' => inv'.toInOrder hl info hfid' fields,
      fun info => ⟨fun hpa => inv'.toCanon hl hpa info fields hfs, inv'.toSibCanon hl info fields hfs⟩,
      fun hc => res'.idseq (hcv hc), fun hsz => res'.nb hsz false (fun h => by cases h), fun hc => res'.sim (hcv hc)⟩

section
variable {e : Env} {lx : LexEnv} (hin : InOk e lx) (X : Array PTok)
include hin

/-- the end of `T::parse`: `/end TAG` behind a block, nothing behind a keyword; last clause: an `/end` that stands
    directly behind a `//` comment was recorded with an offset ≥ 1 -/
theorem closing_inv {ctx : Ctx} {isB : Bool} {s : PState} {g : Nat → Val} {v : Val} {s' : PState}
    (h : (if isB = true then (do
      let _ ← expectToken ctx 2
      let endOff ← getLineOffset
      let ident ← getIdentifier ctx
      if ident ≠ ctx.element then errorOrLog .incorrectEndTag
      pure (g endOff) : PM Val) else pure (g 0)) e s = .ok v s') :
    ∃ eo, v = g eo ∧ Adv2 s s' ∧ (∀ ind, TSim lx (seg e s.pos s'.pos) (closeToks ind ctx.element isB eo)) ∧
      (isB = false → eo = 0 ∧ s' = s) ∧
      (isB = true → s.pos < e.toks.size ∧ ∀ tc, 1 ≤ s.pos → e.toks[s.pos - 1]? = some tc → tc.ty = 6 →
        isLineCmt tc.text = true → (∀ t0, e.toks[s.pos]? = some t0 → t0.ty ≠ 6) → 1 ≤ eo) := by
  have hst := hin.strict
  cases isB with
  | false =>
    simp only [Bool.false_eq_true, if_false] at h
    cases h
    exact ⟨0, rfl, Adv2.refl _, fun _ => TSim.seg_self e _, fun _ => ⟨rfl, rfl⟩, fun h => by cases h⟩
  | true =>
    simp only [if_true] at h
    obtain ⟨t2, s1, h1, h2⟩ := bind_eq_ok h
    obtain ⟨eo, s2, h3, h4⟩ := bind_eq_ok h2
    have hs2 := getLineOffset_ok h3
    rw [hs2] at h3 h4
    clear hs2 s2
    obtain ⟨ident, s3, h5, h6⟩ := bind_eq_ok h4
    obtain ⟨hne, h7⟩ := condE_ok hst (f := fun _ => (pure (g eo) : PM Val)) h6
    cases h7
    obtain ⟨o1, hty1, -, -⟩ := expectToken_ok h1
    obtain ⟨t, o2, hty2, htext, -⟩ := getIdentifier_ok h5
    have hid : ident = ctx.element := Decidable.of_not_not hne
    have hlt : s.pos < e.toks.size := Nat.lt_of_lt_of_le o1.pos o1.le_size
    refine ⟨eo, rfl, o1.fwd.trans o2.fwd, fun ind => ?_, (fun h => by cases h), fun _ => ⟨hlt, ?_⟩⟩
    · rw [← seg_append e o1.fwd.pos o2.fwd.pos]
      simp only [closeToks, if_true]
      exact (o1.sim (lx := lx) (TokSim.end_ t2 ⟨2, endText, eo, ind⟩ hty1 rfl rfl)).append
        (o2.sim (lx := lx) (TokSim.ident t ⟨0, ctx.element, 0, ind⟩ hty2 rfl (by rw [← hid, htext])))
    · intro tc hp1 htc h6 hline hnc
      have h0 := getElem?_pos e.toks s.pos hlt
      obtain ⟨-, r2⟩ := o1.first h0 (hnc _ h0)
      exact offOk_of hin (r2 ▸ getLineOffset_some h3) tc hp1 htc h6 hline (r2 ▸ Nat.lt_of_lt_of_le o2.pos o2.le_size)

theorem type_step (hshape : shapeOk e.table = true) (htags : TagsOk e) (hns : NoSpecialOk e) (fuel : Nat)
    (ihL : TaggedGoal e lx X fuel) : TypeGoal e lx X (fuel + 1) := by
  intro ty ctx off s v s' h hfid
  have hst := hin.strict
  rcases parseType_ok_lookup h with ⟨isB, its, arms, ht, hl⟩ | ⟨hl, hsp⟩
  case inr => exact absurd hsp (hns ty ctx off s v s' hl)
  rw [parseType_block_unfold fuel ty ctx off e s hl] at h
  obtain ⟨hits, harmsB, hnoarms⟩ := shapeOk_block hshape hl
  have harms : ArmsOk e arms := ⟨harmsB, fun a ha => (htags ty isB its arms ht hl a ha).1,
    fun a ha => (htags ty isB its arms ht hl a ha).2⟩
  unfold typeBody at h
  obtain ⟨fields, s1, h1, h2⟩ := bind_eq_ok h
  obtain ⟨f1, fwf1, sim1, lexf1, seq1⟩ :=
    parseItems_post hin X ctx fuel its (fun it hit => List.all_eq_true.1 hits it hit) _ fields s1 h1
  have hver1 : s1.ver = s.ver := f1.ver
  have hfs : ∀ f ∈ fields, FieldShape f := shape_of_norm rfl (fieldsWf_shape _ its _ fwf1)
  dsimp only at h2
  rw [ite_bind_eq] at h2
  obtain ⟨⟨children, comments⟩, sT, h3, h4⟩ := bind_eq_ok h2
  dsimp only at h4
  obtain ⟨u, s2, h5, h6⟩ := bind_eq_ok h4
  obtain ⟨rfl, hmult⟩ := multCheck_ok hst _ _ _ h5
  obtain ⟨items, f2, hnil, hwfl, hmo, hlexv, heokL, hlastc, hendnc, hord, hcan, hidL, hnb, sim2⟩ :=
    tagged_part X ihL hl harms hnoarms hfid hfs h3 hmult
  rw [hver1] at hwfl hidL
  obtain ⟨eo, rfl, f3, sim3, hkw, hblk⟩ := closing_inv hin (g := fun endOff =>
    Val.block ty ⟨ctx.line, s.seqId + 1, off, endOff, ctx.fileid⟩ fields children comments) h6
  have hc2 : (isB = true ∨ ht = false ∨ e.toks[s'.pos]? = none) → (isB = true ∨ ht = false ∨ e.toks[s2.pos]? = none) := by
    intro hc
    cases hB : isB with
    | true => exact .inl rfl
    | false => rw [(hkw hB).2, hB] at hc; exact hc
  have hf12 : Adv2 s s2 := ⟨Nat.le_trans f1.pos f2.pos, Nat.le_trans (Nat.le_of_succ_le f1.seq) f2.seq, by rw [f2.ver, f1.ver]⟩
  refine ⟨_, fields, children, comments, items, isB, its, arms, ht, rfl, ?_⟩
  exact {
    fwd := hf12.trans f3
    lookup := hl
    uidlt := Nat.lt_succ_self _
    uidle := Nat.le_trans f1.seq (Nat.le_trans f2.seq f3.seq)
    soff := rfl
    fid := hfid
    eoff := fun hb => (hkw hb).1
    fwf := fwf1
    nil := hnil
    wfl := hwfl
    mult := hmo
    ord := hord _ hfid
    canon := (hcan _).1
    sibc := (hcan _).2
    lexf := lexf1
    lexv := hlexv
    eok := by
      intro hb text off' hl hline
      obtain ⟨hp1, tc, htc, h6c, htx⟩ := hlastc hb text off' hl
      have hht : ht = true := by
        cases hht : ht with
        | true => rfl
        | false => rw [hnil hht] at hl; cases hl
      exact (hblk hb).2 tc hp1 htc h6c (by rw [htx]; exact hline) (hendnc hb hht)
    eokL := heokL
    nb := hnb (fun hb => (hblk hb).1)
    idseq := by
      intro hc rest hnr hfi ind ind'
      have hnr' : NextRel (tailFrom e s2.pos) (closeToks ind ctx.element isB eo ++ rest) := by
        rw [tailFrom_seg e f3.pos]
        exact NextRel.of_sim (sim3 ind) hnr
      have hfi' := followId_closeToks hfi ind ctx.element isB eo
      refine ⟨fun stop hlast => ?_, hidL (hc2 hc) _ hnr' hfi' ind'⟩
      refine seq1 stop hlast _ ?_ (followId_toksL _ hst ind' arms isB _ items hwfl hfi')
      rw [tailFrom_seg e f2.pos]
      exact NextRel.of_sim (sim2 (hc2 hc) ind') hnr'
    sim := by
      intro hc ind ind'
      rw [← seg_append e hf12.pos f3.pos, ← seg_append e f1.pos f2.pos]
      have := ((sim1 ind').append (sim2 (hc2 hc) ind')).append (sim3 ind)
      rw [List.append_assoc (fieldsToks ind' fields)] at this
      exact this }

/-- every block / keyword value the parser returns is well-formed, by induction on the fuel -/
theorem parse_goals (hshape : shapeOk e.table = true) (htags : TagsOk e) (hns : NoSpecialOk e) :
    ∀ fuel, TypeGoal e lx X fuel ∧ TaggedGoal e lx X fuel
  | 0 => by
    refine ⟨?_, ?_⟩
    · intro ty ctx off s v s' h; rw [parseType] at h; cases h
    · intro ctx arms pib ch cm s ch' cmR s' h; rw [parseTagged] at h; cases h
  | fuel + 1 => by
    obtain ⟨ihT, ihL⟩ := parse_goals hshape htags hns fuel
    exact ⟨type_step hin X hshape htags hns fuel ihL, tagged_step hin X fuel ihT ihL⟩

end
end A2l.Tree
