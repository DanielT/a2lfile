import A2lVerif.Lemmas.PO.Compose
import A2lVerif.Lemmas.RT.Sample
import A2lVerif.Lemmas.PO.LexConv
/-! # C02: the hypotheses are satisfiable — the sample file of Lemmas/RT/Sample.lean as INPUT of a strict load, and its text

`V 1 71` / `/begin P p "hi" ON` / ` /* c */` / `C 0x5` / `/end P`: a root keyword with a version keyword and a block that
has an identifier, a string and an enum parameter, a comment and a repeating child keyword with a hex parameter
(`SampleIn`); the text of the file, tokenized by `tokenize_core` (`SampleText`). -/
namespace A2l.Tree
open A2l.G A2l.Sc

theorem mkToksFrom_mem (lx : LexEnv) : ∀ (ws : List WTok) (line : Nat) (t : PTok), t ∈ mkToksFrom lx line ws →
    ∃ w ∈ ws, ∃ l, t = w.toPTok lx l
  | [], _, _, h => by simp [mkToksFrom] at h
  | w :: ws, line, t, h => by
    simp only [mkToksFrom, List.mem_cons] at h
    rcases h with rfl | h
    · exact ⟨w, List.mem_cons_self, _, rfl⟩
    · obtain ⟨w', hw', l, hl⟩ := mkToksFrom_mem lx ws _ t h
      exact ⟨w', List.mem_cons_of_mem _ hw', l, hl⟩

theorem streamLex_mem : ∀ (ws : List WTok) (prev : Option WTok), StreamLex prev ws → ∀ w ∈ ws, TokLex w
  | [], _, _, _, hw => by simp at hw
  | x :: xs, prev, h, w, hw => by
    rcases List.mem_cons.1 hw with rfl | hw
    · exact h.1
    · exact streamLex_mem xs (some x) h.2.2.2 w hw

/-- in the tokens of a lexable stream the token behind a `//` comment stands on a later line: its offset is at least 1
    (third clause of `StreamLex`), and `mkToksFrom` counts lines by offsets and the line breaks inside comments -/
theorem mkToksFrom_lineCmt (lx : LexEnv) {t t' : PTok} (h6 : t.ty = 6) (hlc : isLineCmt t.text = true) (ws : List WTok) :
    ∀ (prev : Option WTok) (line i : Nat), StreamLex prev ws → (mkToksFrom lx line ws)[i]? = some t →
      (mkToksFrom lx line ws)[i + 1]? = some t' → t.line + countNewlines t.text < t'.line := by
  induction ws with
  | nil => intro _ _ _ _ h; cases h
  | cons w rest ih =>
    intro prev line i hl h h'
    cases i with
    | succ i => exact ih (some w) _ i hl.2.2.2 h h'
    | zero =>
      cases rest with
      | nil => cases h'
      | cons w' rest =>
        cases Option.some.inj h
        cases Option.some.inj h'
        have := hl.2.2.1 h6 hlc w' rest rfl
        show line + w.off + countNewlines w.text < line + w.off + w.nl + w'.off
        rw [WTok.nl, if_pos (show w.ty = 6 from h6)]
        omega

/-- **the hypotheses about the input tokens hold for every lexable written stream** whose identifiers the symbol table
    knows and whose numbers the float codec leaves alone -/
theorem inOk_of_stream {e : Env} {lx : LexEnv} {ws : List WTok} (hst : e.strict = true)
    (ht : e.toks = (mkToks lx ws).toArray) (hlex : StreamLex none ws)
    (hsym : ∀ w ∈ ws, w.ty = 0 → lx.symOf w.text ≠ noSym → symText e.symbols (lx.symOf w.text) = w.text)
    (hfl : ∀ w ∈ ws, w.ty = 5 → ∀ r, lx.flOf w.text = some r → lx.flOf r = some r ∧ NumText r) : InOk e lx := by
  have key : ∀ (i : Nat) (t : PTok), e.toks[i]? = some t → ∃ w ∈ ws, ∃ l, t = w.toPTok lx l := by
    intro i t h
    rw [ht] at h
    have : t ∈ mkToks lx ws := List.mem_of_getElem? (by simpa using h)
    exact mkToksFrom_mem lx ws 1 t this
  -- the fields of `w.toPTok lx l` are those of `w`, its `sym` and `fl` an `if` on the kind
  refine ⟨hst, ?_, ?_, ?_, ?_, ?_, ?_, ?_, ?_⟩
  · intro i t h hty
    obtain ⟨w, -, l, rfl⟩ := key i t h
    exact if_pos hty
  · intro i t h hty hns
    obtain ⟨w, hw, l, rfl⟩ := key i t h
    have e : (w.toPTok lx l).sym = lx.symOf w.text := if_pos hty
    rw [e] at hns ⊢
    exact hsym w hw hty hns
  · intro i t h
    obtain ⟨w, -, l, rfl⟩ := key i t h
    rfl
  · intro i t r h hty hr
    obtain ⟨w, hw, l, rfl⟩ := key i t h
    exact (hfl w hw hty r ((if_pos hty).symm.trans hr)).1
  · intro i t h hty
    obtain ⟨w, hw, l, rfl⟩ := key i t h
    have := streamLex_mem ws none hlex w hw
    unfold TokLex at this
    rw [show w.ty = 0 from hty] at this
    exact this
  · intro i t h hty
    obtain ⟨w, hw, l, rfl⟩ := key i t h
    have := streamLex_mem ws none hlex w hw
    unfold TokLex at this
    rw [show w.ty = 6 from hty] at this
    exact this
  · intro i t r h hty hr
    obtain ⟨w, hw, l, rfl⟩ := key i t h
    exact (hfl w hw hty r ((if_pos hty).symm.trans hr)).2
  · intro i t t' h h6 hlc h'
    rw [ht, List.getElem?_toArray] at h h'
    exact mkToksFrom_lineCmt lx h6 hlc ws none 1 i hlex h h'

namespace SampleIn

/-- the environment of a strict load whose tokens are those of the sample text -/
def eS : Env := { Sample.e0 with toks := (mkToks Sample.lx Sample.stream).toArray }

theorem e1_eq : Sample.e1 = eS := by
  unfold Sample.e1 eS
  rw [Sample.fix_items, Sample.toksL_items]

/-- the strict load of the sample succeeds: its tokens are a written stream, which the parser reads back
    (`reload_written`, with `Sample.writable`) -/
theorem loads (fuel : Nat) (hf : 40 ≤ fuel) : ∃ v s, parseFile fuel eS {} = .ok v s := by
  have hn : OT.needL 0 (OT.fixL false Sample.items) + 20 ≤ 40 := by rw [Sample.fix_items]; decide
  obtain ⟨_, _, _, s', h, -⟩ := reload_written _ _ _ Sample.writable rfl fuel (Nat.le_trans hn hf) {} rfl
  rw [show (Sample.cfg 6).e = eS from e1_eq] at h
  exact ⟨_, s', h⟩

theorem parses : ∃ v s, parseFile 100 eS {} = .ok v s := loads 100 (by decide)

theorem inOk : InOk eS Sample.lx := by
  refine inOk_of_stream rfl rfl Sample.stream_lex (by decide +kernel) fun w hw hty r hr => ?_
  have hrr : r = w.text := by
    simp only [Sample.lx] at hr; exact (Option.some.inj hr).symm
  subst hrr
  refine ⟨rfl, ?_⟩
  have := streamLex_mem _ none Sample.stream_lex w hw
  unfold TokLex at this
  rw [hty] at this
  exact this

theorem tagsOk : TagsOk eS :=
  tagsOk_of (identOk_symText (by decide)) (isA := fun i => decide (symText eS.symbols i = "A2ML".toList))
    (fun _ h => decide_eq_true h) (by decide)

theorem noSpecial : NoSpecialOk eS := by
  intro ty ctx off s v s' hl
  exfalso
  obtain ⟨en, hen, hd⟩ := lookup_mem hl
  simp only [eS, Sample.e0, Sample.tbl, List.mem_cons, List.not_mem_nil, or_false] at hen
  rcases hen with rfl | rfl | rfl | rfl | rfl <;> simp at hd

theorem rootOk : RootOk eS Sample.rarms := by
  refine ⟨rfl, ?_⟩
  intro a ha htag
  simp only [Sample.rarms, List.mem_cons, List.not_mem_nil, or_false] at ha
  rcases ha with rfl | rfl
  · rfl
  · simp [eS, Sample.e0] at htag

theorem obstacles : Obstacles eS Sample.items := by
  refine ⟨?_, ?_⟩
  · simp [OT.posAll, PosSorted, OT.posDeepL, OT.posDeep, Sample.items, Sample.verO, Sample.projO, Sample.projItems,
      Sample.childO, OT.pos, posRestrict, codeLookup, eS, Sample.e0]
  · intro o ho
    simp [Sample.items] at ho
    subst ho
    rfl

end SampleIn

namespace SampleText
open A2l.Lex

/-- the sample text of Lemmas/RT/Sample.lean (`Sample.text_items`) -/
def chars : List Char := " V 1 71\n/begin P p \"hi\" ON\n /* c */\n  C 0x5\n/end P".toList
def bytes : Bytes := (chars.map asciiB).toArray

theorem chars_eq : chars =
    [' ', 'V', ' ', '1', ' ', '7', '1', '\n', '/', 'b', 'e', 'g', 'i', 'n', ' ', 'P', ' ', 'p', ' ', '"', 'h', 'i', '"', ' ',
     'O', 'N', '\n', ' ', '/', '*', ' ', 'c', ' ', '*', '/', '\n', ' ', ' ', 'C', ' ', '0', 'x', '5', '\n', '/', 'e', 'n', 'd',
     ' ', 'P'] := toList_of_eq_ofList (by with_reducible rfl)

theorem bytes_lit : bytes =
    #[32, 86, 32, 49, 32, 55, 49, 10, 47, 98, 101, 103, 105, 110, 32, 80, 32, 112, 32, 34, 104, 105, 34, 32, 79, 78, 10, 32,
      47, 42, 32, 99, 32, 42, 47, 10, 32, 32, 67, 32, 48, 120, 53, 10, 47, 101, 110, 100, 32, 80] := by
  unfold bytes
  rw [chars_eq]
  -- stated on the lists: `decide` on an equality of arrays is slow to check
  exact congrArg List.toArray (by decide +kernel)

theorem bytes_eq : bytes = (encL chars).toArray := by
  rw [encL_ascii chars (by rw [chars_eq]; decide +kernel)]
  rfl

def ts : List Token :=
  [⟨.identifier, 1, 2, 1⟩, ⟨.number, 3, 4, 1⟩, ⟨.number, 5, 7, 1⟩, ⟨.begin, 8, 14, 2⟩, ⟨.identifier, 15, 16, 2⟩,
   ⟨.identifier, 17, 18, 2⟩, ⟨.string, 19, 23, 2⟩, ⟨.identifier, 24, 26, 2⟩, ⟨.comment, 27, 35, 3⟩,
   ⟨.identifier, 38, 39, 4⟩, ⟨.number, 40, 43, 4⟩, ⟨.end_, 44, 48, 5⟩, ⟨.identifier, 49, 50, 5⟩]

theorem lexes : tokenize bytes = .ok ts := by
  rw [bytes_lit]
  decide +kernel

/-- the converted tokens are the tokens of `SampleIn.eS`: the text is the rendering of `Sample.stream`
    (`Sample.text_items`), which the tokenizer reads back (`lex_written`) -/
theorem toks_eq : SampleIn.eS.toks = (ts.map (convTok Sample.lx bytes)).toArray := by
  have hb : bytes = (encL (renderToks Sample.stream)).toArray := by
    rw [Sample.text_items]
    exact bytes_eq
  obtain ⟨ts', h1, h2⟩ := lex_written Sample.lx Sample.stream Sample.stream_lex
  rw [← hb, lexes] at h1
  rw [← hb, ← Res.ok.inj h1] at h2
  exact (congrArg List.toArray h2).symm

/-- the comment token is UTF-8 because the text is a `String` (`token_bytes_utf8`) -/
theorem textOk : TextOk bytes ts := by
  refine ⟨by decide, ?_, ?_⟩
  · have key : ∀ t ∈ ts, t.ttype = .identifier →
        (match bytes[t.startpos]? with | some c => (isAlpha c || c == 95) | none => true) = true := by
      rw [bytes_lit]
      decide +kernel
    intro t ht hty c hc
    have := key t ht hty
    rw [hc] at this
    exact this
  · intro t ht _
    have := token_bytes_utf8 chars ts (by rw [← bytes_eq]; exact lexes) t ht
    rwa [← bytes_eq] at this

theorem runs : ∃ v s, runParseFile SampleIn.eS = .ok v s :=
  SampleIn.loads _ (Nat.le_trans (by decide : 40 ≤ 64) (Nat.le_add_left 64 _))

end SampleText

end A2l.Tree
