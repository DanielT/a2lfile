import A2lVerif.Lemmas.RT.LexVals
/-! # C02: the part of `OT.ok` that does not depend on the tokens that follow

`OT.ok c ind parms pib o rest` (Lemmas/RT/Defs.lean: "`o` can be read back when followed by `rest`") splits into

* `OT.wf c parms pib o`       types, parameters, multiplicities: what the parser checked when it built `o`
* `OT.seqOk c ind o rest`     every sequence parameter is followed by a token that ends it (`SeqStops`)
* `OT.posDeep code o`         position-restricted items stand in position order (`PosSorted`, recursively)
* a keyword is followed by a token.
-/
namespace A2l.Tree
open A2l.G A2l.Sc

/-- `FieldOk` without the condition on the following token -/
def FieldWf (c : RCfg) : ItemTy → Val → Prop
  | .arr of n, .arr vs => vs.length = n ∧ (∀ v ∈ vs, ElemOk c of v)
  | .arr _ _, _ => False
  | .seq of stop, .seq vs =>
    (∀ v ∈ vs, ElemOk c of v) ∧ ElemTyOk c.e.table of ∧ (stop ≠ [] → of = .ident) ∧ (∀ v ∈ vs, elemStopFree c stop v)
  | .seq _ _, _ => False
  | it, v => ElemOk c it v

def FieldsWf (c : RCfg) : List ItemTy → List Val → Prop
  | [], [] => True
  | it :: its, f :: fs => FieldWf c it f ∧ FieldsWf c its fs
  | _, _ => False

/-- the condition on the token that follows a sequence parameter -/
def FieldSeqOk (c : RCfg) : ItemTy → List WTok → Prop
  | .seq of stop, rest => SeqStops c of stop (nextNC rest)
  | _, _ => True

def FieldsSeqOk (c : RCfg) (ind : Nat) : List ItemTy → List Val → List WTok → Prop
  | it :: its, f :: fs, rest => FieldSeqOk c it (fieldsToks ind fs ++ rest) ∧ FieldsSeqOk c ind its fs rest
  | _, _, _ => True

theorem fieldWf_iff_elemOk {c : RCfg} {it : ItemTy} (hna : ∀ of n, it ≠ .arr of n) (hns : ∀ of st, it ≠ .seq of st)
    {v : Val} : FieldWf c it v ↔ ElemOk c it v := by
  cases it <;> first | exact Iff.rfl | exact absurd rfl (hna _ _) | exact absurd rfl (hns _ _)

theorem fieldOk_of_wf (c : RCfg) {it : ItemTy} {v : Val} {rest : List WTok} (h : FieldWf c it v)
    (hs : FieldSeqOk c it rest) : FieldOk c it v rest := by
  cases it with
  | arr of n => cases v <;> exact h
  | seq of stop =>
    cases v with
    | seq vs => exact ⟨h.1, h.2.1, h.2.2.1, h.2.2.2, hs⟩
    | _ => exact h
  | _ => exact h

theorem fieldsOk_of_wf (c : RCfg) (ind : Nat) : ∀ (its : List ItemTy) (fs : List Val) (rest : List WTok),
    FieldsWf c its fs → FieldsSeqOk c ind its fs rest → FieldsOk c ind its fs rest
  | [], [], _, _, _ => trivial
  | [], _ :: _, _, h, _ => by simp [FieldsWf] at h
  | _ :: _, [], _, h, _ => by simp [FieldsWf] at h
  | it :: its, f :: fs, rest, h, hs =>
    ⟨fieldOk_of_wf c h.1 hs.1, fieldsOk_of_wf c ind its fs rest h.2 hs.2⟩

mutual
/-- what the parser checked when it built `o` (`parms` / `pib` = arms of the parent and whether the parent is a block) -/
def OT.wf (c : RCfg) (parms : List Arm) (pib : Bool) : OT → Prop
  | .node arm tag blk ty _ eo fields items =>
    ∃ a its arms ht, parms[arm]? = some a ∧ a.ty = ty ∧ tag = symText c.e.symbols a.tag ∧ blk = a.block ∧
      c.e.table.lookup ty = some (.block blk its arms ht) ∧
      (a.vlo ≠ 0 ∧ c.ver < a.vlo → c.e.strict = false) ∧
      (blk = false → eo = 0 ∧ ht = false) ∧
      IdentOk c.e.strict tag ∧ parms.findIdx? (·.tag == c.lx.symOf tag) = some arm ∧
      fields.map normField = fields ∧
      FieldsWf c its fields ∧
      (ht = false → items = []) ∧
      OT.wfL c arms blk items ∧
      MultOk c.e.strict arms items
  | .cmt _ _ => pib = true
def OT.wfL (c : RCfg) (parms : List Arm) (pib : Bool) : List OT → Prop
  | [] => True
  | x :: xs => OT.wf c parms pib x ∧ OT.wfL c parms pib xs
end

mutual
/-- every sequence parameter inside `o` is followed, in the written stream, by a token that ends it;
    `rest` = the tokens that follow `o` -/
def OT.seqOk (c : RCfg) (ind : Nat) : OT → List WTok → Prop
  | .node _ tag blk ty _ eo fields items, rest =>
    (∀ its arms ht, c.e.table.lookup ty = some (.block blk its arms ht) →
      FieldsSeqOk c (ind + 1) its fields (OT.toksL (ind + 1) items ++ (closeToks ind tag blk eo ++ rest))) ∧
    OT.seqOkL c (ind + 1) items (closeToks ind tag blk eo ++ rest)
  | .cmt _ _, _ => True
def OT.seqOkL (c : RCfg) (ind : Nat) : List OT → List WTok → Prop
  | [], _ => True
  | x :: xs, rest => OT.seqOk c ind x (OT.toksL ind xs ++ rest) ∧ OT.seqOkL c ind xs rest
end

mutual
/-- position-restricted items stand in position order, in every tagged part below `o` -/
def OT.posDeep (code : List CodeEntry) : OT → Prop
  | .node _ _ _ _ _ _ _ items => PosSorted code items ∧ OT.posDeepL code items
  | .cmt _ _ => True
def OT.posDeepL (code : List CodeEntry) : List OT → Prop
  | [] => True
  | x :: xs => OT.posDeep code x ∧ OT.posDeepL code xs
end

def OT.posAll (code : List CodeEntry) (items : List OT) : Prop := PosSorted code items ∧ OT.posDeepL code items

mutual
/-- a keyword (an item that is not a block) is followed by a token -/
def OT.kwNext : OT → List WTok → Prop
  | .node _ _ blk _ _ _ _ _, rest => blk = false → rest ≠ []
  | .cmt _ _, _ => True
def OT.kwNextL (ind : Nat) : List OT → List WTok → Prop
  | [], _ => True
  | x :: xs, rest => OT.kwNext x (OT.toksL ind xs ++ rest) ∧ OT.kwNextL ind xs rest
end

mutual
/-- value-level lexability of the written tokens of `o` (`OT.lexW` without the clause "a keyword has no items", which
    `OT.wf` supplies: `lexWL_of`): tags and identifier values are identifier texts, no block is called `A2ML`, float texts
    are number texts, comments are comment texts -/
def OT.lexV : OT → Prop
  | .node _ tag blk _ _ _ fields items =>
    IdentText tag ∧ (blk = true → tag ≠ "A2ML".toList) ∧ (∀ f ∈ fields, FieldLex f) ∧ OT.lexVL items
  | .cmt text _ => CommentText text
def OT.lexVL : List OT → Prop
  | [] => True
  | x :: xs => OT.lexV x ∧ OT.lexVL xs
end

mutual
/-- a line comment that is the last item of a block is followed by a line break in front of `/end` -/
def OT.endOk : OT → Prop
  | .node _ _ blk _ _ eo _ items =>
    (blk = true → ∀ text off, items.getLast? = some (.cmt text off) → isLineCmt text = true → 1 ≤ eo) ∧ OT.endOkL items
  | .cmt _ _ => True
def OT.endOkL : List OT → Prop
  | [] => True
  | x :: xs => OT.endOk x ∧ OT.endOkL xs
end

/-- the identifier that follows (if the next significant token is one) passes `get_identifier` -/
def FollowId (rest : List WTok) : Prop := ∀ w, nextNC rest = some w → w.ty = 0 → IdentOk true w.text

mutual
/-- every sequence of IDENTIFIERS that is the last parameter of an element below `o` is followed, in the written stream,
    by a token that ends it -/
def OT.idSeqOk (c : RCfg) (ind : Nat) : OT → List WTok → Prop
  | .node _ tag blk ty _ eo _ items, rest =>
    (∀ its arms ht stop, c.e.table.lookup ty = some (.block blk its arms ht) → its.getLast? = some (.seq .ident stop) →
      SeqStops c .ident stop (nextNC (OT.toksL (ind + 1) items ++ (closeToks ind tag blk eo ++ rest)))) ∧
    OT.idSeqOkL c (ind + 1) items (closeToks ind tag blk eo ++ rest)
  | .cmt _ _, _ => True
def OT.idSeqOkL (c : RCfg) (ind : Nat) : List OT → List WTok → Prop
  | [], _ => True
  | x :: xs, rest => OT.idSeqOk c ind x (OT.toksL ind xs ++ rest) ∧ OT.idSeqOkL c ind xs rest
end

section
variable {P : List OT → Prop} (nil : P []) (cmt : ∀ text off rest, P rest → P (.cmt text off :: rest))
  (node : ∀ arm tag blk ty so eo fields items rest, P items → P rest →
    P (.node arm tag blk ty so eo fields items :: rest))
include nil cmt node

mutual
private theorem OT.itemsInduct : ∀ (o : OT), P o.itemsOf
  | .node _ _ _ _ _ _ _ items => OT.listInduct items
  | .cmt _ _ => nil
/-- induction over a list of items and, inside every node, over the node's items -/
theorem OT.listInduct : ∀ (xs : List OT), P xs
  | [] => nil
  | .cmt text off :: rest => cmt text off rest (OT.listInduct rest)
  | .node arm tag blk ty so eo fields items :: rest =>
    node arm tag blk ty so eo fields items rest (OT.itemsInduct (.node arm tag blk ty so eo fields items))
      (OT.listInduct rest)
end

end

theorem nextNC_append_comments {cs : List WTok} (h : ∀ x ∈ cs, x.ty = 6) (ws : List WTok) :
    nextNC (cs ++ ws) = nextNC ws := by
  induction cs with
  | nil => rfl
  | cons c cs ih =>
    simp only [List.cons_append, nextNC, h c List.mem_cons_self, if_true]
    exact ih (fun x hx => h x (List.mem_cons_of_mem _ hx))

/-- a property of the first significant token behind a list of well-formed items: it holds if it holds of what
    follows the list (the items may all be comments), of `/begin`, and of the tag of every keyword arm of the parent -/
theorem next_toksL {c : RCfg} {parms : List Arm} {pib : Bool} (ind : Nat) {more : List WTok} {Q : WTok → Prop}
    (hm : ∀ w, nextNC more = some w → Q w) (hb : ∀ w : WTok, w.ty = 1 → Q w)
    (hk : ∀ w : WTok, w.ty = 0 → IdentOk c.e.strict w.text → ∀ a ∈ parms, a.block = false → Q w) :
    ∀ (xs : List OT), OT.wfL c parms pib xs → ∀ w, nextNC (OT.toksL ind xs ++ more) = some w → Q w
  | [], _ => hm
  | .cmt text off :: xs, h => by
    simp only [OT.toksL, OT.toks, List.cons_append, List.nil_append, nextNC, if_true]
    exact next_toksL ind hm hb hk xs h.2
  | .node arm tag blk ty so eo fields items :: xs, h => by
    simp only [OT.wfL, OT.wf] at h
    obtain ⟨⟨a, its, arms, ht, h1, -, -, h4, -, -, -, h8, -⟩, -⟩ := h
    intro w hw
    cases blk with
    | true =>
      obtain rfl : (⟨1, beginText, so, ind⟩ : WTok) = w := by simpa [OT.toksL, OT.toks, headToks, nextNC] using hw
      exact hb _ rfl
    | false =>
      obtain rfl : (⟨0, tag, so, ind⟩ : WTok) = w := by simpa [OT.toksL, OT.toks, headToks, nextNC] using hw
      exact hk _ rfl h8 a (List.mem_of_getElem? h1) h4.symm

theorem followId_toksL (c : RCfg) (hst : c.e.strict = true) (ind : Nat) (parms : List Arm) (pib : Bool) (more : List WTok)
    (xs : List OT) (h : OT.wfL c parms pib xs) (hm : FollowId more) : FollowId (OT.toksL ind xs ++ more) :=
  next_toksL ind hm (fun w h1 h0 => by rw [h0] at h1; cases h1) (fun _ _ hid _ _ _ _ => hst ▸ hid) xs h

theorem OT.lexVL_append : ∀ (xs ys : List OT), OT.lexVL xs → OT.lexVL ys → OT.lexVL (xs ++ ys)
  | [], _, _, h => h
  | x :: xs, ys, h1, h2 => by
    simp only [List.cons_append, OT.lexVL] at h1 ⊢
    exact ⟨h1.1, OT.lexVL_append xs ys h1.2 h2⟩

theorem OT.wfL_append (c : RCfg) (parms : List Arm) (pib : Bool) : ∀ (xs ys : List OT),
    OT.wfL c parms pib xs → OT.wfL c parms pib ys → OT.wfL c parms pib (xs ++ ys)
  | [], _, _, h => h
  | x :: xs, ys, h1, h2 => by
    simp only [List.cons_append, OT.wfL] at h1 ⊢
    exact ⟨h1.1, OT.wfL_append c parms pib xs ys h1.2 h2⟩

theorem OT.wf_of_mem {c : RCfg} {parms : List Arm} {pib : Bool} : ∀ {xs : List OT}, OT.wfL c parms pib xs →
    ∀ x ∈ xs, x.wf c parms pib
  | [], _, _, hx => nomatch hx
  | y :: ys, h, x, hx => by
    simp only [OT.wfL] at h
    rcases List.mem_cons.1 hx with rfl | hx
    · exact h.1
    · exact OT.wf_of_mem h.2 x hx

theorem OT.posDeepL_append (code : List CodeEntry) : ∀ (xs ys : List OT),
    OT.posDeepL code (xs ++ ys) ↔ OT.posDeepL code xs ∧ OT.posDeepL code ys
  | [], ys => by simp [OT.posDeepL]
  | x :: xs, ys => by
    simp only [List.cons_append, OT.posDeepL, OT.posDeepL_append code xs ys, and_assoc]

theorem OT.posDeepL_mem (code : List CodeEntry) : ∀ (xs : List OT), OT.posDeepL code xs → ∀ x ∈ xs, OT.posDeep code x
  | [], _, _, hx => by simp at hx
  | y :: ys, h, x, hx => by
    simp only [OT.posDeepL] at h
    rcases List.mem_cons.1 hx with rfl | hx
    · exact h.1
    · exact OT.posDeepL_mem code ys h.2 x hx

theorem OT.kwNextL_of_ne_nil : ∀ (xs : List OT) (ind : Nat) (rest : List WTok), rest ≠ [] → OT.kwNextL ind xs rest
  | [], _, _, _ => by simp [OT.kwNextL]
  | x :: xs, ind, rest, h => by
    simp only [OT.kwNextL]
    refine ⟨?_, OT.kwNextL_of_ne_nil xs ind rest h⟩
    cases x with
    | cmt _ _ => simp [OT.kwNext]
    | node _ _ _ _ _ _ _ _ => simp [OT.kwNext, h]

theorem OT.okL_of_wf (c : RCfg) : ∀ (xs : List OT) (ind : Nat) (parms : List Arm) (pib : Bool) (rest : List WTok),
    OT.wfL c parms pib xs → OT.seqOkL c ind xs rest → OT.posDeepL c.e.code xs → OT.kwNextL ind xs rest →
    OT.okL c ind parms pib xs rest := by
  refine OT.listInduct (fun _ _ _ _ _ _ _ _ => trivial) ?_ ?_
  · intro text off xs ih ind parms pib rest h hs hp hk
    exact ⟨h.1, ih ind parms pib rest h.2 hs.2 hp.2 hk.2⟩
  · intro arm tag blk ty so eo fields items xs ihI ihR ind parms pib rest h hs hp hk
    refine ⟨?_, ihR ind parms pib rest h.2 hs.2 hp.2 hk.2⟩
    obtain ⟨h, -⟩ := h
    obtain ⟨hs, -⟩ := hs
    obtain ⟨hp, -⟩ := hp
    obtain ⟨hk, -⟩ := hk
    generalize OT.toksL ind xs ++ rest = rest' at hs hk ⊢
    simp only [OT.wf] at h
    obtain ⟨a, its, arms, ht, h1, h2, h3, h4, h5, h6, h7, h8, h9, h10, h11, h12, h13, h14⟩ := h
    simp only [OT.seqOk] at hs
    simp only [OT.posDeep] at hp
    simp only [OT.kwNext] at hk
    simp only [OT.ok]
    refine ⟨a, its, arms, ht, h1, h2, h3, h4, h5, h6, ?_, h8, h9, h10, ?_, h12, ?_, h14, hp.1⟩
    · intro hb; exact ⟨(h7 hb).1, hk hb, (h7 hb).2⟩
    · exact fieldsOk_of_wf c (ind + 1) its fields _ h11 (hs.1 its arms ht h5)
    · refine ihI (ind + 1) arms blk _ h13 hs.2 hp.2 ?_
      -- inside a block every item is followed by `/end`; a keyword has no items
      cases hb : blk with
      | true => exact OT.kwNextL_of_ne_nil items (ind + 1) _ (by simp [closeToks])
      | false =>
        have := h12 (h7 hb).2
        subst this
        simp [OT.kwNextL]

theorem OT.ok_of_wf (c : RCfg) : ∀ (o : OT) (ind : Nat) (parms : List Arm) (pib : Bool) (rest : List WTok),
    OT.wf c parms pib o → OT.seqOk c ind o rest → OT.posDeep c.e.code o → OT.kwNext o rest →
    OT.ok c ind parms pib o rest :=
  fun o ind parms pib rest h hs hp hk =>
    (OT.okL_of_wf c [o] ind parms pib rest ⟨h, trivial⟩ ⟨hs, trivial⟩ ⟨hp, trivial⟩ ⟨hk, trivial⟩).1

end A2l.Tree
