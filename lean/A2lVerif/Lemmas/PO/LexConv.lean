import A2lVerif.Lemmas.PO.LexShape
import A2lVerif.Lemmas.RT.LexToks
/-! # C02, text-level front end: the tokens of `tokenize_core` satisfy the hypotheses on the input tokens

From the byte shapes of tokenizer tokens (Lemmas/PO/LexShape.lean) to the text facts in `InOk`. The bytes of a token of a
`String` are UTF-8: `bytes = encL chars`, token boundaries are char boundaries (`tokenize_post`, C03), and a slice of
`encL chars` between two char boundaries is `encL` of a sublist of `chars`. -/
namespace A2l.Tree
open A2l.Lex A2l.Sc

def ofB (x : UInt8) : Char := Char.ofNat x.toNat

theorem ofB_ascii {x : UInt8} (h : x < 128) : IsAscii (ofB x) ∧ asciiB (ofB x) = x := by
  have key : ∀ n : Fin 128, IsAscii (Char.ofNat n.val) ∧ asciiB (Char.ofNat n.val) = UInt8.ofNat n.val := by
    unfold IsAscii asciiB; decide +kernel
  have hlt : x.toNat < 128 := by simpa [UInt8.lt_iff_toNat_lt] using h
  have := key ⟨x.toNat, hlt⟩
  simp only [UInt8.ofNat_toNat] at this
  exact this

theorem encL_map_ofB : ∀ (l : List UInt8), (∀ x ∈ l, x < 128) → encL (l.map ofB) = l
  | [], _ => rfl
  | x :: l, h => by
    have hx := ofB_ascii (h x List.mem_cons_self)
    rw [List.map_cons, encL_cons, enc_ascii hx.1, hx.2, encL_map_ofB l (fun y hy => h y (List.mem_cons_of_mem _ hy))]
    rfl

theorem decodeL_ascii (l : List UInt8) (h : ∀ x ∈ l, x < 128) : decodeL l = l.map ofB := by
  conv => lhs; rw [← encL_map_ofB l h]
  exact decodeL_encL _

theorem encL_blanks : ∀ (k : Nat) (t : List Char) (rest : List UInt8), encL t = List.replicate k 32 ++ rest →
    ∃ t', t = List.replicate k ' ' ++ t' ∧ encL t' = rest
  | 0, t, rest, h => ⟨t, by simp, by simpa using h⟩
  | k + 1, t, rest, h => by
    rw [List.replicate_succ, List.cons_append] at h
    obtain ⟨c, cs, rfl, ha, hb, hcs⟩ := encL_eq_cons_ascii h (by decide)
    have hc : c = ' ' := asciiB_inj ha (by decide) (by rw [hb]; rfl)
    obtain ⟨t', ht', he⟩ := encL_blanks k cs rest hcs
    exact ⟨t', by rw [hc, ht', List.replicate_succ, List.cons_append], he⟩

theorem encL_blanks_slash {k : Nat} {t : List Char} {x : UInt8} {rest : List UInt8} (hx : x < 128)
    (h : encL t = List.replicate k 32 ++ 47 :: x :: rest) :
    ∃ c r, t = List.replicate k ' ' ++ '/' :: c :: r ∧ IsAscii c ∧ asciiB c = x ∧ encL r = rest := by
  obtain ⟨t1, rfl, he1⟩ := encL_blanks k t _ h
  obtain ⟨c1, t2, rfl, ha1, hb1, he2⟩ := encL_eq_cons_ascii he1 (by decide)
  obtain ⟨c, r, rfl, ha, hb, he3⟩ := encL_eq_cons_ascii he2 hx
  rw [asciiB_inj ha1 (by decide) (hb1.trans (by decide) : asciiB c1 = asciiB '/')]
  exact ⟨c, r, rfl, ha, hb, he3⟩

theorem cmtRest_blanks (k : Nat) (c : Char) (r : List Char) (hc : c ≠ ' ') :
    cmtRest (List.replicate k ' ' ++ c :: r) = c :: r := by
  unfold cmtRest
  rw [List.dropWhile_append_of_pos fun a ha => by rw [List.eq_of_mem_replicate ha]; rfl,
    List.dropWhile_cons_of_neg (by simpa using hc)]

theorem extract_all (b : Bytes) (p : UInt8 → Bool) (a e : Nat) (h : AllIn b p a e) :
    ∀ x ∈ (b.extract a e).toList, p x = true := by
  intro x hx
  obtain ⟨q, h1, h2, hq⟩ := mem_extract hx
  obtain ⟨c, hc, hp⟩ := h q h1 h2
  cases hq.symm.trans hc
  exact hp

theorem extract_blanks (b : Bytes) (a e : Nat) (he : e ≤ b.size) (h : AllIn b (· == 32) a e) :
    (b.extract a e).toList = List.replicate (e - a) 32 := by
  rw [List.eq_replicate_iff]
  refine ⟨length_extract_list b a e he, fun x hx => ?_⟩
  simpa using extract_all b _ a e h x hx

theorem identText_of_shape (b : Bytes) (a e : Nat) (hall : AllIn b isIdentChar a e) (hlt : a < e) (he : e ≤ b.size)
    (hfirst : ∀ c, b[a]? = some c → (isAlpha c || c == 95) = true) :
    IdentText (decodeL (b.extract a e).toList) := by
  have hid := extract_all b isIdentChar a e hall
  have h128 : ∀ x ∈ (b.extract a e).toList, x < 128 := fun x hx => (isIdentChar_ascii (hid x hx)).1
  rw [decodeL_ascii _ h128]
  have hc := Array.getElem?_eq_getElem (show a < b.size by omega)
  rw [extract_cons b a e _ hlt hc] at hid h128 ⊢
  refine ⟨ofB b[a], _, List.map_cons, ?_, ?_⟩
  · intro x hx
    obtain ⟨y, hy, rfl⟩ := List.mem_map.1 hx
    have := ofB_ascii (h128 y hy)
    exact ⟨this.1, by rw [this.2]; exact hid y hy⟩
  · rw [(ofB_ascii (h128 _ List.mem_cons_self)).2]
    exact hfirst _ hc

theorem lineC_text {b : Bytes} {t : Token} {text : List Char} (hl : LineC b t)
    (henc : (b.extract t.startpos t.endpos).toList = encL text) :
    isLineCmt text = true ∧ CommentText text ∧ countNewlines text = 0 := by
  obtain ⟨-, st, a1, a2, a3, a4, a5, a6, a7⟩ := hl
  rw [extract_append b _ st _ a1 (by omega), extract_blanks b _ st (by omega) a2,
    extract_cons b st _ 47 (by omega) a3, extract_cons b (st + 1) _ 47 (by omega) a4] at henc
  obtain ⟨c, r, rfl, ha, hb, he⟩ := encL_blanks_slash (by decide) henc.symm
  rw [asciiB_inj ha (by decide) (hb.trans (by decide) : asciiB c = asciiB '/')]
  generalize st - t.startpos = k
  have hr : ∀ c ∈ r, c ≠ '\n' := by
    rintro c hc rfl
    have hmem : (10 : UInt8) ∈ encL r := by
      unfold encL
      rw [List.mem_flatMap]
      exact ⟨'\n', hc, by decide⟩
    rw [he] at hmem
    have := extract_all b (· != 10) (st + 1 + 1) t.endpos (fun q h1 h2 => a7 q (by omega) h2) 10 hmem
    simp at this
  have hrest := cmtRest_blanks k '/' ('/' :: r) (by decide)
  have hl : isLineCmt (List.replicate k ' ' ++ '/' :: '/' :: r) = true := by unfold isLineCmt; rw [hrest]; rfl
  refine ⟨hl, ?_, countNewlines_zero_of _ fun c hc => ?_⟩
  · unfold CommentText
    rw [if_pos hl]
    exact ⟨r, hrest, hr⟩
  · rw [List.mem_append, List.mem_cons, List.mem_cons] at hc
    rcases hc with hc | rfl | rfl | hc
    · rw [List.eq_of_mem_replicate hc]; decide
    · decide
    · decide
    · exact hr c hc

theorem blockC_text {b : Bytes} {t : Token} {text : List Char} (hl : BlockC b t)
    (henc : (b.extract t.startpos t.endpos).toList = encL text) : isLineCmt text = false ∧ CommentText text := by
  obtain ⟨-, st, a1, a2, a3, a4, a5⟩ := hl
  rw [extract_append b _ st _ a1 a3, extract_blanks b _ st (by omega) a2] at henc
  obtain ⟨rest, hcore⟩ : ∃ rest, (b.extract st t.endpos).toList = 47 :: 42 :: rest := by
    have h0 := a5.h0
    have h1 := a5.h1
    generalize (b.extract st t.endpos).toList = core at h0 h1
    match core, h0, h1 with
    | x :: y :: rest, h0, h1 =>
      rw [Option.some.inj h0, Option.some.inj h1]
      exact ⟨rest, rfl⟩
  rw [hcore] at henc
  obtain ⟨c, r, rfl, ha, hb, he⟩ := encL_blanks_slash (by decide) henc.symm
  rw [asciiB_inj ha (by decide) (hb.trans (by decide) : asciiB c = asciiB '*')]
  generalize st - t.startpos = k
  have hrest := cmtRest_blanks k '/' ('*' :: r) (by decide)
  have hl : isLineCmt (List.replicate k ' ' ++ '/' :: '*' :: r) = false := by unfold isLineCmt; rw [hrest]; rfl
  refine ⟨hl, ?_⟩
  unfold CommentText
  rw [hl, hrest]
  have : encL ('/' :: '*' :: r) = (b.extract st t.endpos).toList := by
    rw [hcore, ← he]
    rfl
  rw [this]
  exact a5

/-- what is assumed about the text beside "the tokenizer accepts it": no `/include` (the model parses one file), every
    identifier token starts with a letter or `_` (the tokenizer also makes identifier tokens of `-xyz`, `1z`, `5_a`), and
    the bytes of every comment token are UTF-8 -/
structure TextOk (bytes : Bytes) (ts : List Token) : Prop where
  noInclude : ∀ t ∈ ts, t.ttype ≠ .include
  identFirst : ∀ t ∈ ts, t.ttype = .identifier → ∀ c, bytes[t.startpos]? = some c → (isAlpha c || c == 95) = true
  utf8 : ∀ t ∈ ts, t.ttype = .comment → ∃ text, (bytes.extract t.startpos t.endpos).toList = encL text

theorem convTok_text (lx : LexEnv) (b : Bytes) (t : Token) :
    (convTok lx b t).text = decodeL (b.extract t.startpos t.endpos).toList := rfl

theorem lexer_identText {bytes : Bytes} {ts : List Token} (h : tokenize bytes = .ok ts) (ok : TextOk bytes ts)
    (lx : LexEnv) : ∀ tk ∈ ts, tk.ttype = .identifier → IdentText (convTok lx bytes tk).text := by
  intro tk htk hty
  have hs := (tokenize_shapes bytes ts h).shapes tk htk
  rcases hs.ident hty with ⟨x, hx, hxi⟩ | ⟨c, hc, hcf⟩ | ⟨hall, hlt, he⟩
  · exact absurd hxi (ok.noInclude x hx)
  · have := ok.identFirst tk htk hty c hc
    rw [hcf] at this; cases this
  · rw [convTok_text]
    exact identText_of_shape bytes _ _ hall hlt he (ok.identFirst tk htk hty)

theorem lexer_cmt {bytes : Bytes} {ts : List Token} (h : tokenize bytes = .ok ts) (ok : TextOk bytes ts)
    (lx : LexEnv) : ∀ tk ∈ ts, tk.ttype = .comment →
      CommentText (convTok lx bytes tk).text ∧
      (isLineCmt (convTok lx bytes tk).text = true → LineC bytes tk ∧ countNewlines (convTok lx bytes tk).text = 0) := by
  intro tk htk hty
  obtain ⟨text, henc⟩ := ok.utf8 tk htk hty
  have htext : (convTok lx bytes tk).text = text := by rw [convTok_text, henc, decodeL_encL]
  rw [htext]
  rcases ((tokenize_shapes bytes ts h).shapes tk htk).cmt hty with hl | hb
  · have := lineC_text hl henc
    exact ⟨this.2.1, fun _ => ⟨hl, this.2.2⟩⟩
  · have := blockC_text hb henc
    exact ⟨this.2, fun hl => by rw [this.1] at hl; cases hl⟩

theorem lexer_lineCmt {bytes : Bytes} {ts : List Token} (h : tokenize bytes = .ok ts) (ok : TextOk bytes ts)
    (lx : LexEnv) (i : Nat) (tk tk' : Token) (h1 : ts[i]? = some tk) (h2 : ts[i + 1]? = some tk')
    (hty : tk.ttype = .comment) (hl : isLineCmt (convTok lx bytes tk).text = true) :
    tk.line + countNewlines (convTok lx bytes tk).text < tk'.line := by
  have hm : tk ∈ ts := List.mem_of_getElem? h1
  obtain ⟨hlc, hz⟩ := (lexer_cmt h ok lx tk hm hty).2 hl
  have hp := (tokenize_shapes bytes ts h).lcp
  rw [List.pairwise_iff_getElem] at hp
  obtain ⟨hi1, e1⟩ := List.getElem?_eq_some_iff.1 h1
  obtain ⟨hi2, e2⟩ := List.getElem?_eq_some_iff.1 h2
  have := hp i (i + 1) hi1 hi2 (by omega)
  rw [e1, e2] at this
  have := this hlc
  omega

def Cont (x : UInt8) : Prop := 0x80 ≤ x ∧ x < 0xC0

/-- the encoding of a character: a byte that is not a continuation byte, then continuation bytes; more than one byte
    only if all are `≥ 0x80` -/
theorem enc_shape (c : Char) : ∃ h tl, String.utf8EncodeChar c = h :: tl ∧ ¬ Cont h ∧ (∀ x ∈ tl, Cont x) ∧
    (tl ≠ [] → 0x80 ≤ h) := by
  rcases Enc.utf8EncodeChar_shape c with ⟨h1, e⟩ | ⟨hd, tl, e, -, hh, ht⟩
  · refine ⟨_, [], e, fun hc => ?_, nofun, fun h => absurd rfl h⟩
    have := UInt8.le_iff_toNat_le.1 hc.1
    rw [UInt8.toNat_ofNat', Nat.mod_eq_of_lt (Nat.lt_of_le_of_lt h1 (by decide))] at this
    exact absurd (Nat.le_trans this h1) (by decide)
  · exact ⟨hd, tl, e, fun hc => absurd (Nat.lt_of_le_of_lt hh.1 (UInt8.lt_iff_toNat_lt.1 hc.2)) (Nat.lt_irrefl _),
      fun x hx => ⟨UInt8.le_iff_toNat_le.2 (ht x hx).1, UInt8.lt_iff_toNat_lt.2 (ht x hx).2⟩,
      fun _ => UInt8.le_iff_toNat_le.2 (Nat.le_trans (by decide) hh.1)⟩

def BndL (l : List UInt8) (p : Nat) : Prop := p = l.length ∨ ∃ x, l[p]? = some x ∧ ¬ Cont x

/-- a byte of `encL cs` is the first byte of a character, where the text splits, or a continuation byte that stands behind a
    byte `≥ 0x80` -/
theorem encL_pos : ∀ (cs : List Char) (p : Nat) (x : UInt8), (encL cs)[p]? = some x →
    (¬ Cont x ∧ ∃ k, (encL cs).take p = encL (cs.take k) ∧ (encL cs).drop p = encL (cs.drop k)) ∨
    (Cont x ∧ ∃ q y, p = q + 1 ∧ (encL cs)[q]? = some y ∧ 0x80 ≤ y)
  | [], p, x, hx => by simp [encL] at hx
  | c :: cs, p, x, hx => by
    obtain ⟨h, tl, he, hh, htl, hbig⟩ := enc_shape c
    rw [encL_cons, he] at hx ⊢
    by_cases hlt : p < (h :: tl).length
    · rw [List.getElem?_append_left hlt] at hx
      cases p with
      | zero => exact .inl ⟨Option.some.inj hx ▸ hh, 0, rfl, by rw [List.drop_zero, List.drop_zero, encL_cons, he]⟩
      | succ q =>
        -- inside the encoding of `c`: a continuation byte, and the byte in front belongs to `c` as well
        have hq : q < (h :: tl).length := Nat.lt_of_succ_lt hlt
        refine .inr ⟨htl x (List.mem_of_getElem? hx), q, (h :: tl)[q], rfl,
          by rw [List.getElem?_append_left hq, List.getElem?_eq_getElem hq], ?_⟩
        cases q with
        | zero => exact hbig (by rintro rfl; exact absurd hlt (Nat.lt_irrefl 1))
        | succ r => exact (htl _ (List.getElem_mem (Nat.lt_of_succ_lt_succ hq))).1
    · obtain ⟨n, rfl⟩ := Nat.exists_eq_add_of_le (Nat.le_of_not_lt hlt)
      rw [List.getElem?_append_right (Nat.le_add_right _ _), Nat.add_sub_cancel_left] at hx
      rcases encL_pos cs n x hx with ⟨hc, k, k1, k2⟩ | ⟨hc, q, y, rfl, hy, hy8⟩
      · refine .inl ⟨hc, k + 1, ?_, ?_⟩
        · rw [List.take_length_add_append, k1, List.take_succ_cons, encL_cons, he]
        · rw [List.drop_length_add_append, k2, List.drop_succ_cons]
      · refine .inr ⟨hc, (h :: tl).length + q, y, rfl, ?_, hy8⟩
        rw [List.getElem?_append_right (Nat.le_add_right _ _), Nat.add_sub_cancel_left]
        exact hy

theorem encL_split (cs : List Char) (p : Nat) (hb : BndL (encL cs) p) :
    ∃ k, (encL cs).take p = encL (cs.take k) ∧ (encL cs).drop p = encL (cs.drop k) := by
  rcases hb with rfl | ⟨x, hx, hnc⟩
  · exact ⟨cs.length, by rw [List.take_length, List.take_length], by rw [List.drop_length, List.drop_length]; rfl⟩
  · exact (encL_pos cs p x hx).elim (fun h => h.2) fun h => absurd h.1 hnc

theorem encL_slice (cs : List Char) (a e : Nat) (hae : a ≤ e) (ha : BndL (encL cs) a) (hb : BndL (encL cs) e) :
    ∃ text, ((encL cs).drop a).take (e - a) = encL text := by
  obtain ⟨n, rfl⟩ := Nat.exists_eq_add_of_le hae
  rw [Nat.add_sub_cancel_left]
  obtain ⟨k, -, k2⟩ := encL_split cs a ha
  rw [k2]
  have hb' : BndL (encL (cs.drop k)) n := by
    rw [← k2]
    rcases hb with hb | ⟨x, hx, hnc⟩
    · exact .inl (by rw [List.length_drop, ← hb, Nat.add_sub_cancel_left])
    · exact .inr ⟨x, by rw [List.getElem?_drop]; exact hx, hnc⟩
  obtain ⟨k', k1', -⟩ := encL_split (cs.drop k) n hb'
  exact ⟨_, k1'⟩

theorem utf8Ok_encL (cs : List Char) : Utf8Ok (encL cs).toArray := by
  intro p hp hc
  have hx : (encL cs)[p]? = some (encL cs).toArray[p] := by
    simp only [List.getElem_toArray]
    exact List.getElem?_eq_getElem (by simpa using hp)
  obtain ⟨q, y, rfl, hy, hy8⟩ := (encL_pos cs p _ hx).elim (fun h => absurd hc h.1) fun h => h.2
  obtain ⟨hlt, rfl⟩ := List.getElem?_eq_some_iff.1 hy
  exact ⟨Nat.succ_pos q, by simpa using hy8⟩

theorem bndL_of_bnd {l : List UInt8} {p : Nat} (h : Bnd l.toArray p) : BndL l p := by
  rcases h with h | ⟨c, hc, hn⟩
  · left; simpa using h
  · right; exact ⟨c, by simpa using hc, hn⟩

theorem token_bytes_utf8 (cs : List Char) (ts : List Token) (h : tokenize (encL cs).toArray = .ok ts) :
    ∀ t ∈ ts, ∃ text, ((encL cs).toArray.extract t.startpos t.endpos).toList = encL text := by
  intro t ht
  have hpost := tokenize_post_of h
  have h1 := hpost.1 t ht
  have h2 := hpost.2.2.2.1 (utf8Ok_encL cs) t ht
  obtain ⟨text, htext⟩ := encL_slice cs t.startpos t.endpos (by omega) (bndL_of_bnd h2.1) (bndL_of_bnd h2.2)
  exact ⟨text, by rw [← htext, Array.toList_extract]⟩

end A2l.Tree
