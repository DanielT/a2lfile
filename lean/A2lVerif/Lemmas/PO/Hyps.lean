import A2lVerif.Lemmas.RT.LexToks
import A2lVerif.Lemmas.TableShape
/-! # C02: the hypotheses about the input tokens (`InOk`) and about the grammar table: its shape (`shapeOk`,
    Lemmas/TableShape.lean), the root type (`RootOk`), constant positions of the root arms (`rootPosB`); the hypothesis on
    sequences (`seqTblOk`) stands in Lemmas/PO/SeqOk.lean, that on arrays (`arrTblOk`) in Lemmas/PO/Fuel.lean, that on
    the `special` parsers (`NoSpecialOk`) in Lemmas/PO/Loop.lean, the obstacles in Lemmas/PO/Compose.lean -/
namespace A2l.Tree
open A2l.G A2l.Sc

/-- the configuration the well-formedness predicates of Lemmas/RT are stated for: the environment of the load with any
    other token array (they do not look at the tokens), the driver's annotation functions, the file version -/
def mkC (e : Env) (lx : LexEnv) (X : Array PTok) (ver : Nat) : RCfg := ⟨{ e with toks := X }, lx, ver⟩

/-- **what is assumed of the input tokens** (proved, under assumptions on symbol table and float codec, for the tokens of
    every lexable written stream by `inOk_of_stream`, Lemmas/PO/Sample.lean, and for `tokens.map (convTok lx bytes)` with
    `TextOk` by `inOk_of_lexer`, Props/C02.lean):
    strict mode; identifier tokens carry the symbol the driver's interning function gives their text, and an interned
    text is found again in the symbol table; no token comes from an include file; the float codec is idempotent on its
    own output (one that lets `1e999` through as `inf` is not: `inf_not_reloadable`, Props/C02.lean) -/
structure InOk (e : Env) (lx : LexEnv) : Prop where
  strict : e.strict = true
  sym : ∀ (i : Nat) (t : PTok), e.toks[i]? = some t → t.ty = 0 → t.sym = lx.symOf t.text
  symText : ∀ (i : Nat) (t : PTok), e.toks[i]? = some t → t.ty = 0 → t.sym ≠ noSym → symText e.symbols t.sym = t.text
  fid : ∀ (i : Nat) (t : PTok), e.toks[i]? = some t → t.fileid = 0
  fl : ∀ (i : Nat) (t : PTok) (r : List Char), e.toks[i]? = some t → t.ty = 5 → t.fl = some r → lx.flOf r = some r
  /-- token shapes (tokenizer facts): identifier tokens are identifiers, comment tokens are comments, and what the float
      codec makes of a number token is again a number token (`inf` is not) -/
  identText : ∀ (i : Nat) (t : PTok), e.toks[i]? = some t → t.ty = 0 → IdentText t.text
  cmtText : ∀ (i : Nat) (t : PTok), e.toks[i]? = some t → t.ty = 6 → CommentText t.text
  numText : ∀ (i : Nat) (t : PTok) (r : List Char), e.toks[i]? = some t → t.ty = 5 → t.fl = some r → NumText r
  /-- the token behind a `//` comment stands on a later line -/
  lineCmt : ∀ (i : Nat) (t t' : PTok), e.toks[i]? = some t → t.ty = 6 → isLineCmt t.text = true →
    e.toks[i + 1]? = some t' → t.line + countNewlines t.text < t'.line

/-- what is assumed of the tags (texts in the symbol table): they are identifiers `get_identifier` accepts, and
    no block is called `A2ML` (the tokenizer treats what follows `/begin A2ML` as one opaque token) -/
def TagsOk (e : Env) : Prop :=
  ∀ ty isB items arms ht, e.table.lookup ty = some (.block isB items arms ht) → ∀ a ∈ arms,
    IdentOk true (symText e.symbols a.tag) ∧
    (a.block = true → e.table.lookup a.ty ≠ some .special → symText e.symbols a.tag ≠ "A2ML".toList)

def identOkB (s : List Char) : Bool :=
  match s with
  | c :: _ => !isAsciiDigit c && decide (utf8Len s ≤ 1024)
  | [] => false

/-- the second clause of `TagsOk`, for a test `isA` of the symbols whose text is `A2ML` -/
def a2mlOkB (tbl : Table) (isA : Nat → Bool) : Bool :=
  tbl.all (fun en => match en.def_ with
    | .block _ _ arms _ => arms.all (fun a => !a.block || !isA a.tag ||
        (match tbl.lookup a.ty with | some .special => true | _ => false))
    | _ => true)

theorem identOk_of_B {s : List Char} (h : identOkB s = true) : IdentOk true s := by
  unfold identOkB at h
  cases s with
  | nil => cases h
  | cons c cs =>
    simp only [Bool.and_eq_true, Bool.not_eq_true', decide_eq_true_eq] at h
    exact ⟨c, cs, rfl, fun _ => h⟩

/-- every text the symbol table hands out is an identifier if its entries are (the default text is `?`) -/
theorem identOk_symText {symbols : Array String} (h : ∀ s ∈ symbols.toList, identOkB s.toList = true) (i : Nat) :
    identOkB (symText symbols i) = true := by
  unfold symText
  cases hs : symbols[i]? with
  | none => decide
  | some s => exact h s (Array.mem_toList_iff.2 (Array.mem_of_getElem? hs))

/-- `TagsOk` without a search of the symbol table for every arm: all its texts are identifiers, and the arms are swept
    once with a test for the symbols called `A2ML` -/
theorem tagsOk_of {e : Env} (hid : ∀ i, identOkB (symText e.symbols i) = true) {isA : Nat → Bool}
    (hA : ∀ i, symText e.symbols i = "A2ML".toList → isA i = true) (h : a2mlOkB e.table isA = true) : TagsOk e := by
  intro ty isB items arms ht hl a ha
  refine ⟨identOk_of_B (hid a.tag), fun hb hns htag => ?_⟩
  obtain ⟨en, hmem, hd⟩ := lookup_mem hl
  have h1 := List.all_eq_true.1 h en hmem
  rw [hd] at h1
  have h2 := List.all_eq_true.1 h1 a ha
  rw [hb, hA _ htag] at h2
  revert h2 hns
  cases e.table.lookup a.ty with
  | none => simp
  | some d => cases d <;> simp

theorem scalarTyOk_of_B {tbl : Table} {it : ItemTy} (h : scalarTyB tbl it = true) : ScalarTyOk tbl it := by
  cases it <;> simp only [scalarTyB] at h <;> simp only [ScalarTyOk]
  case enumRef ty =>
    split at h
    · rename_i items hl; exact ⟨items, hl⟩
    · cases h
  all_goals first | trivial | cases h

theorem elemTyOk_of_B {tbl : Table} {it : ItemTy} (h : elemTyB tbl it = true) : ElemTyOk tbl it := by
  rcases elemTyB_cases h with ⟨ty, sits, rfl, hl, hne, hall⟩ | hs
  · obtain ⟨it1, its, rfl⟩ := List.exists_cons_of_ne_nil hne
    exact ⟨it1, its, hl, scalarTyOk_of_B (hall it1 List.mem_cons_self)⟩
  · have hok := scalarTyOk_of_B hs
    cases it with
    | structRef ty => exact hok.elim
    | _ => exact hok

/-- what is assumed of the root type: a keyword without parameters whose tagged part is `rarms`; the arm with the version
    tag is the version keyword -/
structure RootOk (e : Env) (rarms : List Arm) : Prop where
  root : e.table.lookup e.known.tyA2lFile = some (.block false [] rarms true)
  verArm : ∀ a ∈ rarms, a.tag = e.known.tagAsap2Version → a.ty = e.known.tyAsap2Version

/-- the position of an arm's type if `pos_restrict` is a constant `n` (held in the code table as `100 + n`) -/
def constPos (code : List CodeEntry) (ty : Nat) : Option Nat :=
  match codeLookup code ty with
  | some (.block _ _ _ _ _ p) => if p = 0 ∨ p = 1 then none else some (p - 100)
  | _ => none

theorem posRestrict_const {code : List CodeEntry} {ty p : Nat} (h : constPos code ty = some p) (fields : List Val) :
    posRestrict code ty fields = some p := by
  unfold constPos at h
  unfold posRestrict
  split at h
  · rename_i a b c d f q hq
    rw [hq]
    dsimp only
    split at h
    · cases h
    · rename_i hne
      rw [if_neg (fun h0 => hne (.inl h0)), if_neg (fun h1 => hne (.inr h1))]
      exact h
  · cases h

/-- every root arm has a constant position, and a required block arm stands behind every keyword arm -/
def rootPosB (code : List CodeEntry) (rarms : List Arm) : Bool :=
  rarms.all (fun a => (constPos code a.ty).isSome) &&
  rarms.any (fun b => b.block && b.required &&
    rarms.all (fun a => a.block || decide ((constPos code a.ty).getD 0 < (constPos code b.ty).getD 0)))

end A2l.Tree
