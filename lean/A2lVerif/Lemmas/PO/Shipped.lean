import A2lVerif.Lemmas.PO.Hyps
import A2lVerif.Lemmas.PO.SeqOk
import A2lVerif.Props.C03Table
/-! # C02: the regenerated table of the shipped code satisfies the table hypotheses of Lemmas/PO/Hyps.lean and Lemmas/PO/SeqOk.lean
    (put together in `shipped_grammar_hypotheses`, Props/C02.lean, where the two remaining ones, `shipped_arrays_positive` and
    `shipped_root_positions`, are evaluated) -/
namespace A2l.Tree
open A2l.G

theorem shipped_seqTblOk : seqTblOk Shipped.table = true := by decide +kernel

/-- the characters of the symbol table, read off its literals by unification, a hundred at a time (`CharsOf.append`) -/
def symChars : { ls : List (List Char) // CharsOf symbols.toList ls [] } :=
  ⟨_, by
    unfold symbols
    dsimp only [List.toList_toArray]
    apply CharsOf.append
    · iterate 100 try apply CharsOf.cons (by with_reducible rfl)
      exact .nil
    apply CharsOf.append
    · iterate 100 try apply CharsOf.cons (by with_reducible rfl)
      exact .nil
    apply CharsOf.append
    · iterate 100 try apply CharsOf.cons (by with_reducible rfl)
      exact .nil
    apply CharsOf.append
    · iterate 100 try apply CharsOf.cons (by with_reducible rfl)
      exact .nil
    apply CharsOf.append
    · iterate 100 try apply CharsOf.cons (by with_reducible rfl)
      exact .nil
    repeat apply CharsOf.cons (by with_reducible rfl)
    exact .nil⟩

theorem symText_symbols (i : Nat) : symText symbols i = symChars.1[i]?.getD ['?'] := by
  unfold symText
  rw [← symChars.2.map_toList, List.getElem?_map, ← Array.getElem?_toList]
  cases symbols.toList[i]? with
  | none => exact toList_of_eq_ofList (s := "?") (l := ['?']) (by with_reducible rfl)
  | some s => rfl

/-- every text of the symbol table is an identifier `get_identifier` accepts (one sweep; nothing is looked up) -/
theorem shipped_symsIdent : symChars.1.all identOkB = true := by decide +kernel

def idxsOf {α} [BEq α] (l : List α) (x : α) : List Nat := (l.zipIdx.filter (·.1 == x)).map (·.2)

theorem mem_idxsOf {α} [BEq α] [LawfulBEq α] {l : List α} {x : α} {i : Nat} (h : l[i]? = some x) :
    (idxsOf l x).contains i = true := by
  rw [List.contains_iff_mem]
  exact List.mem_map.2 ⟨(x, i), List.mem_filter.2 ⟨List.mk_mem_zipIdx_iff_getElem?.2 h, beq_self_eq_true x⟩, rfl⟩

/-- The symbols called `A2ML` are found once, by a sweep over the symbol table; the arms are then tested by index. -/
theorem shipped_a2ml : a2mlOkB Shipped.table (idxsOf symChars.1 ['A', '2', 'M', 'L']).contains = true := by
  decide +kernel

theorem shipped_tagsOk {e : Env} (ht : e.table = Shipped.table) (hs : e.symbols = symbols) : TagsOk e := by
  refine tagsOk_of (identOk_symText fun s hs' => ?_) (fun i hi => ?_) (ht ▸ shipped_a2ml)
  · rw [hs] at hs'
    exact List.all_eq_true.1 shipped_symsIdent _ (symChars.2.map_toList ▸ List.mem_map_of_mem hs')
  · rw [hs, symText_symbols, toList_of_eq_ofList (s := "A2ML") (by with_reducible rfl)] at hi
    cases h : symChars.1[i]? with
    | none => rw [h] at hi; cases hi
    | some s => rw [h] at hi; exact mem_idxsOf (hi ▸ h)

def shippedRootArms : List Arm :=
  match Shipped.table.lookup shippedKnown.tyA2lFile with
  | some (.block _ _ arms _) => arms
  | _ => []

theorem shipped_root_lookup :
    Shipped.table.lookup shippedKnown.tyA2lFile = some (.block false [] shippedRootArms true) := by decide +kernel

theorem shipped_root_verArm : shippedRootArms.all (fun a =>
    a.tag != shippedKnown.tagAsap2Version || a.ty == shippedKnown.tyAsap2Version) = true := by decide +kernel

end A2l.Tree
