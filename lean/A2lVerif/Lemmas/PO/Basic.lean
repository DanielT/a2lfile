import A2lVerif.Lemmas.TreeSeg
/-! # C02 (content preservation): what a strict successful run of the parser says about the tokens it consumed -/
namespace A2l.Tree
open A2l.G A2l.Sc

structure Adv2 (s s' : PState) : Prop where
  pos : s.pos ≤ s'.pos
  seq : s.seqId ≤ s'.seqId
  ver : s'.ver = s.ver

theorem Adv2.refl (s : PState) : Adv2 s s := ⟨Nat.le_refl _, Nat.le_refl _, rfl⟩
theorem Adv2.trans {s s1 s2 : PState} (h1 : Adv2 s s1) (h2 : Adv2 s1 s2) : Adv2 s s2 :=
  ⟨Nat.le_trans h1.pos h2.pos, Nat.le_trans h1.seq h2.seq, by rw [h2.ver, h1.ver]⟩

/-- the input token `t` and the written token `w` are of the same kind and carry the same value:
    identifiers and comments the same text; `/begin`, `/end` the kind; strings the same unescaped value; numbers the
    same integer value and notation (`w` is what `add_integer` prints for what `get_integer` read) or the same
    float text (`w` is what the float codec made of `t`) -/
inductive TokSim (lx : LexEnv) : PTok → WTok → Prop
  | ident (t : PTok) (w : WTok) (h0 : t.ty = 0) (hw : w.ty = 0) (htext : w.text = t.text) : TokSim lx t w
  | begin_ (t : PTok) (w : WTok) (h0 : t.ty = 1) (hw : w.ty = 1) (htext : w.text = beginText) : TokSim lx t w
  | end_ (t : PTok) (w : WTok) (h0 : t.ty = 2) (hw : w.ty = 2) (htext : w.text = endText) : TokSim lx t w
  | str (t : PTok) (w : WTok) (str : List Char) (h0 : t.ty = 4) (hw : w.ty = 4)
      (hval : unescape (stripQuotes t.text) = .ok str) (htext : w.text = '"' :: (escape str ++ ['"'])) : TokSim lx t w
  | int (t : PTok) (w : WTok) (ity : IntTy) (v : Int) (hex : Bool) (h0 : t.ty = 5) (hw : w.ty = 5)
      (hval : parseInt ity t.text = some (v, hex)) (htext : w.text = printInt ity v hex) : TokSim lx t w
  | dbl (t : PTok) (w : WTok) (r : List Char) (h0 : t.ty = 5) (hw : w.ty = 5)
      (hval : t.fl = some r) (htext : w.text = r) : TokSim lx t w
  | cmt (t : PTok) (w : WTok) (h0 : t.ty = 6) (hw : w.ty = 6) (htext : w.text = t.text) : TokSim lx t w

theorem TokSim.ty_eq {lx : LexEnv} {t : PTok} {w : WTok} (h : TokSim lx t w) : w.ty = t.ty := by
  cases h <;> simp [*]

/-- `ts` with some comment tokens deleted corresponds token by token to `ws` -/
inductive TSim (lx : LexEnv) : List PTok → List WTok → Prop
  | nil : TSim lx [] []
  | skip (t : PTok) (ts : List PTok) (ws : List WTok) (h6 : t.ty = 6) (h : TSim lx ts ws) : TSim lx (t :: ts) ws
  | tok (t : PTok) (w : WTok) (ts : List PTok) (ws : List WTok) (h1 : TokSim lx t w) (h : TSim lx ts ws) :
      TSim lx (t :: ts) (w :: ws)

theorem TSim.seg_self {lx : LexEnv} (e : Env) (a : Nat) : TSim lx (seg e a a) [] := by
  rw [A2l.Tree.seg_self]; exact TSim.nil

theorem TSim.append {lx : LexEnv} {ts ts' : List PTok} {ws ws' : List WTok} (h1 : TSim lx ts ws) (h2 : TSim lx ts' ws') :
    TSim lx (ts ++ ts') (ws ++ ws') := by
  induction h1 with
  | nil => exact h2
  | skip t ts ws h6 _ ih => exact TSim.skip t _ _ h6 ih
  | tok t w ts ws h1 _ ih => exact TSim.tok t w _ _ h1 ih

theorem TSim.comments {lx : LexEnv} : ∀ (cs : List PTok), (∀ x ∈ cs, x.ty = 6) → TSim lx cs []
  | [], _ => TSim.nil
  | c :: cs, h => TSim.skip c cs [] (h c List.mem_cons_self) (TSim.comments cs (fun x hx => h x (List.mem_cons_of_mem _ hx)))

theorem TSim.single {lx : LexEnv} {t : PTok} {w : WTok} (h : TokSim lx t w) : TSim lx [t] [w] :=
  TSim.tok t w [] [] h TSim.nil

theorem TSim.one {lx : LexEnv} {cs : List PTok} {t : PTok} {w : WTok} (hc : ∀ x ∈ cs, x.ty = 6) (h : TokSim lx t w) :
    TSim lx (cs ++ [t]) [w] := by
  have := TSim.append (TSim.comments (lx := lx) cs hc) (TSim.single h)
  simpa using this

theorem attempt_eq_ok {α} {m : PM α} {e : Env} {s : PState} {r : Except Diag α} {s' : PState}
    (h : attempt m e s = .ok r s') : (∃ a, m e s = .ok a s' ∧ r = .ok a) ∨ (∃ d, m e s = .err d s' ∧ r = .error d) := by
  unfold attempt at h
  cases hm : m e s with
  | ok a s1 => rw [hm] at h; cases h; exact .inl ⟨a, rfl, rfl⟩
  | err d s1 => rw [hm] at h; cases h; exact .inr ⟨d, rfl, rfl⟩
  | panic => rw [hm] at h; cases h
  | fuel => rw [hm] at h; cases h

theorem errorOrLog_strict' {e : Env} (hst : e.strict = true) (k : DK) (s : PState) :
    errorOrLog k e s = .err ⟨k, s.lastLine⟩ s := by
  simp only [errorOrLog, getEnv_bind, hst, if_true]
  rfl

theorem errorOrLogNoLine_strict' {e : Env} (hst : e.strict = true) (k : DK) (s : PState) :
    errorOrLogNoLine k e s = .err ⟨k, 0⟩ s := by
  simp only [errorOrLogNoLine, getEnv_bind, hst, if_true]
  rfl

/-- `if p { error_or_log(k)? }; rest` succeeded in strict mode: `p` was false -/
theorem condE_ok {e : Env} (hst : e.strict = true) {β} {p : Prop} [Decidable p] {k : DK} {f : PUnit → PM β}
    {s : PState} {v : β} {s' : PState}
    (h : (if p then errorOrLog k >>= f else f ()) e s = .ok v s') : ¬ p ∧ f () e s = .ok v s' := by
  by_cases hp : p
  · rw [if_pos hp, bind_def, errorOrLog_strict' hst] at h; cases h
  · rw [if_neg hp] at h; exact ⟨hp, h⟩

theorem condE_ok' {e : Env} (hst : e.strict = true) {β} {p : Prop} [Decidable p] {k : DK} {f : PUnit → PM β}
    {s : PState} {v : β} {s' : PState}
    (h : ((if p then errorOrLog k else pure ()) >>= f) e s = .ok v s') : ¬ p ∧ f () e s = .ok v s' := by
  by_cases hp : p
  · rw [if_pos hp, bind_def, errorOrLog_strict' hst] at h; cases h
  · rw [if_neg hp] at h; exact ⟨hp, h⟩

/-- `if p { log_warning(k) }; rest`: only the log changes -/
theorem condW_ok {e : Env} {β} {p : Prop} [Decidable p] {k : DK} {f : PUnit → PM β}
    {s : PState} {v : β} {s' : PState}
    (h : (if p then logWarning k >>= f else f ()) e s = .ok v s') :
    ∃ l, f () e { s with log := l } = .ok v s' := by
  by_cases hp : p
  · rw [if_pos hp, bind_def, logWarning_eval] at h
    exact ⟨_, h⟩
  · rw [if_neg hp] at h; exact ⟨s.log, h⟩

theorem condF_ok {e : Env} {β} {p : Prop} [Decidable p] {k : DK} {f : PUnit → PM β}
    {s : PState} {v : β} {s' : PState}
    (h : (if p then (fail k : PM PUnit) >>= f else f ()) e s = .ok v s') : ¬ p ∧ f () e s = .ok v s' := by
  by_cases hp : p
  · rw [if_pos hp] at h; cases h
  · rw [if_neg hp] at h; exact ⟨hp, h⟩

theorem getLineOffset_some {e : Env} {s s' : PState} {n : Nat} (h : getLineOffset e s = .ok n s') :
    lineOffset? e.toks s.pos = some n := by
  rw [getLineOffset_eq] at h
  cases hl : lineOffset? e.toks s.pos with
  | none => rw [hl] at h; cases h
  | some m => rw [hl] at h; cases h; rfl

theorem OneTok.fwd {e : Env} {s s' : PState} {t : PTok} (h : OneTok e s t s') : Adv2 s s' :=
  ⟨Nat.le_of_lt h.pos, by rw [h.seq]; exact Nat.le_refl _, h.ver⟩

theorem OneTok.sim {e : Env} {s s' : PState} {t : PTok} (h : OneTok e s t s') {lx : LexEnv} {w : WTok}
    (hw : TokSim lx t w) : TSim lx (seg e s.pos s'.pos) [w] := by
  obtain ⟨cs, h1, h2⟩ := h.toks
  rw [h1]; exact TSim.one h2 hw

/-- in strict mode `get_string` does not take an identifier in the place of a string -/
theorem getString_strict {ctx : Ctx} {e : Env} (hst : e.strict = true) {s : PState} {str : List Char} {s' : PState}
    (h : getString ctx e s = .ok str s') :
    ∃ t, OneTok e s t s' ∧ t.ty = 4 ∧ unescape (stripQuotes t.text) = .ok str := by
  obtain ⟨t, o1, h4 | ⟨hns, -⟩⟩ := getString_ok h
  · exact ⟨t, o1, h4⟩
  · rw [hst] at hns; cases hns

theorem getStringMaxlen_strict {ctx : Ctx} {n : Nat} {e : Env} (hst : e.strict = true) {s : PState} {str : List Char}
    {s' : PState} (h : getStringMaxlen ctx n e s = .ok str s') :
    ∃ t, OneTok e s t s' ∧ t.ty = 4 ∧ unescape (stripQuotes t.text) = .ok str ∧ utf8Len str ≤ n := by
  obtain ⟨t, o1, h4 | ⟨hns, -⟩, hlen⟩ := getStringMaxlen_ok h
  · exact ⟨t, o1, h4.1, h4.2, hlen hst⟩
  · rw [hst] at hns; cases hns

theorem getInteger_err {ctx : Ctx} {w : Nat} {e : Env} {s : PState} {t : PTok} {s1 : PState}
    (h1 : expectToken ctx 5 e s = .ok t s1) (hp : parseInt (intTyOf w) t.text = none) :
    getInteger ctx w e s = .err ⟨.malformedNumber, s1.lastLine⟩ s1 := by
  unfold getInteger
  rw [bind_def, h1]
  simp only [hp]
  rfl

theorem parseEnum_ok {items : List EnumItem} {ctx : Ctx} {e : Env} (hst : e.strict = true) {s : PState}
    {name : List Char} {s' : PState} (h : parseEnum items ctx e s = .ok name s') :
    ∃ t it, OneTok e s t s' ∧ t.ty = 0 ∧ name = t.text ∧ IdentOk e.strict name ∧
      lookupEnumItem items t.sym = some it ∧ ¬ (it.vlo ≠ 0 ∧ s.ver < it.vlo) := by
  unfold parseEnum at h
  obtain ⟨nm, s1, h1, h2⟩ := bind_eq_ok h
  obtain ⟨t, o1, hty, hnm, hid⟩ := getIdentifier_ok h1
  simp only [getEnv_bind, getState_bind, o1.last] at h2
  cases hl : lookupEnumItem items t.sym with
  | none => rw [hl] at h2; cases h2
  | some it =>
    rw [hl] at h2
    dsimp only at h2
    obtain ⟨hp, h3⟩ := condE_ok hst (f := fun _ => (if it.vhi ≠ 0 ∧ s1.ver > it.vhi then
      logWarning .enumRefDeprecated >>= fun _ => pure nm else pure nm : PM (List Char))) h2
    obtain ⟨l, h4⟩ := condW_ok (f := fun _ => (pure nm : PM (List Char))) h3
    cases h4
    refine ⟨t, it, o1.withLog l, hty, hnm, hid, hl, ?_⟩
    rw [← o1.ver]; exact hp

theorem parseItem_int_err {fuel : Nat} {ctx : Ctx} {w : Nat} {e : Env} {s : PState} {t : PTok} {s1 : PState}
    (h1 : expectToken ctx 5 e s = .ok t s1) (hp : parseInt (intTyOf w) t.text = none) :
    parseItem (fuel + 1) ctx (.int w) e s = .err ⟨.malformedNumber, t.line⟩ s1 := by
  rw [parseItem, bind_def, getInteger_err h1 hp]
  obtain ⟨-, -, hl, -⟩ := expectToken_ok h1
  rw [hl]

/-! `NextRel` serves to derive `SeqStops` (what follows a sequence of identifiers in the WRITTEN stream) from what followed
it in the INPUT. -/

def nextNCp : List PTok → Option PTok
  | [] => none
  | t :: ts => if t.ty = 6 then nextNCp ts else some t

def NextRel (ts : List PTok) (rest : List WTok) : Prop :=
  match nextNCp ts, nextNC rest with
  | none, none => True
  | some t, some w => w.ty = t.ty ∧ (t.ty = 0 → w.text = t.text)
  | _, _ => False

theorem NextRel.of_sim {lx : LexEnv} {ts : List PTok} {ws : List WTok} (h : TSim lx ts ws) {ts' : List PTok}
    {rest : List WTok} (hr : NextRel ts' rest) : NextRel (ts ++ ts') (ws ++ rest) := by
  induction h with
  | nil => exact hr
  | skip t ts ws h6 _ ih =>
    unfold NextRel
    simp only [List.cons_append, nextNCp, h6, if_true]
    exact ih
  | tok t w ts ws h1 _ ih =>
    unfold NextRel
    have hty := h1.ty_eq
    by_cases h6 : t.ty = 6
    · have hw6 : w.ty = 6 := by rw [hty]; exact h6
      simp only [List.cons_append, nextNCp, nextNC, h6, hw6, if_true]
      exact ih
    · have hw6 : ¬ w.ty = 6 := by rw [hty]; exact h6
      simp only [List.cons_append, nextNCp, nextNC, h6, hw6, if_false]
      refine ⟨hty, fun h0 => ?_⟩
      cases h1 with
      | ident _ _ htext => exact htext
      | begin_ h0' _ _ => rw [h0] at h0'; cases h0'
      | end_ h0' _ _ => rw [h0] at h0'; cases h0'
      | str _ h0' _ _ _ => rw [h0] at h0'; cases h0'
      | int _ _ _ h0' _ _ _ => rw [h0] at h0'; cases h0'
      | dbl _ h0' _ _ _ => rw [h0] at h0'; cases h0'
      | cmt h0' _ _ => rw [h0] at h0'; cases h0'

theorem nextNCp_append_comments {cs : List PTok} (h : ∀ x ∈ cs, x.ty = 6) (ts : List PTok) :
    nextNCp (cs ++ ts) = nextNCp ts := by
  induction cs with
  | nil => rfl
  | cons c cs ih =>
    simp only [List.cons_append, nextNCp, h c List.mem_cons_self, if_true]
    exact ih (fun x hx => h x (List.mem_cons_of_mem _ hx))

theorem OneTok.nextNCp {e : Env} {s s' : PState} {t : PTok} (h : OneTok e s t s') :
    A2l.Tree.nextNCp (tailFrom e s.pos) = some t := by
  obtain ⟨cs, hc1, hc2⟩ := h.toks
  rw [tailFrom_seg e (Nat.le_of_lt h.pos), hc1, List.append_assoc, nextNCp_append_comments hc2]
  simp [A2l.Tree.nextNCp, h.nc]

theorem SkipTo.nextNCp {e : Env} {s s2 : PState} (h : SkipTo e s s2) :
    A2l.Tree.nextNCp (tailFrom e s.pos) = e.toks[s2.pos]? := by
  unfold tailFrom
  induction h with
  | @stop s h6 =>
    cases ht : e.toks[s.pos]? with
    | none => rw [List.drop_eq_nil_of_le (by simpa using ht)]; rfl
    | some t => rw [drop_eq_cons ht, A2l.Tree.nextNCp, if_neg (h6 t ht)]
  | cmt hc h6 _ ih => rw [drop_eq_cons hc, A2l.Tree.nextNCp, if_pos h6]; exact ih

/-- stated as `≠ .err`, not `= .ok`: behind the identifier `get_line_offset` may still panic -/
theorem parseItem_ident_not_err {e : Env} (fuel : Nat) (ctx : Ctx) (s : PState) (t : PTok)
    (hn : nextNCp (tailFrom e s.pos) = some t) (hty : t.ty = 0) (hid : IdentOk true t.text) (d : Diag) (s1 : PState) :
    parseItem (fuel + 1) ctx .ident e s ≠ .err d s1 := by
  obtain ⟨s2, hk, h1⟩ := expectToken_run (e := e) ctx 0 s
  rw [← hk.nextNCp, hn] at h1
  dsimp only at h1
  rw [if_neg (fun h => h hty)] at h1
  obtain ⟨c, cs', htext, hv⟩ := hid
  rw [parseItem, bind_def, getIdentifier_valid h1 htext (hv rfl).1 (hv rfl).2]
  dsimp only
  rcases getLineOffset_cases e (s2.step t) with hp | ⟨n, hp⟩
  · rw [bind_def, hp]; intro h; cases h
  · rw [bind_def, hp]; intro h; cases h

end A2l.Tree
