import A2lVerif.Lemmas.PO.Wf
/-! # C02: what the writer's offset fix-up (`OT.fixL`) does not change

The well-formedness predicates do not look at the line offsets the writer bumps; `OT.fixL` is the identity where nothing has
to be bumped (`fixL_of_noBump`); kind and text of the written tokens (`wkey`) stay as they are (`keys_fixL`). -/
namespace A2l.Tree
open A2l.G A2l.Sc

theorem filter_isArm_fixL (j : Nat) : ∀ (xs : List OT) (alc : Bool),
    ((OT.fixL alc xs).filter (OT.isArm j)).length = (xs.filter (OT.isArm j)).length
  | [], _ => by simp [OT.fixL]
  | .cmt text off :: rest, alc => by
    simp only [OT.fixL, List.filter_cons, OT.isArm, Bool.false_eq_true, if_false]
    exact filter_isArm_fixL j rest _
  | .node arm tag blk ty so eo fields items :: rest, alc => by
    simp only [OT.fixL]
    by_cases hh : (arm == j) = true
    · rw [List.filter_cons_of_pos (by simpa [OT.isArm] using hh), List.filter_cons_of_pos (by simpa [OT.isArm] using hh)]
      simp only [List.length_cons, filter_isArm_fixL j rest false]
    · rw [List.filter_cons_of_neg (by simpa [OT.isArm] using hh), List.filter_cons_of_neg (by simpa [OT.isArm] using hh)]
      exact filter_isArm_fixL j rest false

theorem multOk_fixL {st : Bool} {arms : List Arm} {xs : List OT} (alc : Bool) (h : MultOk st arms xs) :
    MultOk st arms (OT.fixL alc xs) := by
  intro j a ha
  rw [filter_isArm_fixL]
  exact h j a ha

theorem map_pos_fixL (code : List CodeEntry) : ∀ (xs : List OT) (alc : Bool),
    (OT.fixL alc xs).map (OT.pos code) = xs.map (OT.pos code)
  | [], _ => by simp [OT.fixL]
  | .cmt text off :: rest, alc => by
    simp only [OT.fixL, List.map_cons, OT.pos, map_pos_fixL code rest]
  | .node arm tag blk ty so eo fields items :: rest, alc => by
    simp only [OT.fixL, List.map_cons, OT.pos, map_pos_fixL code rest]

theorem posSorted_iff_map (code : List CodeEntry) (l : List OT) :
    PosSorted code l ↔ ((l.map (OT.pos code)).filter Option.isSome).Pairwise (fun a b => a.getD 0 ≤ b.getD 0) := by
  unfold PosSorted
  rw [List.filter_map, List.pairwise_map]
  rfl

theorem posSorted_fixL {code : List CodeEntry} {xs : List OT} (alc : Bool) (h : PosSorted code xs) :
    PosSorted code (OT.fixL alc xs) := by
  rw [posSorted_iff_map] at h ⊢
  rw [map_pos_fixL]; exact h

theorem wfL_fixL (c : RCfg) : ∀ (xs : List OT) (alc : Bool) (parms : List Arm) (pib : Bool),
    OT.wfL c parms pib xs → OT.wfL c parms pib (OT.fixL alc xs) := by
  refine OT.listInduct (fun _ _ _ _ => by simp [OT.fixL, OT.wfL]) ?_ ?_
  · intro text off rest ih alc parms pib h
    simp only [OT.wfL, OT.wf] at h
    simp only [OT.fixL, OT.wfL, OT.wf]
    exact ⟨h.1, ih _ parms pib h.2⟩
  · intro arm tag blk ty so eo fields items rest ihI ihR alc parms pib h
    simp only [OT.wfL] at h
    obtain ⟨hn, hr⟩ := h
    simp only [OT.wf] at hn
    obtain ⟨a, its, arms, ht, h1, h2, h3, h4, h5, h6, h7, h8, h9, h10, h11, h12, h13, h14⟩ := hn
    simp only [OT.fixL, OT.wfL]
    refine ⟨?_, ihR false parms pib hr⟩
    simp only [OT.wf]
    refine ⟨a, its, arms, ht, h1, h2, h3, h4, h5, h6,
      (fun hb => ⟨by rw [hb, fixEo_kw]; exact (h7 hb).1, (h7 hb).2⟩), h8, h9, h10, h11, ?_, ihI false arms blk h13,
      multOk_fixL false h14⟩
    intro hht; rw [h12 hht]; simp [OT.fixL]

theorem wf_fix_items (c : RCfg) : ∀ (o : OT) (arms : List Arm) (blk : Bool), OT.wfL c arms blk o.itemsOf →
    OT.wfL c arms blk (OT.fixL false o.itemsOf) :=
  fun o arms blk h => wfL_fixL c o.itemsOf false arms blk h

theorem posDeepL_fixL (code : List CodeEntry) : ∀ (xs : List OT) (alc : Bool), OT.posDeepL code xs →
    OT.posDeepL code (OT.fixL alc xs) := by
  refine OT.listInduct (fun _ _ => by simp [OT.fixL, OT.posDeepL]) ?_ ?_
  · intro text off rest ih alc h
    simp only [OT.posDeepL, OT.posDeep] at h
    simp only [OT.fixL, OT.posDeepL, OT.posDeep]
    exact ⟨trivial, ih _ h.2⟩
  · intro arm tag blk ty so eo fields items rest ihI ihR alc h
    simp only [OT.posDeepL, OT.posDeep] at h
    simp only [OT.fixL, OT.posDeepL, OT.posDeep]
    exact ⟨⟨posSorted_fixL false h.1.1, ihI false h.1.2⟩, ihR false h.2⟩

theorem posDeep_fix_items (code : List CodeEntry) : ∀ (o : OT), OT.posDeepL code o.itemsOf →
    OT.posDeepL code (OT.fixL false o.itemsOf) :=
  fun o h => posDeepL_fixL code o.itemsOf false h

/-- every item that stands directly behind a line comment has a line break in front of it (`alc` = the item in front of
    the list is a line comment) -/
def OT.noBumpL : Bool → List OT → Prop
  | _, [] => True
  | alc, .cmt text off :: rest => (alc = true → 1 ≤ off) ∧ OT.noBumpL (isLineCommentText text) rest
  | alc, .node _ _ _ _ so _ _ items :: rest => (alc = true → 1 ≤ so) ∧ OT.noBumpL false items ∧ OT.noBumpL false rest

theorem bumpOff_eq {alc : Bool} {off : Nat} (h : alc = true → 1 ≤ off) : bumpOff alc off = off := by
  unfold bumpOff
  split
  · rename_i hh; have := h hh.1; omega
  · rfl

/-- the end offset of a loaded element is the one the writer uses: behind a `//` comment as last item the parser
    recorded an offset ≥ 1 (`OT.endOk`: the `/end` token stood on a later line), and otherwise the writer's
    `ends_in_line_comment` says "no" (`endsLC_fixL`: it is exact on lexable content) -/
theorem fixEo_of_endOk (blk : Bool) (eo : Nat) (fields : List Val) (items : List OT) (hf : ∀ f ∈ fields, FieldLex f)
    (hw : OT.lexWL items)
    (he : blk = true → ∀ text off, items.getLast? = some (.cmt text off) → isLineCmt text = true → 1 ≤ eo) :
    OT.fixEo blk eo fields (OT.fixL false items) = eo := by
  cases hl : OT.lastLC items with
  | false => exact fixEo_of_not_last_cmt blk eo fields items hf hw hl
  | true =>
    cases blk with
    | false => exact fixEo_kw
    | true =>
      unfold OT.lastLC at hl
      cases hg : items.getLast? with
      | none => rw [hg] at hl; cases hl
      | some x =>
        rw [hg] at hl
        cases x with
        | node _ _ _ _ _ _ _ _ => cases hl
        | cmt text off => exact fixEo_of_pos (he rfl text off hg hl)

/-- no start offset is bumped (`OT.noBumpL`), and no end offset either
    (`fixEo_of_endOk`, for lexable items whose trailing line comments have a line break in front of `/end`) -/
theorem fixL_of_noBump : ∀ (xs : List OT) (alc : Bool), OT.noBumpL alc xs → OT.lexWL xs → OT.endOkL xs →
    OT.fixL alc xs = xs := by
  refine OT.listInduct (fun _ _ _ _ => by simp [OT.fixL]) ?_ ?_
  · intro text off rest ih alc h hw he
    simp only [OT.noBumpL] at h
    simp only [OT.lexWL] at hw
    simp only [OT.endOkL] at he
    simp only [OT.fixL, bumpOff_eq h.1, ih _ h.2 hw.2 he.2]
  · intro arm tag blk ty so eo fields items rest ihI ihR alc h hw he
    simp only [OT.noBumpL] at h
    simp only [OT.lexWL, OT.lexW] at hw
    simp only [OT.endOkL, OT.endOk] at he
    have h1 := ihI false h.2.1 hw.1.2.2.2.1 he.1.2
    have h2 := fixEo_of_endOk blk eo fields items hw.1.2.2.1 hw.1.2.2.2.1 he.1.1
    rw [h1] at h2
    simp only [OT.fixL, bumpOff_eq h.1, h1, ihR false h.2.2 hw.2 he.2, h2]

theorem fix_noBump_items : ∀ (o : OT), OT.noBumpL false o.itemsOf → OT.lexWL o.itemsOf → OT.endOkL o.itemsOf →
    OT.fixL false o.itemsOf = o.itemsOf :=
  fun o h hw he => fixL_of_noBump o.itemsOf false h hw he

def OT.isBlk : OT → Bool
  | .node _ _ blk _ _ _ _ _ => blk
  | .cmt _ _ => false

/-- the last item is a block (`/begin … /end`): the file does not end in a keyword parameter -/
def LastIsBlock (items : List OT) : Prop := ∀ o, items.getLast? = some o → o.isBlk = true

theorem toks_ne_nil (o : OT) (ind : Nat) : o.toks ind ≠ [] := by
  obtain ⟨w, rest, h, -⟩ := toks_head_off o ind
  rw [h]; exact List.cons_ne_nil _ _

theorem toksL_ne_nil {xs : List OT} (h : xs ≠ []) (ind : Nat) : OT.toksL ind xs ≠ [] := by
  cases xs with
  | nil => exact absurd rfl h
  | cons x xs =>
    simp only [OT.toksL]
    intro h0
    exact toks_ne_nil x ind (List.append_eq_nil_iff.1 h0).1

theorem kwNextL_of_lastIsBlock (ind : Nat) : ∀ (xs : List OT), LastIsBlock xs → OT.kwNextL ind xs []
  | [], _ => trivial
  | [x], h => by
    refine ⟨?_, trivial⟩
    cases x with
    | cmt _ _ => trivial
    | node _ _ blk _ _ _ _ _ => intro hb; have : blk = true := h _ rfl; rw [hb] at this; cases this
  | x :: y :: ys, h => by
    refine ⟨?_, kwNextL_of_lastIsBlock ind (y :: ys) fun o ho => h o (by rw [List.getLast?_cons_cons]; exact ho)⟩
    cases x with
    | cmt _ _ => trivial
    | node _ _ _ _ _ _ _ _ => exact fun _ => by rw [List.append_nil]; exact toksL_ne_nil (List.cons_ne_nil _ _) ind

def wkey (w : WTok) : Nat × List Char := (w.ty, w.text)

theorem headToks_key (ind : Nat) (tag : List Char) (blk : Bool) (so so' : Nat) :
    (headToks ind tag blk so).map wkey = (headToks ind tag blk so').map wkey := by
  cases blk <;> simp [headToks, wkey]

theorem closeToks_key (ind : Nat) (tag : List Char) (blk : Bool) (eo eo' : Nat) :
    (closeToks ind tag blk eo).map wkey = (closeToks ind tag blk eo').map wkey := by
  cases blk <;> simp [closeToks, wkey]

theorem keys_fixL : ∀ (xs : List OT) (alc : Bool) (ind : Nat),
    (OT.toksL ind (OT.fixL alc xs)).map wkey = (OT.toksL ind xs).map wkey := by
  refine OT.listInduct (fun _ _ => by simp [OT.fixL]) ?_ ?_
  · intro text off rest ih alc ind
    simp only [OT.fixL, OT.toksL, OT.toks, List.map_append, List.map_cons, List.map_nil, ih _ ind, wkey]
  · intro arm tag blk ty so eo fields items rest ihI ihR alc ind
    simp only [OT.fixL, OT.toksL, OT.toks, List.map_append, ihR false ind, ihI false (ind + 1),
      headToks_key ind tag blk (bumpOff alc so) so,
      closeToks_key ind tag blk (OT.fixEo blk eo fields (OT.fixL false items)) eo]

theorem keys_fix_items : ∀ (o : OT) (ind : Nat),
    (OT.toksL ind (OT.fixL false o.itemsOf)).map wkey = (OT.toksL ind o.itemsOf).map wkey :=
  fun o ind => keys_fixL o.itemsOf false ind

end A2l.Tree
