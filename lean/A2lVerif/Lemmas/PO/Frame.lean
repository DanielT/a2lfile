import A2lVerif.Lemmas.PMItems
import A2lVerif.Lemmas.TableShape
/-! # C02: ids are only consumed and the file version stays, also when an element parser fails

Needed where the state after a failed attempt is kept (apart from the cursor): the greedy sequence loop, and
`get_next_tag_or_comment` in front of what is no tag. -/
namespace A2l.Tree
open A2l.G A2l.Sc

def Framed {α} (m : PM α) (e : Env) : Prop :=
  ∀ s, match m e s with
    | .ok _ s1 => s.seqId ≤ s1.seqId ∧ s1.ver = s.ver
    | .err _ s1 => s.seqId ≤ s1.seqId ∧ s1.ver = s.ver
    | _ => True

theorem Framed.ok {α} {m : PM α} {e : Env} (h : Framed m e) {s : PState} {a : α} {s1 : PState} (h1 : m e s = .ok a s1) :
    s.seqId ≤ s1.seqId ∧ s1.ver = s.ver := by
  have := h s; rw [h1] at this; exact this

theorem Framed.err {α} {m : PM α} {e : Env} (h : Framed m e) {s : PState} {d : Diag} {s1 : PState}
    (h1 : m e s = .err d s1) : s.seqId ≤ s1.seqId ∧ s1.ver = s.ver := by
  have := h s; rw [h1] at this; exact this

theorem Framed.pure {α} (a : α) (e : Env) : Framed (Pure.pure a : PM α) e := fun _ => ⟨Nat.le_refl _, rfl⟩
theorem Framed.fail {α} (k : DK) (e : Env) : Framed (A2l.Tree.fail k : PM α) e := fun _ => ⟨Nat.le_refl _, rfl⟩
theorem Framed.panic {α} (e : Env) : Framed (A2l.Tree.panic : PM α) e := fun _ => trivial
theorem Framed.outOfFuel {α} (e : Env) : Framed (A2l.Tree.outOfFuel : PM α) e := fun _ => trivial

theorem Framed.bind {α β} {m : PM α} {f : α → PM β} {e : Env} (h1 : Framed m e) (h2 : ∀ a, Framed (f a) e) :
    Framed (m >>= f) e := by
  intro s
  rw [bind_def]
  have a1 := h1 s
  cases hm : m e s with
  | ok a s1 =>
    rw [hm] at a1
    dsimp only
    have a2 := h2 a s1
    cases hf : f a e s1 with
    | ok b s2 => rw [hf] at a2; exact ⟨Nat.le_trans a1.1 a2.1, by rw [a2.2, a1.2]⟩
    | err d s2 => rw [hf] at a2; exact ⟨Nat.le_trans a1.1 a2.1, by rw [a2.2, a1.2]⟩
    | panic => trivial
    | fuel => trivial
  | err d s1 => rw [hm] at a1; exact a1
  | panic => trivial
  | fuel => trivial

theorem Framed.attempt {α} {m : PM α} {e : Env} (h : Framed m e) : Framed (A2l.Tree.attempt m) e := by
  intro s
  unfold A2l.Tree.attempt
  have a1 := h s
  cases hm : m e s with
  | ok a s1 => rw [hm] at a1; exact a1
  | err d s1 => rw [hm] at a1; exact a1
  | panic => trivial
  | fuel => trivial

theorem Framed.getEnv_bind {β} {f : Env → PM β} {e : Env} (h : Framed (f e) e) : Framed (getEnv >>= f) e := h
theorem Framed.getState_bind {β} {f : PState → PM β} {e : Env} (h : ∀ s0, Framed (f s0) e) : Framed (getState >>= f) e :=
  fun s => h s s
theorem Framed.peekToken_bind {β} {f : Option PTok → PM β} {e : Env} (h : ∀ o, Framed (f o) e) :
    Framed (peekToken >>= f) e := fun s => h _ s
theorem Framed.getTokenpos_bind {β} {f : Nat → PM β} {e : Env} (h : ∀ p, Framed (f p) e) :
    Framed (getTokenpos >>= f) e := fun s => h _ s

theorem Framed.modify {g : PState → PState} (e : Env) (hg : ∀ s, s.seqId ≤ (g s).seqId ∧ (g s).ver = s.ver) :
    Framed (modifyState g) e := fun s => hg s

theorem Framed.setTokenpos (p : Nat) (e : Env) : Framed (setTokenpos p) e :=
  Framed.modify e (fun _ => ⟨Nat.le_refl _, rfl⟩)

theorem Framed.getNextId (e : Env) : Framed getNextId e := fun _ => ⟨Nat.le_succ _, rfl⟩

theorem Framed.getToken (ctx : Ctx) (e : Env) : Framed (getToken ctx) e := by
  intro s
  rw [getToken_eval]
  cases e.toks[s.pos]? <;> exact ⟨Nat.le_refl _, rfl⟩

theorem Framed.logWarning (k : DK) (e : Env) : Framed (logWarning k) e := fun _ => ⟨Nat.le_refl _, rfl⟩

theorem Framed.errorOrLog (k : DK) (e : Env) : Framed (errorOrLog k) e := by
  intro s
  have h : A2l.Tree.errorOrLog k e s =
      (if e.strict = true then A2l.Tree.fail k else A2l.Tree.logWarning k : PM Unit) e s := rfl
  rw [h]
  cases e.strict
  · exact ⟨Nat.le_refl _, rfl⟩
  · exact ⟨Nat.le_refl _, rfl⟩

theorem Framed.getLineOffset (e : Env) : Framed getLineOffset e := by
  intro s
  rcases getLineOffset_cases e s with h | ⟨n, h⟩
  · rw [h]; trivial
  · rw [h]; exact ⟨Nat.le_refl _, rfl⟩

theorem Framed.rules (e : Env) : PMRulesLog e (fun m => Framed m e) where
  pure := fun a => Framed.pure a e
  fail := fun k => Framed.fail k e
  panic := Framed.panic e
  outOfFuel := Framed.outOfFuel e
  bind := Framed.bind
  getEnv_bind := fun _ => Framed.getEnv_bind
  getTokenpos_bind := Framed.getTokenpos_bind
  peekToken_bind := Framed.peekToken_bind
  getToken := fun ctx => Framed.getToken ctx e
  getLineOffset := Framed.getLineOffset e
  setTokenpos := fun p => Framed.setTokenpos p e
  errorOrLog := fun _ => Framed.errorOrLog _ e

theorem Framed.expectToken (ctx : Ctx) (ty : Nat) (e : Env) : Framed (expectToken ctx ty) e :=
  (Framed.rules e).expectToken ctx ty

theorem scalarItem_of_B {tbl : Table} {it : ItemTy} (h : scalarTyB tbl it = true) : scalarItem it = true := by
  cases it <;> first | rfl | cases h

theorem Framed.parseItem_elem (e : Env) (fuel : Nat) (ctx : Ctx) (it : ItemTy) (hit : elemTyB e.table it = true) :
    Framed (parseItem fuel ctx it) e := by
  have H := Framed.rules e
  have scalar : ∀ fuel ctx it, scalarTyB e.table it = true → Framed (parseItem fuel ctx it) e := fun fuel ctx it h =>
    H.parseItem_scalar Framed.getState_bind (Framed.logWarning _ e) fuel ctx it (scalarItem_of_B h)
  rcases elemTyB_cases hit with ⟨ty, sits, rfl, hl, -, hall⟩ | hs
  · cases fuel with
    | zero => rw [parseItem]; exact Framed.outOfFuel e
    | succ fuel =>
      rw [parseItem]
      exact H.parseType_plain (Framed.getNextId e) hl
        (fun fuel ctx => H.parseItems fuel ctx sits fun it hit fuel ctx => scalar fuel ctx it (hall it hit)) fuel ctx 0
  · exact scalar fuel ctx it hs

end A2l.Tree
