import A2lVerif.Lemmas.PO.Sib
import A2lVerif.Lemmas.PO.Wf
import A2lVerif.Lemmas.RT.LoopInv
/-! # C02: the invariant of the tagged loop on arbitrary input

`LoopInv` of Lemmas/RT/LoopInv.lean with the canonical relation of the sub-elements made conditional on the position
order of their items (`OT.posAll`): the parser builds values whose position-restricted items may be out of order
(finding `reserved-order`), `Canon` then holds for the sorted list only. -/
namespace A2l.Tree
open A2l.G A2l.Sc

theorem OT.posAll_of_mem {code : List CodeEntry} {P : List OT} (h : OT.posDeepL code P) {x : OT} (hx : x ∈ P)
    (hc : x.isCmt = false) : OT.posAll code (OT.itemsOf x) := by
  have := OT.posDeepL_mem code P h x hx
  cases x with
  | cmt _ _ => simp [OT.isCmt] at hc
  | node _ _ _ _ _ _ _ items => simpa [OT.posDeep, OT.posAll, OT.itemsOf] using this

/-- what is known after the items `P` of a tagged part have been read: `ch` / `sub` / `cm` = accumulated children,
    their own ordered items, comments (newest first); `R` = the group entries of `P` with their keys (uid, line) -/
structure LInv (e : Env) (arms : List Arm) (P : List OT) (ch : List (List Val)) (sub : List (List (List OT)))
    (cm : List Cmt) (R : List GE) (q : Nat) : Prop where
  len1 : ch.length = arms.length
  len2 : sub.length = ch.length
  par : ∀ (i : Nat) (cs : List Val) (ss : List (List OT)), ch[i]? = some cs → sub[i]? = some ss → ss.length = cs.length
  perm : (gesFrom e.symbols 0 arms ch sub ++ cm.reverse.map cmtGE).Perm R
  rot : R.map (·.ot) = P
  sorted : R.Pairwise (fun a b => a.uid < b.uid)
  bound : ∀ g ∈ R, 0 < g.uid ∧ g.uid ≤ q
  canon : ∀ (i j : Nat) (cs : List Val) (ss : List (List OT)) (v : Val) (o : List OT),
    ch[i]? = some cs → sub[i]? = some ss → cs[j]? = some v → ss[j]? = some o → OT.posAll e.code o → Canon e v o
  /-- every child is in canonical relation to SOME reordering of the siblings below it -/
  sib : ∀ (i j : Nat) (cs : List Val) (ss : List (List OT)) (v : Val) (o : List OT),
    ch[i]? = some cs → sub[i]? = some ss → cs[j]? = some v → ss[j]? = some o → ∃ o', OT.SibPL e.code o o' ∧ Canon e v o'
  inP : ∀ (i j : Nat) (ss : List (List OT)) (o : List OT), sub[i]? = some ss → ss[j]? = some o →
    ∃ x ∈ P, x.isCmt = false ∧ OT.itemsOf x = o
  blk : ∀ cs ∈ ch, ∀ v ∈ cs, Val.isBlock v = true
  cnt : ∀ (i : Nat) (cs : List Val), ch[i]? = some cs → cs.length = (P.filter (OT.isArm i)).length
  cmi : ∀ x ∈ cm, x.included = false
  arm : ∀ (k : Nat) (a : Arm) (cs : List Val) (ss : List (List OT)), arms[k]? = some a → ch[k]? = some cs →
    sub[k]? = some ss → (gesArm e.symbols k a cs ss).map (·.ot) = P.filter (OT.isArm k)
  cmo : cm.reverse.map (fun x => OT.cmt x.text x.startOff) = P.filter OT.isCmt
  ord : ∀ (i j : Nat) (cs : List Val) (ss : List (List OT)) (v : Val) (o : List OT),
    ch[i]? = some cs → sub[i]? = some ss → cs[j]? = some v → ss[j]? = some o → InOrder e v o

theorem LInv.init (e : Env) (arms : List Arm) (q : Nat) :
    LInv e arms [] (arms.map fun _ => []) (arms.map fun _ => []) [] [] q :=
  { LoopCore.init e arms q with
    canon := fun i j cs ss v o h1 _ h3 _ => by rw [getElem?_map_nil h1] at h3; cases h3
    sib := fun i j cs ss v o h1 _ h3 _ => by rw [getElem?_map_nil h1] at h3; cases h3
    inP := fun i j ss o h1 h2 => by rw [getElem?_map_nil h1] at h2; cases h2 }

variable {e : Env} {arms : List Arm} {P : List OT} {ch : List (List Val)} {sub : List (List (List OT))} {cm : List Cmt}
  {R : List GE} {q : Nat}

theorem LInv.core (h : LInv e arms P ch sub cm R q) : LoopCore e arms P ch sub cm R q := { h with }

theorem LInv.mono {q' : Nat} (h : LInv e arms P ch sub cm R q) (hq : q ≤ q') : LInv e arms P ch sub cm R q' :=
  { h with bound := fun g hg => ⟨(h.bound g hg).1, Nat.le_trans (h.bound g hg).2 hq⟩ }

theorem LInv.cmtStep (h : LInv e arms P ch sub cm R q) (text : List Char) (line off : Nat) :
    LInv e arms (P ++ [.cmt text off]) ch sub (⟨text, line, q + 1, off, false⟩ :: cm)
      (R ++ [⟨q + 1, line, .cmt text off⟩]) (q + 1) :=
  { h.core.cmtStep text line off with
    canon := h.canon
    sib := h.sib
    inP := fun i j ss o h1 h2 =>
      let ⟨x, hx, h3⟩ := h.inP i j ss o h1 h2
      ⟨x, List.mem_append_left _ hx, h3⟩ }

theorem LInv.childStep {q' : Nat} (h : LInv e arms P ch sub cm R q) {i : Nat} {a : Arm}
    (ha : arms[i]? = some a) {cty : Nat} {cinfo : Info} {cfields : List Val} {cch : List (List Val)} {ccm : List Cmt}
    {its : List OT} (hcanon : OT.posAll e.code its → Canon e (.block cty cinfo cfields cch ccm) its)
    (hsib : ∃ its', OT.SibPL e.code its its' ∧ Canon e (.block cty cinfo cfields cch ccm) its')
    (hord : InOrder e (.block cty cinfo cfields cch ccm) its) (hu1 : q < cinfo.uid)
    (hu2 : cinfo.uid ≤ q') :
    LInv e arms
      (P ++ [.node i (symText e.symbols a.tag) a.block cty cinfo.startOff cinfo.endOff (cfields.map normField) its])
      (setAt ch i (· ++ [.block cty cinfo cfields cch ccm])) (setAt sub i (· ++ [its])) cm
      (R ++ [⟨cinfo.uid, cinfo.line,
        .node i (symText e.symbols a.tag) a.block cty cinfo.startOff cinfo.endOff (cfields.map normField) its⟩]) q' :=
  { h.core.childStep ha hord hu1 hu2 with
    canon := LoopCore.childRel i h.par h.canon hcanon
    sib := LoopCore.childRel i h.par h.sib hsib
    -- `sub` against itself: the relation only looks at the items
    inP := fun j k ss o h2 h4 =>
      LoopCore.childRel (Q := fun (_ : List OT) o => ∃ x ∈ (_ : List OT), x.isCmt = false ∧ OT.itemsOf x = o) i
        (fun _ _ _ h1 h1' => by rw [h1] at h1'; cases h1'; rfl)
        (fun j k ss ss' o o' h1 h1' h2 h2' => by
          rw [h1] at h1'; cases h1'
          rw [h2] at h2'; cases h2'
          obtain ⟨x, hx, h3⟩ := h.inP j k ss o h1 h2
          exact ⟨x, List.mem_append_left _ hx, h3⟩)
        ⟨_, List.mem_append_right _ List.mem_cons_self, rfl, rfl⟩ j k ss ss o o h2 h2 h4 h4 }

theorem LInv.toCanon {items : List OT} (h : LInv e arms items ch sub cm R q)
    {ty : Nat} {isB : Bool} {its : List ItemTy} (hl : e.table.lookup ty = some (.block isB its arms true))
    (hpa : OT.posAll e.code items) (info : Info) (fields : List Val) (hfs : ∀ f ∈ fields, FieldShape f) :
    Canon e (.block ty info fields ch cm.reverse) items := by
  have hcan : ∀ (i j : Nat) (cs : List Val) (ss : List (List OT)) (v : Val) (o : List OT),
      ch[i]? = some cs → sub[i]? = some ss → cs[j]? = some v → ss[j]? = some o → Canon e v o := by
    intro i j cs ss v o h1 h2 h3 h4
    obtain ⟨x, hx, hc, rfl⟩ := h.inP i j ss o h2 h4
    exact h.canon i j cs ss v _ h1 h2 h3 h4 (OT.posAll_of_mem hpa.2 hx hc)
  have hc := Canon.mk (e := e) (info := info) (fields := fields) (comments := cm.reverse) hl sub (fun _ => h.len1)
    h.len2 h.par hcan h.blk (by intro x hx; exact h.cmi x (List.mem_reverse.1 hx)) hfs
  rwa [sortGE_of_perm_uid h.perm h.sorted (fun g hg => (h.bound g hg).1) (h.rot ▸ hpa.1), h.rot] at hc

/-- without position order: `items'` is the order `sortGE` gives the items read — sorting by key restores the input
    order, `apply_position_restrictions` refills the restricted slots, so only position-restricted items change places -/
theorem LInv.toSibCanon {items : List OT} (h : LInv e arms items ch sub cm R q)
    {ty : Nat} {isB : Bool} {its : List ItemTy} (hl : e.table.lookup ty = some (.block isB its arms true))
    (info : Info) (fields : List Val) (hfs : ∀ f ∈ fields, FieldShape f) :
    ∃ items', OT.SibPL e.code items items' ∧ Canon e (.block ty info fields ch cm.reverse) items' := by
  obtain ⟨sub', s1, s2, s3, s4⟩ := exists_canon_sub e ch sub h.len2 h.par h.sib
  have hc := Canon.mk (e := e) (info := info) (fields := fields) (comments := cm.reverse) hl sub' (fun _ => h.len1)
    s1 s2 s3 h.blk (by intro x hx; exact h.cmi x (List.mem_reverse.1 hx)) hfs
  simp only [if_true] at hc
  refine ⟨_, ?_, hc⟩
  have hall : All2 (GERel e.code) (gesFrom e.symbols 0 arms ch sub ++ cm.reverse.map cmtGE)
      (gesFrom e.symbols 0 arms ch sub' ++ cm.reverse.map cmtGE) :=
    (s4 0 arms).append (All2.refl (GERel.refl e.code) _)
  obtain ⟨R', hp', hR'⟩ := All2.perm_transport h.perm hall
  have huid : R'.map (·.uid) = R.map (·.uid) := GERel.uids hR'
  have hsorted' : R'.Pairwise (fun a b => a.uid < b.uid) := by
    have : (R'.map (·.uid)).Pairwise (· < ·) := by rw [huid]; exact List.pairwise_map.2 h.sorted
    exact List.pairwise_map.1 this
  have hpos' : ∀ g ∈ R', 0 < g.uid := by
    intro g hg
    have : g.uid ∈ R.map (·.uid) := by rw [← huid]; exact List.mem_map_of_mem hg
    obtain ⟨g0, hg0, he⟩ := List.mem_map.1 this
    rw [← he]; exact (h.bound g0 hg0).1
  have hsort : sortGE e.code (gesFrom e.symbols 0 arms ch sub' ++ cm.reverse.map cmtGE) =
      applyPosG (fun g => g.ot.pos e.code) R' := by
    unfold sortGE
    rw [mergeSort_of_perm_uid hp' hsorted' hpos']
  rw [hsort, ← applyPosG_map (fun g : GE => g.ot) (fun g => g.ot.pos e.code) (OT.pos e.code) (fun _ => rfl)]
  refine .trans _ (R'.map (·.ot)) _ ?_ (applyPosG_sibP e.code _)
  rw [← h.rot]
  exact OT.SibPL.of_all (hR'.map _ _ (fun _ _ hab => hab.2.2))

theorem LInv.toInOrder {items : List OT} (h : LInv e arms items ch sub cm R q)
    {ty : Nat} {isB : Bool} {its : List ItemTy} (hl : e.table.lookup ty = some (.block isB its arms true))
    (info : Info) (hfid : info.fileid = 0) (fields : List Val) :
    InOrder e (.block ty info fields ch cm.reverse) items :=
  InOrder.mk hl sub (fun _ => h.len1) h.len2 h.par (fun _ => h.arm) (fun _ => h.cmo) h.blk
    (by intro x hx; exact h.cmi x (List.mem_reverse.1 hx)) (by intro h0; cases h0) hfid h.ord

end A2l.Tree
