import A2lVerif.Lemmas.RT.Lists
/-! # C02: reorderings of siblings, and the writer's order (`sortGE`) as one of them -/
namespace A2l.Tree
open A2l.G A2l.Sc

mutual
/-- the same element up to the order of sub-elements (at every depth) and layout -/
inductive OT.Sib : OT → OT → Prop
  | cmt (t : List Char) (o o' : Nat) : OT.Sib (.cmt t o) (.cmt t o')
  | node (i i' : Nat) (tag : List Char) (blk : Bool) (ty so so' eo eo' : Nat) (fields : List Val) (items items' : List OT) :
      OT.SibL items items' → OT.Sib (.node i tag blk ty so eo fields items) (.node i' tag blk ty so' eo' fields items')
/-- a permutation of siblings, recursively -/
inductive OT.SibL : List OT → List OT → Prop
  | nil : OT.SibL [] []
  | cons (x y : OT) (xs ys : List OT) : OT.Sib x y → OT.SibL xs ys → OT.SibL (x :: xs) (y :: ys)
  | swap (x y : OT) (l : List OT) : OT.SibL (y :: x :: l) (x :: y :: l)
  | trans (a b c : List OT) : OT.SibL a b → OT.SibL b c → OT.SibL a c
end

mutual
theorem OT.Sib.refl : ∀ (x : OT), OT.Sib x x
  | .cmt t o => .cmt t o o
  | .node i tag blk ty so eo fields items => .node i i tag blk ty so so eo eo fields items items (OT.SibL.refl items)
theorem OT.SibL.refl : ∀ (xs : List OT), OT.SibL xs xs
  | [] => .nil
  | x :: xs => .cons x x xs xs (OT.Sib.refl x) (OT.SibL.refl xs)
end

theorem OT.SibL.of_perm {xs ys : List OT} (h : xs.Perm ys) : OT.SibL xs ys := by
  induction h with
  | nil => exact .nil
  | cons x _ ih => exact .cons x x _ _ (OT.Sib.refl x) ih
  | swap x y l => exact .swap x y l
  | trans _ _ ih1 ih2 => exact .trans _ _ _ ih1 ih2

inductive All2 {α β : Type} (R : α → β → Prop) : List α → List β → Prop
  | nil : All2 R [] []
  | cons {x : α} {y : β} {xs : List α} {ys : List β} : R x y → All2 R xs ys → All2 R (x :: xs) (y :: ys)

theorem All2.append {α β : Type} {R : α → β → Prop} {a c : List α} {b d : List β} (h1 : All2 R a b) (h2 : All2 R c d) :
    All2 R (a ++ c) (b ++ d) := by
  induction h1 with
  | nil => exact h2
  | cons h _ ih => exact .cons h ih

theorem All2.map {α β γ δ : Type} {R : α → β → Prop} {Q : γ → δ → Prop} (f : α → γ) (g : β → δ)
    (hfg : ∀ a b, R a b → Q (f a) (g b)) {xs : List α} {ys : List β} (h : All2 R xs ys) : All2 Q (xs.map f) (ys.map g) := by
  induction h with
  | nil => exact .nil
  | cons h _ ih => exact .cons (hfg _ _ h) ih

theorem All2.refl {α : Type} {R : α → α → Prop} (hr : ∀ a, R a a) : ∀ (l : List α), All2 R l l
  | [] => .nil
  | a :: l => .cons (hr a) (All2.refl hr l)

theorem All2.perm_transport {α β : Type} {R : α → β → Prop} {l1 l2 : List α} (hp : l1.Perm l2) :
    ∀ {m1 : List β}, All2 R l1 m1 → ∃ m2, m1.Perm m2 ∧ All2 R l2 m2 := by
  induction hp with
  | nil => intro m1 h; exact ⟨m1, List.Perm.refl _, h⟩
  | cons x _ ih =>
    intro m1 h
    cases h with
    | cons hxy ht =>
      obtain ⟨m2, p, q⟩ := ih ht
      exact ⟨_ :: m2, List.Perm.cons _ p, .cons hxy q⟩
  | swap x y l =>
    intro m1 h
    cases h with
    | cons h1 ht =>
      cases ht with
      | cons h2 ht2 => exact ⟨_, List.Perm.swap _ _ _, .cons h2 (.cons h1 ht2)⟩
  | trans _ _ ih1 ih2 =>
    intro m1 h
    obtain ⟨m2, p, q⟩ := ih1 h
    obtain ⟨m3, p', q'⟩ := ih2 q
    exact ⟨m3, p.trans p', q'⟩

theorem OT.SibL.of_all {xs ys : List OT} (h : All2 OT.Sib xs ys) : OT.SibL xs ys := by
  induction h with
  | nil => exact .nil
  | cons h1 _ ih => exact .cons _ _ _ _ h1 ih

mutual
/-- the same element up to the order of POSITION-RESTRICTED sub-elements (at every depth) and layout -/
inductive OT.SibP (code : List CodeEntry) : OT → OT → Prop
  | cmt (t : List Char) (o o' : Nat) : OT.SibP code (.cmt t o) (.cmt t o')
  | node (i i' : Nat) (tag : List Char) (blk : Bool) (ty so so' eo eo' : Nat) (fields : List Val) (items items' : List OT) :
      OT.SibPL code items items' →
      OT.SibP code (.node i tag blk ty so eo fields items) (.node i' tag blk ty so' eo' fields items')
/-- a reordering of siblings in which only position-restricted items (`OT.pos code` is `some`) change places: generated
    by related heads, the exchange of two position-restricted items, transitivity -/
inductive OT.SibPL (code : List CodeEntry) : List OT → List OT → Prop
  | nil : OT.SibPL code [] []
  | cons (x y : OT) (xs ys : List OT) : OT.SibP code x y → OT.SibPL code xs ys → OT.SibPL code (x :: xs) (y :: ys)
  | swapFar (x y : OT) (m l : List OT) : (x.pos code).isSome = true → (y.pos code).isSome = true →
      OT.SibPL code (y :: (m ++ x :: l)) (x :: (m ++ y :: l))
  | trans (a b c : List OT) : OT.SibPL code a b → OT.SibPL code b c → OT.SibPL code a c
end

mutual
theorem OT.SibP.refl (code : List CodeEntry) : ∀ (x : OT), OT.SibP code x x
  | .cmt t o => .cmt t o o
  | .node i tag blk ty so eo fields items =>
    .node i i tag blk ty so so eo eo fields items items (OT.SibPL.refl code items)
theorem OT.SibPL.refl (code : List CodeEntry) : ∀ (xs : List OT), OT.SibPL code xs xs
  | [] => .nil
  | x :: xs => .cons x x xs xs (OT.SibP.refl code x) (OT.SibPL.refl code xs)
end

theorem perm_exchange {α} (a x : α) (A B : List α) : (a :: (A ++ x :: B)).Perm (x :: (A ++ a :: B)) :=
  ((List.Perm.cons a List.perm_middle).trans (List.Perm.swap x a _)).trans (List.Perm.cons x List.perm_middle.symm)

mutual
theorem OT.SibP.toSib {code : List CodeEntry} : ∀ {x y : OT}, OT.SibP code x y → OT.Sib x y
  | _, _, .cmt t o o' => .cmt t o o'
  | _, _, .node i i' tag blk ty so so' eo eo' fields items items' h =>
    .node i i' tag blk ty so so' eo eo' fields items items' (OT.SibPL.toSibL h)
theorem OT.SibPL.toSibL {code : List CodeEntry} : ∀ {xs ys : List OT}, OT.SibPL code xs ys → OT.SibL xs ys
  | _, _, .nil => .nil
  | _, _, .cons x y xs ys h1 h2 => .cons x y xs ys (OT.SibP.toSib h1) (OT.SibPL.toSibL h2)
  | _, _, .swapFar x y m l _ _ => OT.SibL.of_perm (perm_exchange y x m l)
  | _, _, .trans a b c h1 h2 => .trans a b c (OT.SibPL.toSibL h1) (OT.SibPL.toSibL h2)
end

theorem OT.SibPL.of_all {code : List CodeEntry} {xs ys : List OT} (h : All2 (OT.SibP code) xs ys) :
    OT.SibPL code xs ys := by
  induction h with
  | nil => exact .nil
  | cons h1 _ ih => exact .cons _ _ _ _ h1 ih

/-- `refill` looks at the group only through "restricted or not" and the unrestricted items -/
theorem refillG_exchange {α} (isR : α → Bool) (a x : α) (ha : isR a = true) (hx : isR x = true) (l : List α) :
    ∀ (m s : List α), (m.filter isR).length < s.length →
      refillG isR (m ++ a :: l) s = refillG isR (m ++ x :: l) s
  | [], s, h => by
    cases s with
    | nil => simp at h
    | cons y ys => simp [refillG, ha, hx]
  | b :: m, s, h => by
    by_cases hb : isR b = true
    · cases s with
      | nil => simp at h
      | cons y ys =>
        simp only [List.filter_cons, hb, if_true, List.length_cons] at h
        simp only [List.cons_append, refillG, hb, if_true]
        rw [refillG_exchange isR a x ha hx l m ys (by omega)]
    · have hb' : isR b = false := by simpa using hb
      simp only [List.filter_cons, hb', Bool.false_eq_true, if_false] at h
      simp only [List.cons_append, refillG, hb', Bool.false_eq_true, if_false]
      rw [refillG_exchange isR a x ha hx l m s h]

/-- **refilling the restricted slots with a permutation of the restricted items moves restricted items only** -/
theorem refillG_sibP (code : List CodeEntry) : ∀ (n : Nat) (g s : List OT), g.length = n →
    s.Perm (g.filter (fun x => (x.pos code).isSome)) →
    OT.SibPL code g (refillG (fun x => (x.pos code).isSome) g s)
  | 0, g, s, hn, hp => by
    have : g = [] := List.length_eq_zero_iff.1 hn
    subst this
    simp only [List.filter_nil, List.perm_nil] at hp
    subst hp
    exact .nil
  | n + 1, g, s, hn, hp => by
    cases g with
    | nil => simp at hn
    | cons a g' =>
      have hlen : g'.length = n := by simpa using hn
      by_cases ha : (a.pos code).isSome = true
      · rw [List.filter_cons_of_pos (by simpa using ha)] at hp
        cases s with
        | nil => exact absurd hp.length_eq (by simp)
        | cons x xs =>
          simp only [refillG, ha, if_true]
          have hx : x ∈ a :: g'.filter (fun x => (x.pos code).isSome) := hp.mem_iff.1 List.mem_cons_self
          rcases List.mem_cons.1 hx with rfl | hx
          · exact .cons _ _ _ _ (OT.SibP.refl code _) (refillG_sibP code n g' xs hlen (List.Perm.cons_inv hp))
          · -- `x` stands further back in `g'`: exchange it with `a` (`swapFar`) and go on with `a` in its place, which
            -- `refillG` does not notice (`refillG_exchange`)
            obtain ⟨hxg, hxr⟩ := List.mem_filter.1 hx
            have hxr : (x.pos code).isSome = true := by simpa using hxr
            obtain ⟨m, l, rfl⟩ := List.append_of_mem hxg
            have hp2 : xs.Perm ((m ++ a :: l).filter (fun x => (x.pos code).isSome)) := by
              rw [List.filter_append, List.filter_cons_of_pos (by simpa using hxr)] at hp
              rw [List.filter_append, List.filter_cons_of_pos (by simpa using ha)]
              exact List.Perm.cons_inv (hp.trans (perm_exchange a x _ _))
            have ih := refillG_sibP code n (m ++ a :: l) xs (by simpa using hlen) hp2
            have hl : (m.filter (fun x => (x.pos code).isSome)).length < xs.length := by
              rw [hp2.length_eq, List.filter_append, List.length_append, List.filter_cons_of_pos (by simpa using ha)]
              simp only [List.length_cons]; omega
            rw [refillG_exchange _ a x ha hxr l m xs hl] at ih
            exact .trans _ _ _ (.swapFar x a m l hxr ha) (.cons _ _ _ _ (OT.SibP.refl code x) ih)
      · have ha' : (a.pos code).isSome = false := by simpa using ha
        rw [List.filter_cons_of_neg (by simpa using ha')] at hp
        simp only [refillG, ha', Bool.false_eq_true, if_false]
        exact .cons _ _ _ _ (OT.SibP.refl code a) (refillG_sibP code n g' s hlen hp)

/-- **`apply_position_restrictions` moves position-restricted items only** -/
theorem applyPosG_sibP (code : List CodeEntry) (g : List OT) : OT.SibPL code g (applyPosG (OT.pos code) g) := by
  unfold applyPosG
  simp only []
  split
  · exact refillG_sibP code _ g _ rfl (List.mergeSort_perm _ _)
  · exact OT.SibPL.refl code g

theorem refillG_perm {α} (isR : α → Bool) : ∀ (g s : List α), s.length = (g.filter isR).length →
    (refillG isR g s).Perm (g.filter (fun x => !isR x) ++ s)
  | [], s, h => by
    simp only [List.filter_nil, List.length_nil, List.length_eq_zero_iff] at h
    subst h; simp [refillG]
  | a :: g, s, h => by
    by_cases ha : isR a = true
    · simp only [List.filter_cons, ha, if_true, List.length_cons] at h
      cases s with
      | nil => simp at h
      | cons x xs =>
        simp only [refillG, ha, if_true, List.filter_cons, Bool.not_true, Bool.false_eq_true, if_false]
        have ih := refillG_perm isR g xs (by simpa using h)
        exact (List.Perm.cons x ih).trans List.perm_middle.symm
    · have ha' : isR a = false := by simpa using ha
      simp only [List.filter_cons, ha', Bool.false_eq_true, if_false] at h
      simp only [refillG, ha', Bool.false_eq_true, if_false, List.filter_cons, Bool.not_false, if_true, List.cons_append]
      exact List.Perm.cons a (refillG_perm isR g s h)

theorem applyPosG_perm {α} (pos : α → Option Nat) (l : List α) : (applyPosG pos l).Perm l := by
  unfold applyPosG
  simp only []
  split
  · have hp := List.mergeSort_perm (l.filter (fun x => (pos x).isSome)) (posLeG pos)
    refine (refillG_perm _ l _ hp.length_eq).trans ?_
    refine (List.Perm.append_left _ hp).trans ?_
    exact (List.perm_append_comm).trans (List.filter_append_perm _ l)
  · exact List.Perm.refl _

/-- the same group entry up to a reordering of position-restricted items below it -/
def GERel (code : List CodeEntry) (g g' : GE) : Prop := g.uid = g'.uid ∧ g.line = g'.line ∧ OT.SibP code g.ot g'.ot

theorem GERel.refl (code : List CodeEntry) (g : GE) : GERel code g g := ⟨rfl, rfl, OT.SibP.refl code _⟩

theorem GERel.uids {code : List CodeEntry} {R R' : List GE} (h : All2 (GERel code) R R') :
    R'.map (·.uid) = R.map (·.uid) := by
  induction h with
  | nil => rfl
  | cons hxy _ ih => simp only [List.map_cons, ih, hxy.1]

/-- the own items of the children of one arm, reordered so that every child is in canonical relation -/
theorem exists_canon_arm (e : Env) : ∀ (cs : List Val) (ss : List (List OT)), ss.length = cs.length →
    (∀ (j : Nat) (c : Val) (o : List OT), cs[j]? = some c → ss[j]? = some o →
      ∃ o', OT.SibPL e.code o o' ∧ Canon e c o') →
    ∃ ss' : List (List OT), ss'.length = cs.length ∧
      (∀ (j : Nat) (c : Val) (o' : List OT), cs[j]? = some c → ss'[j]? = some o' → Canon e c o') ∧
      ∀ (i : Nat) (a : Arm), All2 (GERel e.code) (gesArm e.symbols i a cs ss) (gesArm e.symbols i a cs ss')
  | [], [], _, _ => ⟨[], rfl, fun j c o' h => by simp at h, fun _ _ => All2.nil⟩
  | [], _ :: _, h, _ => by simp at h
  | _ :: _, [], h, _ => by simp at h
  | c :: cs, o :: ss, hlen, hex => by
    obtain ⟨o', ho1, ho2⟩ := Pointwise.head hex
    obtain ⟨ss', h1, h2, h3⟩ := exists_canon_arm e cs ss (Nat.succ.inj hlen) (Pointwise.tail hex)
    refine ⟨o' :: ss', congrArg Nat.succ h1, Pointwise.cons ho2 h2, fun i a => All2.append ?_ (h3 i a)⟩
    cases c with
    | block cty cinfo cfields cch ccm => exact All2.cons ⟨rfl, rfl, .node _ _ _ _ _ _ _ _ _ _ _ _ ho1⟩ All2.nil
    | _ => exact All2.nil

/-- the same for all arms -/
theorem exists_canon_sub (e : Env) : ∀ (ch : List (List Val)) (sub : List (List (List OT))), sub.length = ch.length →
    (∀ (i : Nat) (cs : List Val) (ss : List (List OT)), ch[i]? = some cs → sub[i]? = some ss → ss.length = cs.length) →
    (∀ (i j : Nat) (cs : List Val) (ss : List (List OT)) (c : Val) (o : List OT), ch[i]? = some cs → sub[i]? = some ss →
      cs[j]? = some c → ss[j]? = some o → ∃ o', OT.SibPL e.code o o' ∧ Canon e c o') →
    ∃ sub' : List (List (List OT)), sub'.length = ch.length ∧
      (∀ (i : Nat) (cs : List Val) (ss' : List (List OT)), ch[i]? = some cs → sub'[i]? = some ss' →
        ss'.length = cs.length) ∧
      (∀ (i j : Nat) (cs : List Val) (ss' : List (List OT)) (c : Val) (o' : List OT), ch[i]? = some cs →
        sub'[i]? = some ss' → cs[j]? = some c → ss'[j]? = some o' → Canon e c o') ∧
      ∀ (k : Nat) (arms : List Arm), All2 (GERel e.code) (gesFrom e.symbols k arms ch sub) (gesFrom e.symbols k arms ch sub')
  | [], [], _, _, _ => ⟨[], rfl, fun i cs ss' h => by simp at h, fun i j cs ss' c o' h => by simp at h,
      fun k arms => by cases arms <;> exact All2.nil⟩
  | [], _ :: _, h, _, _ => by simp at h
  | _ :: _, [], h, _, _ => by simp at h
  | cs :: ch, ss :: sub, hlen, hpar, hex => by
    have hex2 := Pointwise.unflat hex
    obtain ⟨ss', a1, a2, a3⟩ := exists_canon_arm e cs ss (hpar 0 cs ss rfl rfl) hex2.head
    obtain ⟨sub', b1, b2, b3, b4⟩ := exists_canon_sub e ch sub (Nat.succ.inj hlen) (Pointwise.tail hpar) hex2.tail.flat
    refine ⟨ss' :: sub', congrArg Nat.succ b1, Pointwise.cons a1 b2, (Pointwise.cons a2 (Pointwise.unflat b3)).flat, ?_⟩
    intro k arms
    cases arms with
    | nil => exact All2.nil
    | cons a arms => exact All2.append (a3 k a) (b4 (k + 1) arms)

end A2l.Tree
