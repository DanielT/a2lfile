import A2lVerif.Lemmas.PO.Hyps
import A2lVerif.Lemmas.PO.Wf
import A2lVerif.Lemmas.PO.ParseFile
import A2lVerif.Lemmas.PO.SeqOk
import A2lVerif.Lemmas.PO.Values
/-! # C02: from the result of `parse_file` (`FilePost`) to the theorems -/
namespace A2l.Tree
open A2l.G A2l.Sc

section
variable {e : Env} {lx : LexEnv} {ver : Nat} (X X' : Array PTok)

/- The predicates read their configuration through `strict`, `table`, `symbols`, `lx` and `ver` only, and on
   `mkC e lx X ver` these projections reduce to those of `e`, to `lx` and to `ver`: for two token arrays the two predicates
   unfold to the same term, so a proof of one is a proof of the other. The definitions are recursive and have to be
   unfolded at a variable, which the elaborator's smart unfolding does not do. -/
set_option smartUnfolding false in
theorem wfL_X : ∀ (xs : List OT) (parms : List Arm) (pib : Bool), OT.wfL (mkC e lx X ver) parms pib xs →
    OT.wfL (mkC e lx X' ver) parms pib xs :=
  fun _ _ _ h => h

theorem wf_X : ∀ (o : OT) (parms : List Arm) (pib : Bool), OT.wf (mkC e lx X ver) parms pib o →
    OT.wf (mkC e lx X' ver) parms pib o :=
  fun o parms pib h => (wfL_X X X' [o] parms pib ⟨h, trivial⟩).1

set_option smartUnfolding false in
theorem idSeqOkL_X : ∀ (xs : List OT) (ind : Nat) (rest : List WTok), OT.idSeqOkL (mkC e lx X ver) ind xs rest →
    OT.idSeqOkL (mkC e lx X' ver) ind xs rest :=
  fun _ _ _ h => h

theorem idSeqOk_X : ∀ (o : OT) (ind : Nat) (rest : List WTok), OT.idSeqOk (mkC e lx X ver) ind o rest →
    OT.idSeqOk (mkC e lx X' ver) ind o rest :=
  fun o ind rest h => (idSeqOkL_X X X' [o] ind rest ⟨h, trivial⟩).1

end

theorem lexWL_of (c : RCfg) : ∀ (xs : List OT) (parms : List Arm) (pib : Bool), OT.wfL c parms pib xs → OT.lexVL xs →
    OT.lexWL xs := by
  refine OT.listInduct (fun _ _ _ _ => by simp [OT.lexWL]) ?_ ?_
  · intro text off xs ih parms pib hw hv
    simp only [OT.wfL] at hw
    simp only [OT.lexVL] at hv
    simp only [OT.lexWL]
    exact ⟨by simpa [OT.lexV, OT.lexW] using hv.1, ih parms pib hw.2 hv.2⟩
  · intro arm tag blk ty so eo fields items xs ihI ihR parms pib hw hv
    simp only [OT.wfL, OT.wf] at hw
    obtain ⟨⟨a, its, arms, ht, -, -, -, -, -, -, h7, -, -, -, -, h12, h13, -⟩, hwr⟩ := hw
    simp only [OT.lexVL, OT.lexV] at hv
    simp only [OT.lexWL, OT.lexW]
    exact ⟨⟨hv.1.1, hv.1.2.1, hv.1.2.2.1, ihI arms blk h13 hv.1.2.2.2, fun hb => h12 (h7 hb).2⟩,
      ihR parms pib hwr hv.2⟩

theorem lexW_of (c : RCfg) : ∀ (o : OT) (parms : List Arm) (pib : Bool), o.wf c parms pib → o.lexV → o.lexW :=
  fun o parms pib hw hv => (lexWL_of c [o] parms pib ⟨hw, trivial⟩ ⟨hv, trivial⟩).1

/-- the named obstacles, as conditions on the sub-elements `items` of the loaded root value in input order:
    * `pos`   position-restricted items stand in position order, in every block (finding `reserved-order`)
    * `last`  the last top-level item is a block: the file does not end in a keyword parameter
    (the third obstacle of C01, "a sequence is followed by a token that ends it", is derived for strict loads:
    `seqOk_of_filePost`; no END offset is bumped either: the writer's `ends_in_line_comment` is exact on the loaded
    content and the parser never records offset 0 behind a line comment, `fixEo_of_endOk`) -/
structure Obstacles (e : Env) (items : List OT) : Prop where
  pos : OT.posAll e.code items
  last : LastIsBlock items

section
variable {e : Env} {lx : LexEnv} {X0 : Array PTok} {rarms : List Arm} {v : Val} {items : List OT} {ver : Nat}

theorem FilePost.lexW (fp : FilePost e lx X0 rarms v items ver) : OT.lexWL items :=
  lexWL_of _ items rarms false fp.wf fp.lexv

/-- **no offset is bumped on what was loaded**: the writer uses the recorded offsets. What follows is therefore proved of
    `items` and stated of `OT.fixL false items`, the form in which Lemmas/RT takes it. -/
theorem fixL_of_filePost (fp : FilePost e lx X0 rarms v items ver) : OT.fixL false items = items :=
  fixL_of_noBump items false fp.nb fp.lexW fp.eokL

/-- **`SeqStops` in the written stream**, derived: sequences of identifiers from the input (`FilePost.idseq`), the others
    from the table hypothesis `seqTblOk` -/
theorem seqOk_of_filePost (htbl : seqTblOk e.table = true) (fp : FilePost e lx X0 rarms v items ver) (X : Array PTok) :
    OT.seqOkL (mkC e lx X ver) 0 (OT.fixL false items) [] := by
  rw [fixL_of_filePost fp]
  exact seqOkL_of (mkC e lx X ver) htbl items 0 rarms false [] (wfL_X X0 X items rarms false fp.wf)
    (idSeqOkL_X X0 X items 0 [] fp.idseq) (by intro w hw; simp [nextNC] at hw)

theorem writable_of_filePost (fp : FilePost e lx X0 rarms v items ver) (hin : InOk e lx) (hseqT : seqTblOk e.table = true)
    (hroot : RootOk e rarms) (ob : Obstacles e items) (X : Array PTok) :
    Writable (mkC e lx X ver) rarms (OT.fixL false items) := by
  have hseq := seqOk_of_filePost hseqT fp X
  rw [fixL_of_filePost fp] at hseq ⊢
  refine ⟨hroot.root, ?_, ?_, ob.pos.1, ?_⟩
  · intro ver' hv
    obtain rfl : ver' = ver := hv hin.strict
    exact OT.okL_of_wf (mkC e lx X ver') _ 0 rarms false [] (wfL_X X0 X items rarms false fp.wf) hseq ob.pos.2
      (kwNextL_of_lastIsBlock 0 items ob.last)
  · show MultOk e.strict rarms _
    rw [hin.strict]; exact fp.mult
  · -- `HeadOk` does not look at the token array of the configuration either (`X0` in `fp.head`, `X` here)
    exact fp.head

theorem streamLex_of_filePost (fp : FilePost e lx X0 rarms v items ver) :
    StreamLex none (OT.toksL 0 (OT.fixL false items)) :=
  streamLex_of_lexW items fp.lexW

/-- **strict load, write, load, write**: what `parse_file` established (`fp`) and the absence of the two obstacles are
    the hypotheses of `write_root`, `lex_written` and `reload_text` (Lemmas/TreeRoundTrip.lean) -/
theorem roundTrip_of_filePost (fp : FilePost e lx X0 rarms v items ver) (hin : InOk e lx)
    (hseqT : seqTblOk e.table = true) (hroot : RootOk e rarms) (ob : Obstacles e items) :
    (∃ F0, ∀ F, F0 ≤ F → writeFile e v F = renderToks (OT.toksL 0 (OT.fixL false items))) ∧
    (∃ ts, Lex.tokenize (encL (renderToks (OT.toksL 0 (OT.fixL false items)))).toArray = .ok ts ∧
      (ts.map (convTok lx (encL (renderToks (OT.toksL 0 (OT.fixL false items)))).toArray)).toArray =
        (mkToks lx (OT.toksL 0 (OT.fixL false items))).toArray) ∧
    (∀ fuel', OT.needL 0 (OT.fixL false items) + 20 ≤ fuel' →
      ∃ v' s', parseFile fuel' { e with toks := (mkToks lx (OT.toksL 0 (OT.fixL false items))).toArray } {} = .ok v' s' ∧
        (∃ F0, ∀ F, F0 ≤ F →
          writeFile { e with toks := (mkToks lx (OT.toksL 0 (OT.fixL false items))).toArray } v' F = writeFile e v F) ∧
        LayoutEq v v') := by
  obtain ⟨info, ch, cm, rfl, h1, h2⟩ := fp.val
  obtain ⟨ts, l1, l2⟩ := lex_written lx _ (streamLex_of_filePost fp)
  refine ⟨write_root e _ info ch cm items (fp.canon ob.pos), ⟨ts, l1, congrArg List.toArray l2⟩, fun fuel' hf => ?_⟩
  obtain ⟨v', s', p1, p2, p3⟩ := reload_text e lx ver rarms items info ch cm (fp.canon ob.pos)
    (writable_of_filePost fp hin hseqT hroot ob _) fuel' hf
  exact ⟨v', s', p1, p2, p3 fp.ord (fixL_of_filePost fp) h1 h2⟩

theorem pres_of_filePost (fp : FilePost e lx X0 rarms v items ver) (hin : InOk e lx) :
    Pres (valuesOf e.toks) (valuesOf (mkToks lx (OT.toksL 0 (OT.fixL false items))).toArray) := by
  rw [fixL_of_filePost fp]
  have := fp.sim.pres (fun t ht hty r hr => by
    obtain ⟨i, hi⟩ := List.getElem?_of_mem ht
    exact hin.fl i t r (by simpa using hi) hty hr) 1
  simpa [valuesOf, mkToks] using this

end

mutual
theorem OT.Sib.keys : ∀ {x y : OT}, OT.Sib x y → ∀ ind, ((x.toks ind).map wkey).Perm ((y.toks ind).map wkey)
  | _, _, .cmt t o o', ind => by simp [OT.toks, wkey]
  | _, _, .node i i' tag blk ty so so' eo eo' fields items items' h, ind => by
    simp only [OT.toks, List.map_append, headToks_key ind tag blk so so', closeToks_key ind tag blk eo eo']
    exact List.Perm.append_left _ (List.Perm.append_left _ (List.Perm.append_right _ (OT.SibL.keys h (ind + 1))))
theorem OT.SibL.keys : ∀ {xs ys : List OT}, OT.SibL xs ys → ∀ ind,
    ((OT.toksL ind xs).map wkey).Perm ((OT.toksL ind ys).map wkey)
  | _, _, .nil, _ => List.Perm.refl _
  | _, _, .cons x y xs ys h1 h2, ind => by
    simp only [OT.toksL, List.map_append]
    exact List.Perm.append (OT.Sib.keys h1 ind) (OT.SibL.keys h2 ind)
  | _, _, .swap x y l, ind => by
    simp only [OT.toksL, List.map_append, ← List.append_assoc]
    exact List.Perm.append_right _ List.perm_append_comm
  | _, _, .trans a b c h1 h2, ind => (OT.SibL.keys h1 ind).trans (OT.SibL.keys h2 ind)
end

/-- the value of a written token (its line does not matter) -/
def wval (lx : LexEnv) (k : Nat × List Char) : TV := tokVal ((⟨k.1, k.2, 0, 0⟩ : WTok).toPTok lx 0)

theorem tokVal_toPTok (lx : LexEnv) (w : WTok) (line : Nat) : tokVal (w.toPTok lx line) = wval lx (wkey w) := rfl

theorem vals_mkToksFrom (lx : LexEnv) : ∀ (ws : List WTok) (line : Nat),
    (mkToksFrom lx line ws).map tokVal = (ws.map wkey).map (wval lx)
  | [], _ => rfl
  | w :: ws, line => by
    simp only [mkToksFrom, List.map_cons, vals_mkToksFrom lx ws, tokVal_toPTok]

theorem valuesOf_written (lx : LexEnv) (xs : List OT) :
    valuesOf (mkToks lx (OT.toksL 0 (OT.fixL false xs))).toArray = ((OT.toksL 0 xs).map wkey).map (wval lx) := by
  simp only [valuesOf, mkToks, vals_mkToksFrom, keys_fixL]

theorem values_perm_of_sib (lx : LexEnv) {items items' : List OT} (h : OT.SibL items items') :
    (valuesOf (mkToks lx (OT.toksL 0 (OT.fixL false items))).toArray).Perm
      (valuesOf (mkToks lx (OT.toksL 0 (OT.fixL false items'))).toArray) := by
  rw [valuesOf_written, valuesOf_written]
  exact (h.keys 0).map _

/-- **the writer's order is a reordering of the position-restricted siblings of the input order**: `items` = the
    sub-elements in input order, `items'` = in the order in which `stringify` writes them; and content preservation in
    its permutation form -/
theorem writerOrder_of_filePost {e : Env} {lx : LexEnv} {X0 : Array PTok} {rarms : List Arm} {v : Val} {items : List OT}
    {ver : Nat} (fp : FilePost e lx X0 rarms v items ver) (hin : InOk e lx) :
    ∃ items', OT.SibPL e.code items items' ∧ Canon e v items' ∧
      (valuesOf (mkToks lx (OT.toksL 0 (OT.fixL false items))).toArray).Perm
        (valuesOf (mkToks lx (OT.toksL 0 (OT.fixL false items'))).toArray) ∧
      Pres (valuesOf e.toks) (valuesOf (mkToks lx (OT.toksL 0 (OT.fixL false items))).toArray) := by
  obtain ⟨items', hs, hc⟩ := fp.sibc
  exact ⟨items', hs, hc, values_perm_of_sib lx hs.toSibL, pres_of_filePost fp hin⟩

end A2l.Tree
