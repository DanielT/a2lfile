import A2lVerif.Lemmas.RT.Node
import A2lVerif.Lemmas.PO.Node
import A2lVerif.Lemmas.TreeRoundTrip
/-! # C02: `parse_version` and `parse_file` on arbitrary input (strict mode) -/
namespace A2l.Tree
open A2l.G A2l.Sc

/-! ## the version keyword: two integers, read the same way by `parse_version` and by the root's tagged loop -/

/-- `parse_version` in strict mode: the first significant token is the version tag, `ASAP2_VERSION::parse` behind it
    reads two integers that make a known version, and so does every other run of it from there (the root's tagged loop
    reads the keyword again); the cursor is reset to 0 -/
theorem parseVersion_ok {e : Env} (hst : e.strict = true) {a b : Nat}
    (hlk : e.table.lookup e.known.tyAsap2Version = some (.block false [.int a, .int b] [] false)) {fuel : Nat} {ctx : Ctx}
    {s : PState} {ver : Nat} {s' : PState} (h : parseVersion fuel ctx e s = .ok ver s') :
    ∃ t s1 major h1 minor h2, OneTok e s t s1 ∧ t.ty = 0 ∧ t.sym = e.known.tagAsap2Version ∧
      versionOf major minor = some ver ∧ s'.pos = 0 ∧
      ∀ {f2 : Nat} {c2 : Ctx} {o2 : Nat} {s2 : PState} {v2 : Val} {s2' : PState},
        parseType f2 e.known.tyAsap2Version c2 o2 e s2 = .ok v2 s2' → s2.pos = s1.pos →
        ∃ i2 ox oy, v2 = .block e.known.tyAsap2Version i2 [.int major h1 ox a, .int minor h2 oy b] [] [] := by
  unfold parseVersion at h
  simp only [getEnv_bind, peekToken_bind] at h
  cases h0 : e.toks[s.pos]? with
  | none =>
    rw [h0] at h
    simp only [setTokenpos_bind] at h
    rw [bind_def, errorOrLogNoLine_strict' hst] at h
    cases h
  | some token =>
    rw [h0] at h
    dsimp only at h
    obtain ⟨r, s1, hr, h⟩ := bind_eq_ok h
    simp only [getState_bind] at h
    rcases attempt_eq_ok hr with ⟨name, hg, rfl⟩ | ⟨d, hg, rfl⟩
    rotate_left
    · simp only [Bool.false_eq_true, if_false, setTokenpos_bind] at h
      rw [bind_def, errorOrLogNoLine_strict' hst] at h
      cases h
    obtain ⟨t, o1, hty, -, -⟩ := getIdentifier_ok hg
    rw [o1.last] at h
    dsimp only at h
    by_cases hv : (t.sym == e.known.tagAsap2Version) = true
    rotate_left
    · rw [if_neg hv] at h
      simp only [setTokenpos_bind] at h
      rw [bind_def, errorOrLogNoLine_strict' hst] at h
      cases h
    rw [if_pos hv] at h
    obtain ⟨r2, s2, hr2, h⟩ := bind_eq_ok h
    simp only [setTokenpos_bind] at h
    rcases attempt_eq_ok hr2 with ⟨v, hp, rfl⟩ | ⟨d, hp, rfl⟩
    rotate_left
    · dsimp only at h
      rw [bind_def, errorOrLogNoLine_strict' hst] at h
      cases h
    obtain ⟨info, t1, major, hx1, ox1, sm, t2, minor, hx2, ox2, rfl, a1, p1, a2, p2⟩ := versionType_inv hlk hp
    dsimp only at h
    cases hvo : versionOf major minor with
    | none =>
      rw [hvo] at h
      dsimp only at h
      rw [bind_def, errorOrLogNoLine_strict' hst] at h
      cases h
    | some vv =>
      rw [hvo] at h
      cases h
      refine ⟨t, s1, major, hx1, minor, hx2, o1, hty, by simpa using hv, hvo, rfl, fun h2 hp2 => ?_⟩
      -- the same two tokens, read the same way
      obtain ⟨i2, t1', x', hx', ox', sm', t2', y', hy', oy', rfl, b1, q1, b2, q2⟩ := versionType_inv hlk h2
      obtain ⟨rfl, r2⟩ := a1.unique b1 hp2.symm
      obtain ⟨rfl, -⟩ := a2.unique b2 r2
      rw [p1] at q1
      rw [p2] at q2
      cases q1
      cases q2
      exact ⟨i2, ox', oy', rfl⟩

/-- what is known of the root value `v` that `parse_file` returned: `items` = its sub-elements in input order,
    `ver` = the file version found by `parse_version`, `rarms` = the arms of the root type -/
structure FilePost (e : Env) (lx : LexEnv) (X : Array PTok) (rarms : List Arm) (v : Val) (items : List OT) (ver : Nat) :
    Prop where
  val : ∃ info ch cm, v = .block e.known.tyA2lFile info [] ch cm ∧ info.startOff = 0 ∧ info.endOff = 0
  ord : InOrder e v items
  canon : OT.posAll e.code items → Canon e v items
  sibc : ∃ items', OT.SibPL e.code items items' ∧ Canon e v items'
  wf : OT.wfL (mkC e lx X ver) rarms false items
  mult : MultOk true rarms items
  head : HeadOk (mkC e lx X ver) items
  lexv : OT.lexVL items
  eokL : OT.endOkL items
  nb : OT.noBumpL false items
  idseq : OT.idSeqOkL (mkC e lx X ver) 0 items []
  sim : TSim lx e.toks.toList (OT.toksL 0 items)

/-- `parse_file` in strict mode, unfolded: `parse_version`; the root's tagged loop, run with the version found, up to
    the end of the input; the multiplicity checks -/
theorem parseFile_inv {e : Env} (hst : e.strict = true) {rarms : List Arm} (hroot : RootOk e rarms) {fuel : Nat}
    {s0 : PState} {v : Val} {s : PState} (h : parseFile fuel e s0 = .ok v s) :
    ∃ ver s1 sR f children comments, parseVersion fuel (rootCtx e) e s0 = .ok ver s1 ∧ sR.pos = s1.pos ∧ sR.ver = ver ∧
      parseTagged f (rootCtx e) rarms false (rarms.map fun _ => []) [] e sR = .ok (children, comments) s ∧
      (∀ z ∈ rarms.zip children, ¬ (z.1.required = true ∧ z.2.isEmpty = true)) ∧ e.toks.size ≤ s.pos ∧
      v = .block e.known.tyA2lFile ⟨(rootCtx e).line, sR.seqId, 0, 0, (rootCtx e).fileid⟩ [] children comments := by
  rw [parseFile_unfold] at h
  obtain ⟨ver, s1, hv, h⟩ := bind_eq_ok h
  simp only [modifyState_bind] at h
  obtain ⟨file, s2, hf, h⟩ := bind_eq_ok h
  simp only [peekToken_bind] at h
  cases hend : e.toks[s2.pos]? with
  | some tk =>
    rw [hend] at h
    dsimp only at h
    rw [bind_def, errorOrLog_strict' hst] at h
    cases h
  | none =>
    rw [hend] at h
    cases h
    cases fuel with
    | zero => rw [parseType] at hf; cases hf
    | succ f =>
      rw [parseType_block_unfold f _ _ 0 e _ hroot.root] at hf
      unfold typeBody at hf
      obtain ⟨fields, sR1, hi1, h2⟩ := bind_eq_ok hf
      obtain ⟨rfl, rfl⟩ := parseItems_nil_inv hi1
      dsimp only at h2
      simp only [if_true] at h2
      obtain ⟨⟨children, comments⟩, sL, h3, h4⟩ := bind_eq_ok h2
      dsimp only at h4
      obtain ⟨u, s3, h5, h6⟩ := bind_eq_ok h4
      obtain ⟨hs3, hmult⟩ := multCheck_ok hst _ _ _ h5
      rw [hs3] at h6
      simp only [Bool.false_eq_true, if_false] at h6
      cases h6
      exact ⟨ver, s1, { s1 with seqId := s1.seqId + 1, ver := ver }, f, children, comments, hv, rfl, rfl, h3, hmult,
        Array.getElem?_eq_none_iff.1 hend, rfl⟩

theorem parseFile_post {e : Env} {lx : LexEnv} (hin : InOk e lx) (X : Array PTok)
    (htab : tableOk e.table e.known = true) (hshape : shapeOk e.table = true) (htags : TagsOk e)
    (hns : NoSpecialOk e) {rarms : List Arm} (hroot : RootOk e rarms) {fuel : Nat} {s0 : PState} {v : Val} {s : PState}
    (h : parseFile fuel e s0 = .ok v s) (hp0 : s0.pos = 0) :
    ∃ items ver, FilePost e lx X rarms v items ver := by
  have hst := hin.strict
  obtain ⟨ver, s1, sR, f, children, comments, hv, hsRp, hsRv, h3, hmult, hsz, rfl⟩ := parseFile_inv hst hroot h
  obtain ⟨wa, wb, hlk⟩ := tableOk_version htab
  obtain ⟨t, sv1, major, mh1, minor, mh2, o1, hty, hsym, hver, hp1, hdet⟩ := parseVersion_ok hst hlk hv
  obtain ⟨-, harmsB, -⟩ := shapeOk_block hshape hroot.root
  have harms : ArmsOk e rarms := ⟨harmsB, fun a ha => (htags _ _ _ _ _ hroot.root a ha).1,
    fun a ha => (htags _ _ _ _ _ hroot.root a ha).2⟩
  rw [hp1] at hsRp
  obtain ⟨xs, sub', cm', R', hcm, inv', nr', res⟩ := (parse_goals hin X hshape htags hns f).2 (rootCtx e) rarms false _ []
    sR children comments s h3 rfl harms [] _ [] (LInv.init e rarms sR.seqId) (fun j a _ _ => Nat.zero_le _)
  rw [List.nil_append] at inv' nr'
  rw [hsRv] at res
  subst hcm
  have hend : e.toks[s.pos]? = none := Array.getElem?_eq_none_iff.2 hsz
  have hsim : TSim lx (tailFrom e 0) (OT.toksL 0 xs) := by
    have := res.sim (.inr hend) 0
    rw [hsRp, seg_of_ge e hsz] at this
    exact this
  have hnr0 : NextRel (tailFrom e s.pos) [] := by
    rw [show tailFrom e s.pos = [] from List.drop_eq_nil_of_le (by simpa using hsz)]
    trivial
  -- the first token that is not a comment is the version tag: the first item is a keyword, read behind it
  have hnx : NextRel (tailFrom e 0 ++ []) (OT.toksL 0 xs ++ []) := NextRel.of_sim hsim trivial
  unfold NextRel at hnx
  rw [List.append_nil, List.append_nil, show nextNCp (tailFrom e 0) = some t from hp0 ▸ o1.nextNCp] at hnx
  match xs, res, hnx with
  | [], _, hnx => exact hnx.elim
  | .cmt _ _ :: _, res, _ => exact absurd res.wf.1 (by simp [OT.wf])
  | .node i tag true ty so eo fields its :: xs', _, hnx => exact nomatch (show 1 = 0 from hnx.1.trans hty)
  | .node i tag false ty so eo fields its :: xs', res, _ =>
    obtain ⟨t', s1', o1', hfi, f', ctx', off', s2', info', fs', ch', cm2, s3', hp', hcall, hfs⟩ :=
      res.first _ _ _ _ _ _ _ _ rfl
    obtain ⟨rfl, hpe⟩ := o1.unique o1' (by rw [hp0, hsRp])
    have hwf := res.wf.1
    simp only [OT.wf] at hwf
    obtain ⟨a, cits, carms, cht, ha, hty', -, -, hlk', -, hkw, -, hidx, -, -, hnil, -, -⟩ := hwf
    obtain ⟨hi, htagi, -⟩ := List.findIdx?_eq_some_iff_getElem.1 hfi
    have hAi : rarms[i] = a := by rw [List.getElem?_eq_getElem hi] at ha; exact Option.some.inj ha
    have htagEq : a.tag = e.known.tagAsap2Version := by
      rw [hAi] at htagi; rw [← hsym]; simpa using htagi
    have htyEq : ty = e.known.tyAsap2Version := hty' ▸ hroot.verArm a (List.mem_of_getElem? ha) htagEq
    subst htyEq
    obtain ⟨i2, ox', oy', hvc'⟩ := hdet hcall (hp'.trans hpe.symm)
    injection hvc' with _ _ hcf _ _
    subst hcf
    refine ⟨_, ver, ⟨⟨_, children, _, rfl, rfl, rfl⟩, inv'.toInOrder hroot.root _ rfl _,
      fun hpa => inv'.toCanon hroot.root hpa _ _ (by simp), inv'.toSibCanon hroot.root _ _ (by simp), res.wf,
      multOk_of_check inv' nr' hmult, ?_, res.lexv, res.eokL, res.nb (fun h => by cases h) false (fun h => by cases h),
      res.idseq (.inr hend) [] hnr0 (fun w hw => by cases hw) 0, hsim⟩⟩
    -- the head is the version keyword, with the version `parse_version` found
    simp only [HeadOk]
    rw [if_pos (show (mkC e lx X ver).e.strict = true from hst)]
    refine ⟨major, minor, ⟨i, tag, so, mh1, ox', wa, mh2, oy', wb, ?_, ?_⟩, hver⟩
    · have hlk2 : e.table.lookup e.known.tyAsap2Version = _ := hlk'
      rw [hlk] at hlk2
      rw [hfs, (hkw trivial).1, hnil (TyDef.block.inj (Option.some.inj hlk2)).2.2.2.symm]
      rfl
    · obtain ⟨hi', htag', -⟩ := List.findIdx?_eq_some_iff_getElem.1 hidx
      rw [hAi] at htag'
      have h1 : a.tag = (mkC e lx X ver).lx.symOf tag := by simpa using htag'
      show lx.symOf tag = e.known.tagAsap2Version
      exact h1 ▸ htagEq

end A2l.Tree
