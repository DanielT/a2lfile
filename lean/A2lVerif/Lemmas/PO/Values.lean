import A2lVerif.Lemmas.PO.Basic
import A2lVerif.Props.Scalars
/-! # C02: the value of a token, defined on token arrays independently of the parser -/
namespace A2l.Tree
open A2l.G A2l.Sc

instance (cs : List Char) : Decidable (IsHexLit cs) := by
  unfold IsHexLit
  split <;> infer_instance

/-- **the value of a token**: kind and text for `/begin`, `/end`, identifiers (tags, names, enum values) and comments;
    the unescaped value for strings; for numbers the reader's integer value of the literal (`literalValue`: hex = the
    unsigned magnitude), its notation (hex or not) and the float the codec makes of it -/
inductive TV where
  | ident (text : List Char)
  | begin_
  | end_
  | str (val : Out (List Char))
  | num (lit : Option Int) (hex : Bool) (fl : Option (List Char))
  | cmt (text : List Char)
  | other (ty : Nat)

def tokVal (t : PTok) : TV :=
  match t.ty with
  | 0 => .ident t.text
  | 1 => .begin_
  | 2 => .end_
  | 4 => .str (unescape (stripQuotes t.text))
  | 5 => .num (literalValue t.text) (decide (IsHexLit t.text)) t.fl
  | 6 => .cmt t.text
  | n => .other n

def valuesOf (toks : Array PTok) : List TV := toks.toList.map tokVal

/-- two token values are the same: equal, or numbers with the same integer value and notation, or numbers with the
    same float value (an integer parameter is compared as an integer, a float parameter as a float) -/
def TV.same : TV → TV → Prop
  | .num l1 h1 f1, .num l2 h2 f2 => (l1 = l2 ∧ h1 = h2 ∧ l1 ≠ none) ∨ (f1 = f2 ∧ f1 ≠ none)
  | a, b => a = b

def TV.isCmt : TV → Bool
  | .cmt _ => true
  | _ => false

/-- `out` is `inp` with some comments deleted, token by token the same value -/
inductive Pres : List TV → List TV → Prop
  | nil : Pres [] []
  | drop (c : TV) (xs ys : List TV) (hc : c.isCmt = true) (h : Pres xs ys) : Pres (c :: xs) ys
  | keep (x y : TV) (xs ys : List TV) (hxy : TV.same x y) (h : Pres xs ys) : Pres (x :: xs) (y :: ys)

theorem wrapTo_inj (t : IntTy) (n m : Nat) (hn : n < 2 ^ t.bits) (hm : m < 2 ^ t.bits) (h : wrapTo t n = wrapTo t m) :
    n = m := by
  unfold wrapTo at h
  rw [Nat.mod_eq_of_lt hn, Nat.mod_eq_of_lt hm] at h
  -- a value below `2 ^ bits` that is wrapped becomes negative
  generalize 2 ^ t.bits = B at h hn hm
  dsimp only at h
  split at h <;> split at h <;> omega

/-- **an accepted integer literal and what the writer prints for it have the same value and the same notation** -/
theorem int_value_preserved {t : IntTy} {cs : List Char} {v : Int} {h : Bool} (hp : parseInt t cs = some (v, h)) :
    literalValue (printInt t v h) = literalValue cs ∧ (IsHexLit (printInt t v h) ↔ IsHexLit cs) ∧
      literalValue cs ≠ none := by
  have rt := int_roundtrip t v h (parseInt_inRange t cs v h hp)
  -- the literal and what is printed for its value are accepted alike: both hex with magnitudes that wrap to `v`, or
  -- both not hex with value `v`
  rcases parseInt_some hp with ⟨hh, rfl, n, h1, h2, rfl⟩ | ⟨hh, rfl, h1, -⟩
  · rcases parseInt_some rt with ⟨gg, -, m, g1, g2, g3⟩ | ⟨-, hf, -⟩
    · obtain rfl := wrapTo_inj t n m h2 g2 g3
      exact ⟨g1.trans h1.symm, iff_of_true gg hh, by rw [h1]; nofun⟩
    · cases hf
  · rcases parseInt_some rt with ⟨-, hf, -⟩ | ⟨gg, -, g1, -⟩
    · cases hf
    · exact ⟨g1.trans h1.symm, iff_of_false gg hh, by rw [h1]; nofun⟩

theorem stripQuotes_quoted (body : List Char) : stripQuotes ('"' :: (body ++ ['"'])) = body := by
  simp [stripQuotes]

theorem tokVal_ident {t : PTok} (h : t.ty = 0) : tokVal t = .ident t.text := by unfold tokVal; rw [h]; rfl
theorem tokVal_begin {t : PTok} (h : t.ty = 1) : tokVal t = .begin_ := by unfold tokVal; rw [h]; rfl
theorem tokVal_end {t : PTok} (h : t.ty = 2) : tokVal t = .end_ := by unfold tokVal; rw [h]; rfl
theorem tokVal_str {t : PTok} (h : t.ty = 4) : tokVal t = .str (unescape (stripQuotes t.text)) := by
  unfold tokVal; rw [h]; rfl
theorem tokVal_num {t : PTok} (h : t.ty = 5) :
    tokVal t = .num (literalValue t.text) (decide (IsHexLit t.text)) t.fl := by unfold tokVal; rw [h]; rfl
theorem tokVal_cmt {t : PTok} (h : t.ty = 6) : tokVal t = .cmt t.text := by unfold tokVal; rw [h]; rfl

/-- corresponding tokens have the same value (the float codec being idempotent on the token's float text) -/
theorem TokSim.same {lx : LexEnv} {t : PTok} {w : WTok} (h : TokSim lx t w)
    (hfl : t.ty = 5 → ∀ r, t.fl = some r → lx.flOf r = some r) (line : Nat) :
    TV.same (tokVal t) (tokVal (w.toPTok lx line)) := by
  cases h with
  | ident h0 hw htext =>
    rw [tokVal_ident h0, tokVal_ident (t := w.toPTok lx line) hw]
    exact congrArg TV.ident htext.symm
  | begin_ h0 hw htext =>
    rw [tokVal_begin h0, tokVal_begin (t := w.toPTok lx line) hw]
    exact rfl
  | end_ h0 hw htext =>
    rw [tokVal_end h0, tokVal_end (t := w.toPTok lx line) hw]
    exact rfl
  | str str h0 hw hval htext =>
    rw [tokVal_str h0, tokVal_str (t := w.toPTok lx line) hw]
    show TV.str _ = TV.str (unescape (stripQuotes w.text))
    rw [htext, hval, stripQuotes_quoted, unescape_escape str]
  | int ity v hex h0 hw hval htext =>
    obtain ⟨a1, a2, a3⟩ := int_value_preserved hval
    rw [tokVal_num h0, tokVal_num (t := w.toPTok lx line) hw]
    refine .inl ⟨?_, ?_, a3⟩
    · show _ = literalValue w.text
      rw [htext, a1]
    · show _ = decide (IsHexLit w.text)
      rw [htext]
      exact (decide_eq_decide.2 a2).symm
  | dbl r h0 hw hval htext =>
    rw [tokVal_num h0, tokVal_num (t := w.toPTok lx line) hw]
    refine .inr ⟨?_, by rw [hval]; nofun⟩
    show t.fl = if w.ty = 5 then lx.flOf w.text else none
    rw [if_pos hw, htext, hval, hfl h0 r hval]
  | cmt h0 hw htext =>
    rw [tokVal_cmt h0, tokVal_cmt (t := w.toPTok lx line) hw]
    exact congrArg TV.cmt htext.symm

/-- **content preservation at token level**: if `ts` corresponds to the written stream `ws` then the values of the
    parser tokens of `ws` (whatever their line numbers) are those of `ts` with the skipped comments deleted -/
theorem TSim.pres {lx : LexEnv} {ts : List PTok} {ws : List WTok} (h : TSim lx ts ws)
    (hfl : ∀ t ∈ ts, t.ty = 5 → ∀ r, t.fl = some r → lx.flOf r = some r) :
    ∀ line, Pres (ts.map tokVal) ((mkToksFrom lx line ws).map tokVal) := by
  induction h with
  | nil => intro _; exact Pres.nil
  | skip t ts ws h6 _ ih =>
    intro line
    refine Pres.drop _ _ _ ?_ (ih (fun x hx => hfl x (List.mem_cons_of_mem _ hx)) line)
    rw [tokVal_cmt h6]
    rfl
  | tok t w ts ws h1 _ ih =>
    intro line
    simp only [List.map_cons, mkToksFrom]
    exact Pres.keep _ _ _ _ (h1.same (hfl t List.mem_cons_self) _) (ih (fun x hx => hfl x (List.mem_cons_of_mem _ hx)) _)

end A2l.Tree
