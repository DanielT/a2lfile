import A2lVerif.Props.Scalars
import A2lVerif.Lemmas.RT.Fields
import A2lVerif.Lemmas.RT.FieldsAll
import A2lVerif.Lemmas.PO.Frame
import A2lVerif.Lemmas.PO.Hyps
import A2lVerif.Lemmas.PO.Basic
import A2lVerif.Lemmas.PO.Wf
/-! # C02: the scalars, structs, arrays, sequences and parameter lists the parser accepted -/
namespace A2l.Tree
open A2l.G A2l.Sc

/-- what is known of an element (a scalar, or a struct of scalars) the parser returned: it is well-typed (`ElemOk`, the
    condition under which the written element is read back) and its written tokens correspond to the consumed ones -/
structure ElemPost (c : RCfg) (e : Env) (it : ItemTy) (s : PState) (v : Val) (s' : PState) : Prop where
  fwd : Adv2 s s'
  ok : ElemOk c it (normElem v)
  sim : ∀ ind, TSim c.lx (seg e s.pos s'.pos) (elemToks ind v)
  /-- its written tokens are read back by the tokenizer -/
  lex : ElemLex v

section
variable {e : Env} {lx : LexEnv} (hin : InOk e lx) (X : Array PTok)
include hin

theorem parseItem_scalar_post (fuel : Nat) (ctx : Ctx) (it : ItemTy) (hit : scalarTyB e.table it = true)
    (s : PState) (v : Val) (s' : PState) (h : parseItem fuel ctx it e s = .ok v s') :
    ElemPost (mkC e lx X s.ver) e it s v s' := by
  have hst := hin.strict
  cases fuel with
  | zero => rw [parseItem] at h; cases h
  | succ fuel =>
    cases it with
    | ident =>
      obtain ⟨t, off, o1, hty, rfl, hid⟩ := parseItem_ident_inv h
      exact ⟨o1.fwd, hid, fun ind => o1.sim (TokSim.ident t ⟨0, _, off, ind⟩ hty rfl rfl), hin.identText _ t o1.last hty⟩
    | string =>
      rw [parseItem] at h
      obtain ⟨str, off, h1, rfl⟩ := withOff_ok (g := fun v off => Val.str v off) h
      obtain ⟨t, o1, hty, hu⟩ := getString_strict hst h1
      exact ⟨o1.fwd, trivial, fun ind => o1.sim (TokSim.str t ⟨4, _, off, ind⟩ str hty rfl hu rfl), trivial⟩
    | double | float =>
      rw [parseItem] at h
      obtain ⟨r, off, h1, rfl⟩ := withOff_ok (g := fun v off => Val.dbl v off) h
      obtain ⟨t, o1, hty, hfl⟩ := getDouble_ok h1
      exact ⟨o1.fwd, hin.fl _ t r o1.last hty hfl, fun ind => o1.sim (TokSim.dbl t ⟨5, r, off, ind⟩ r hty rfl hfl rfl),
        hin.numText _ t r o1.last hty hfl⟩
    | int w =>
      obtain ⟨t, x, hex, off, o1, hty, rfl, hp⟩ := parseItem_int_inv h
      exact ⟨o1.fwd, ⟨rfl, parseInt_inRange _ _ _ _ hp⟩,
        fun ind => o1.sim (TokSim.int t ⟨5, _, off, ind⟩ (intTyOf w) x hex hty rfl hp rfl), trivial⟩
    | strMax n =>
      rw [parseItem] at h
      obtain ⟨str, s1, h1, h2⟩ := bind_eq_ok h
      cases h2
      obtain ⟨t, o1, hty, hu, hlen⟩ := getStringMaxlen_strict hst h1
      exact ⟨o1.fwd, ⟨rfl, fun _ => hlen⟩, fun ind => o1.sim (TokSim.str t ⟨4, _, 0, ind⟩ str hty rfl hu rfl), trivial⟩
    | enumRef ty =>
      rw [parseItem] at h
      simp only [getEnv_bind] at h
      simp only [scalarTyB] at hit
      split at hit
      · rename_i items hl
        rw [hl] at h
        dsimp only at h
        obtain ⟨name, off, h1, rfl⟩ := withOff_ok (g := fun v off => Val.enum v off) h
        obtain ⟨t, eit, o1, hty, hname, hid, hlk, hver⟩ := parseEnum_ok hst h1
        refine ⟨o1.fwd, ?_, fun ind => ?_, by rw [hname]; exact hin.identText _ t o1.last hty⟩
        · refine ⟨items, eit, hl, hid, ?_, fun hv => absurd hv hver⟩
          show lookupEnumItem items (lx.symOf name) = some eit
          rw [hname, ← hin.sym _ t o1.last hty]; exact hlk
        · exact o1.sim (TokSim.ident t ⟨0, name, off, ind⟩ hty rfl hname)
      · cases hit
    | structRef _ | arr _ _ | seq _ _ => cases hit

end

structure ItemPost (c : RCfg) (e : Env) (it : ItemTy) (s : PState) (v : Val) (s' : PState) : Prop where
  fwd : Adv2 s s'
  wf : FieldWf c it (normField v)
  sim : ∀ ind, TSim c.lx (seg e s.pos s'.pos) (fieldToks ind v)
  lex : FieldLex v
  /-- a sequence of identifiers ends in front of a token that ends it, in every written stream whose next significant
      token is the input's -/
  seqk : ∀ stop, it = .seq .ident stop → ∀ rest, NextRel (tailFrom e s'.pos) rest → FollowId rest →
    SeqStops c .ident stop (nextNC rest)

theorem elemOk_scalar {c : RCfg} {tbl : Table} {it : ItemTy} {v : Val} (hit : scalarTyB tbl it = true)
    (h : ElemOk c it (normElem v)) :
    ScalarOk c it v ∧ (∀ ind, elemToks ind v = scalarToks ind v) ∧ (ElemLex v → ScalarLex v) := by
  have hs : ScalarOk c it (normElem v) := by
    cases it with
    | structRef _ => cases hit
    | _ => exact h
  cases v with
  | block ty info fs ch cm => exact nomatch scalarOk_isScalar c hs
  | _ => exact ⟨hs, fun _ => rfl, id⟩

/-- an accepted element is not an array / sequence value: as a parameter it is written with the same tokens -/
theorem elemOk_field {c : RCfg} {it : ItemTy} {v : Val} (h : ElemOk c it (normElem v)) :
    normField v = normElem v ∧ (∀ ind, fieldToks ind v = elemToks ind v) ∧ (ElemLex v → FieldLex v) := by
  cases v with
  | arr vs => cases elemOk_shape c h
  | seq vs => cases elemOk_shape c h
  | _ => exact ⟨rfl, fun _ => rfl, id⟩

section
variable {e : Env} {lx : LexEnv} (hin : InOk e lx) (X : Array PTok)
include hin

theorem parseItems_scalars_post (ctx : Ctx) : ∀ (fuel : Nat) (sits : List ItemTy),
    (∀ it ∈ sits, scalarTyB e.table it = true) → ∀ (s : PState) (fs : List Val) (s' : PState),
    parseItems fuel ctx sits e s = .ok fs s' →
    Adv2 s s' ∧ ScalarsOk (mkC e lx X s.ver) sits fs ∧ (∀ ind, TSim lx (seg e s.pos s'.pos) (fs.flatMap (scalarToks ind))) ∧
      ∀ f ∈ fs, ScalarLex f
  | _, [], _, s, fs, s', h => by
    obtain ⟨rfl, rfl⟩ := parseItems_nil_inv h
    exact ⟨Adv2.refl _, trivial, fun _ => TSim.seg_self e _, fun _ h => (List.not_mem_nil h).elim⟩
  | _, it :: its, hall, s, fs, s', h => by
    obtain ⟨fuel, v, s1, vs, h1, h3, rfl⟩ := parseItems_cons_inv h
    have hit := hall it List.mem_cons_self
    have p1 := parseItem_scalar_post hin X fuel ctx it hit s v s1 h1
    obtain ⟨f2, ok2, sim2, lex2⟩ := parseItems_scalars_post ctx fuel its (fun x hx => hall x (List.mem_cons_of_mem _ hx)) s1 vs _ h3
    obtain ⟨hok1, htoks, hlex⟩ := elemOk_scalar hit p1.ok
    rw [p1.fwd.ver] at ok2
    refine ⟨p1.fwd.trans f2, ⟨hok1, ok2⟩, fun ind => ?_, ?_⟩
    · rw [← seg_append e p1.fwd.pos f2.pos, List.flatMap_cons, ← htoks ind]
      exact (p1.sim ind).append (sim2 ind)
    · exact List.forall_mem_cons.2 ⟨hlex p1.lex, lex2⟩

theorem parseItem_elem_post (fuel : Nat) (ctx : Ctx) (it : ItemTy) (hit : elemTyB e.table it = true)
    (s : PState) (v : Val) (s' : PState) (h : parseItem fuel ctx it e s = .ok v s') :
    ElemPost (mkC e lx X s.ver) e it s v s' := by
  rcases elemTyB_cases hit with ⟨ty, sits, rfl, hl, hne, hall⟩ | hs
  · cases fuel with
    | zero => rw [parseItem] at h; cases h
    | succ fuel =>
      rw [parseItem] at h
      obtain ⟨f, fs, h1, rfl⟩ := parseType_plain_inv hl h
      obtain ⟨f1, ok1, sim1, lex1⟩ := parseItems_scalars_post hin X ctx f sits hall _ fs _ h1
      exact ⟨⟨f1.pos, Nat.le_trans (Nat.le_succ _) f1.seq, f1.ver⟩, ⟨rfl, rfl, rfl, rfl, sits, hl, hne, ok1⟩,
        fun ind => sim1 ind, lex1⟩
  · exact parseItem_scalar_post hin X fuel ctx it hs s v s' h

theorem parseArr_post (ctx : Ctx) (of : ItemTy) (hof : elemTyB e.table of = true) : ∀ (fuel n : Nat) (s : PState)
    (vs : List Val) (s' : PState), parseArr fuel ctx of n e s = .ok vs s' →
    Adv2 s s' ∧ vs.length = n ∧ (∀ v ∈ vs, ElemOk (mkC e lx X s.ver) of (normElem v) ∧ ElemLex v) ∧
      ∀ ind, TSim lx (seg e s.pos s'.pos) (vs.flatMap (elemToks ind))
  | 0, _, s, vs, s', h => by rw [parseArr] at h; cases h
  | fuel + 1, 0, s, vs, s', h => by
    rw [parseArr] at h
    cases h
    exact ⟨Adv2.refl _, rfl, fun _ h => (List.not_mem_nil h).elim, fun _ => TSim.seg_self e _⟩
  | fuel + 1, n + 1, s, vs, s', h => by
    rw [parseArr] at h
    obtain ⟨v, s1, h1, h2⟩ := bind_eq_ok h
    obtain ⟨vs1, s2, h3, h4⟩ := bind_eq_ok h2
    cases h4
    have p1 := parseItem_elem_post hin X fuel ctx of hof s v s1 h1
    obtain ⟨f2, len2, ok2, sim2⟩ := parseArr_post ctx of hof fuel n s1 vs1 _ h3
    simp only [p1.fwd.ver] at ok2
    refine ⟨p1.fwd.trans f2, by simp [len2], ?_, fun ind => ?_⟩
    · exact List.forall_mem_cons.2 ⟨⟨p1.ok, p1.lex⟩, ok2⟩
    · rw [← seg_append e p1.fwd.pos f2.pos, List.flatMap_cons]
      exact (p1.sim ind).append (sim2 ind)

/-- **a sequence of identifiers ends in front of a token that ends it**: the next significant token of the written
    stream (the same as the input's) is not an identifier, or it is the stop tag the loop saw; an identifier that
    passes `get_identifier` cannot have made the element parser fail -/
theorem seqStops_ident {ctx : Ctx} {stop : List Nat} {p : Nat}
    (hend : (∃ t, nextNCp (tailFrom e p) = some t ∧ t.ty = 0 ∧ stop.contains t.sym = true ∧ ∃ i : Nat, e.toks[i]? = some t) ∨
      (∃ f s0 d s1, s0.pos = p ∧ parseItem f ctx .ident e s0 = .err d s1))
    {ver : Nat} {rest : List WTok} (hnr : NextRel (tailFrom e p) rest) (hfid : FollowId rest) :
    SeqStops (mkC e lx X ver) .ident stop (nextNC rest) := by
  cases hw : nextNC rest with
  | none => trivial
  | some w =>
    by_cases h0 : w.ty = 0
    · right
      unfold NextRel at hnr
      rw [hw] at hnr
      cases hn : nextNCp (tailFrom e p) with
      | none => rw [hn] at hnr; exact hnr.elim
      | some t =>
        rw [hn] at hnr
        obtain ⟨hty, htext⟩ := hnr
        have ht0 : t.ty = 0 := by rw [← hty]; exact h0
        have hidok := hfid w hw h0
        have hne : w.text ≠ [] := by
          obtain ⟨c, cs, hc, -⟩ := hidok
          rw [hc]; exact List.cons_ne_nil _ _
        refine ⟨rfl, h0, hne, ?_⟩
        rcases hend with ⟨t', hn', -, hcont, i, hi⟩ | ⟨f, s0, d, s1, hp0, herr⟩
        · rw [hn] at hn'
          cases hn'
          show stop.contains (lx.symOf w.text) = true
          rw [htext ht0, ← hin.sym i t hi ht0]; exact hcont
        · exfalso
          cases f with
          | zero => rw [parseItem] at herr; cases herr
          | succ f =>
            refine parseItem_ident_not_err f ctx s0 t (by rw [hp0]; exact hn) ht0 ?_ d s1 herr
            rw [← htext ht0]; exact hidok
    · left
      exact ⟨by simpa [firstTy, firstTyS] using h0, by simp [firstTy, firstTyS]⟩

/-- the last conjunct records why the greedy loop ended: on a stop tag, or because the element parser failed at the
    final cursor position -/
theorem parseSeq_post (ctx : Ctx) (of : ItemTy) (stop : List Nat) (hof : elemTyB e.table of = true)
    (hstop : stop ≠ [] → of = .ident) : ∀ (fuel : Nat) (acc : List Val) (s : PState) (vs : List Val) (s' : PState),
    parseSeq fuel ctx of stop acc e s = .ok vs s' →
    ∃ new, vs = acc.reverse ++ new ∧ Adv2 s s' ∧
      (∀ v ∈ new, ElemOk (mkC e lx X s.ver) of (normElem v) ∧ elemStopFree (mkC e lx X s.ver) stop (normElem v) ∧
        ElemLex v) ∧
      (∀ ind, TSim lx (seg e s.pos s'.pos) (new.flatMap (elemToks ind))) ∧
      ((∃ t, nextNCp (tailFrom e s'.pos) = some t ∧ t.ty = 0 ∧ stop.contains t.sym = true ∧ ∃ i : Nat, e.toks[i]? = some t) ∨
       (∃ f s0 d s1, s0.pos = s'.pos ∧ parseItem f ctx of e s0 = .err d s1))
  | 0, _, s, vs, s', h => by rw [parseSeq] at h; cases h
  | fuel + 1, acc, s, vs, s', h => by
    rw [parseSeq_turn] at h
    have hfr := Framed.parseItem_elem e fuel ctx of hof
    cases hp : parseItem fuel ctx of e s with
    | panic => rw [hp] at h; cases h
    | fuel => rw [hp] at h; cases h
    | err d s1 =>
      rw [hp] at h
      cases h
      have := hfr.err hp
      exact ⟨[], (List.append_nil _).symm, ⟨Nat.le_refl _, this.1, this.2⟩, fun _ h => (List.not_mem_nil h).elim,
        fun _ => TSim.seg_self e _,
        .inr ⟨fuel, s, d, _, rfl, hp⟩⟩
    | ok v s1 =>
      rw [hp] at h
      have h2 : (if isStopOf stop e.toks[s1.pos - 1]? = true then _ else _) = PRes.ok vs s' := h
      have p1 := parseItem_elem_post hin X fuel ctx of hof s v s1 hp
      by_cases hs : isStopOf stop e.toks[s1.pos - 1]? = true
      · rw [if_pos hs] at h2
        cases h2
        refine ⟨[], (List.append_nil _).symm, ⟨Nat.le_refl _, p1.fwd.seq, p1.fwd.ver⟩, fun _ h => (List.not_mem_nil h).elim,
          fun _ => TSim.seg_self e _,
          .inl ?_⟩
        have hne : stop ≠ [] := by
          intro h0; subst h0; simp [isStopOf] at hs
        have hid := hstop hne
        subst hid
        obtain ⟨t, off, o1, hty, -, -⟩ := parseItem_ident_inv hp
        refine ⟨t, o1.nextNCp, hty, ?_, _, o1.last⟩
        rw [o1.last] at hs
        cases hst : stop with
        | nil => exact absurd hst hne
        | cons a as => rw [hst] at hs; simpa [isStopOf] using hs
      · rw [if_neg hs] at h2
        obtain ⟨new, hvs, f2, ok2, sim2, hend⟩ := parseSeq_post ctx of stop hof hstop fuel (v :: acc) s1 vs s' h2
        simp only [p1.fwd.ver] at ok2
        refine ⟨v :: new, by rw [hvs]; simp, p1.fwd.trans f2, ?_, fun ind => ?_, hend⟩
        · intro x hx
          rcases List.mem_cons.1 hx with rfl | hx
          · refine ⟨p1.ok, ?_, p1.lex⟩
            cases hst : stop with
            | nil =>
              cases normElem x <;> simp [elemStopFree]
            | cons a as =>
              have hid := hstop (by rw [hst]; exact List.cons_ne_nil _ _)
              subst hid
              obtain ⟨t, off, o1, hty, rfl, -⟩ := parseItem_ident_inv hp
              have hat := o1.last
              rw [hat, hst] at hs
              simp only [isStopOf, Bool.not_eq_true] at hs
              show List.contains (a :: as) (lx.symOf t.text) = false
              rw [← hin.sym _ t hat hty]; exact hs
          · exact ok2 x hx
        · rw [← seg_append e p1.fwd.pos f2.pos, List.flatMap_cons]
          exact (p1.sim ind).append (sim2 ind)

theorem parseItem_post (fuel : Nat) (ctx : Ctx) (it : ItemTy) (hit : itemTyB e.table it = true)
    (s : PState) (v : Val) (s' : PState) (h : parseItem fuel ctx it e s = .ok v s') :
    ItemPost (mkC e lx X s.ver) e it s v s' := by
  revert hit
  fun_cases itemTyB e.table it <;> intro hit
  next of n =>
    cases fuel with
    | zero => rw [parseItem] at h; cases h
    | succ fuel =>
      rw [parseItem] at h
      obtain ⟨vs, s1, h1, h2⟩ := bind_eq_ok h
      cases h2
      obtain ⟨f1, len1, ok1, sim1⟩ := parseArr_post hin X ctx of hit fuel n s vs _ h1
      refine ⟨f1, ?_, fun ind => sim1 ind, fun x hx => (ok1 x hx).2, fun _ h => by cases h⟩
      exact ⟨by simp [len1], List.forall_mem_map.2 fun y hy => (ok1 y hy).1⟩
  next of stop =>
    simp only [Bool.and_eq_true, Bool.or_eq_true, List.isEmpty_iff, beq_iff_eq] at hit
    have hstop : stop ≠ [] → of = .ident := fun hne => by
      rcases hit.2 with h0 | h0
      · exact absurd h0 hne
      · exact h0
    cases fuel with
    | zero => rw [parseItem] at h; cases h
    | succ fuel =>
      rw [parseItem] at h
      obtain ⟨vs, s1, h1, h2⟩ := bind_eq_ok h
      cases h2
      obtain ⟨new, hvs, f1, ok1, sim1, hend⟩ := parseSeq_post hin X ctx of stop hit.1 hstop fuel [] s vs _ h1
      simp only [List.reverse_nil, List.nil_append] at hvs
      subst hvs
      refine ⟨f1, ⟨List.forall_mem_map.2 fun y hy => (ok1 y hy).1, elemTyOk_of_B hit.1, hstop,
        List.forall_mem_map.2 fun y hy => (ok1 y hy).2.1⟩, fun ind => sim1 ind, fun x hx => (ok1 x hx).2.2, ?_⟩
      · intro stop' hit' rest hnr hfid
        injection hit' with hof' hstop'
        subst hof' hstop'
        exact seqStops_ident hin X hend hnr hfid
  next harr hseq =>
    have p1 := parseItem_elem_post hin X fuel ctx it hit s v s' h
    obtain ⟨hn, ht, hlex⟩ := elemOk_field p1.ok
    refine ⟨p1.fwd, ?_, fun ind => by rw [ht ind]; exact p1.sim ind, hlex p1.lex, fun st h => (hseq _ _ h).elim⟩
    rw [hn]
    exact (fieldWf_iff_elemOk harr hseq).2 p1.ok

/-- the parameter list of an element the parser accepted is well-typed (`FieldsWf`: the
    hypothesis of the round-trip theorem about parameters, apart from what follows a sequence) and its written tokens
    correspond one by one to the consumed significant tokens -/
theorem parseItems_post (ctx : Ctx) : ∀ (fuel : Nat) (its : List ItemTy), (∀ it ∈ its, itemTyB e.table it = true) →
    ∀ (s : PState) (fs : List Val) (s' : PState), parseItems fuel ctx its e s = .ok fs s' →
    Adv2 s s' ∧ FieldsWf (mkC e lx X s.ver) its (fs.map normField) ∧
      (∀ ind, TSim lx (seg e s.pos s'.pos) (fieldsToks ind fs)) ∧ (∀ f ∈ fs, FieldLex f) ∧
      (∀ stop, its.getLast? = some (.seq .ident stop) → ∀ rest, NextRel (tailFrom e s'.pos) rest → FollowId rest →
        SeqStops (mkC e lx X s.ver) .ident stop (nextNC rest))
  | _, [], _, s, fs, s', h => by
    obtain ⟨rfl, rfl⟩ := parseItems_nil_inv h
    exact ⟨Adv2.refl _, trivial, fun _ => TSim.seg_self e _, fun _ h => (List.not_mem_nil h).elim, fun _ h => by cases h⟩
  | _, it :: its, hall, s, fs, s', h => by
    obtain ⟨fuel, v, s1, vs, h1, h3, rfl⟩ := parseItems_cons_inv h
    have p1 := parseItem_post hin X fuel ctx it (hall it List.mem_cons_self) s v s1 h1
    obtain ⟨f2, ok2, sim2, lex2, seq2⟩ := parseItems_post ctx fuel its (fun x hx => hall x (List.mem_cons_of_mem _ hx)) s1 vs _ h3
    rw [p1.fwd.ver] at ok2 seq2
    refine ⟨p1.fwd.trans f2, ⟨p1.wf, ok2⟩, fun ind => ?_, ?_, ?_⟩
    rotate_left 2
    · intro stop hl rest hnr hfid
      cases its with
      | nil =>
        simp only [List.getLast?_singleton, Option.some.injEq] at hl
        obtain ⟨-, rfl⟩ := parseItems_nil_inv h3
        exact p1.seqk stop hl rest hnr hfid
      | cons it2 more =>
        rw [List.getLast?_cons_cons] at hl
        exact seq2 stop hl rest hnr hfid
    · rw [← seg_append e p1.fwd.pos f2.pos]
      simp only [fieldsToks, List.flatMap_cons]
      exact (p1.sim ind).append (sim2 ind)
    · exact List.forall_mem_cons.2 ⟨p1.lex, lex2⟩

end

end A2l.Tree
