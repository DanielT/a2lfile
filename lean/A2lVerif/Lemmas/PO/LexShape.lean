import A2lVerif.Lemmas.RT.LexBytes
/-! # C02, text-level front end: the shapes of the tokens `tokenize_core` produces

A second loop invariant (beside `Inv` of Lemmas/Lex.lean): what the bytes of identifier and comment tokens look like, and
that the token behind a `//` comment stands on a later line. -/
namespace A2l.Lex

/-- a `//` comment token: blanks, `//`, no line break -/
def LineC (b : Bytes) (t : Token) : Prop :=
  t.ttype = .comment ∧ ∃ st, t.startpos ≤ st ∧ AllIn b (· == 32) t.startpos st ∧ b[st]? = some 47 ∧ b[st + 1]? = some 47 ∧
    st + 2 ≤ t.endpos ∧ t.endpos ≤ b.size ∧ AllIn b (· != 10) (st + 1) t.endpos

/-- a `/* … */` comment token: blanks, then a block comment up to its first `*/` -/
def BlockC (b : Bytes) (t : Token) : Prop :=
  t.ttype = .comment ∧ ∃ st, t.startpos ≤ st ∧ AllIn b (· == 32) t.startpos st ∧ st ≤ t.endpos ∧ t.endpos ≤ b.size ∧
    BlockCore (b.extract st t.endpos).toList

/-- the shape of a token; `inc` = "there is an `/include` token" (the word behind it is a path) -/
structure TShape (b : Bytes) (inc : Prop) (t : Token) : Prop where
  ident : t.ttype = .identifier → inc ∨ (∃ c, b[t.startpos]? = some c ∧ (isAlpha c || c == 95) = false) ∨
    (AllIn b isIdentChar t.startpos t.endpos ∧ t.startpos < t.endpos ∧ t.endpos ≤ b.size)
  cmt : t.ttype = .comment → LineC b t ∨ BlockC b t

/-- the scanner stands directly behind the `//` comment `t`, in front of its line break or at the end of the input -/
def Pend (b : Bytes) (s : State) (t : Token) : Prop :=
  s.bytepos = t.endpos ∧ s.line = t.line ∧ (s.bytepos = b.size ∨ b[s.bytepos]? = some 10)

def HasInc (toks : List Token) : Prop := ∃ t ∈ toks, t.ttype = .include

structure Inv2 (b : Bytes) (s : State) : Prop where
  shapes : ∀ t ∈ s.tokens.toList, TShape b (HasInc s.tokens.toList) t
  lc : ∀ t ∈ s.tokens.toList, LineC b t → t.line < s.line ∨ Pend b s t
  lcp : s.tokens.toList.Pairwise (fun a c => LineC b a → a.line < c.line)

theorem TShape.mono {b : Bytes} {p q : Prop} {t : Token} (h : TShape b p t) (hpq : p → q) : TShape b q t :=
  ⟨fun hi => by
    rcases h.ident hi with h1 | h1
    · exact .inl (hpq h1)
    · exact .inr h1, h.cmt⟩

theorem getElem?_extract_list (b : Bytes) (a e j : Nat) (he : e ≤ b.size) (hj : a + j < e) :
    (b.extract a e).toList[j]? = b[a + j]? := by
  rw [Array.getElem?_toList, Array.getElem?_extract, if_pos]
  rw [Nat.min_eq_left he]
  exact Nat.lt_sub_iff_add_lt'.2 hj

theorem length_extract_list (b : Bytes) (a e : Nat) (he : e ≤ b.size) : (b.extract a e).toList.length = e - a := by
  rw [Array.length_toList, Array.size_extract, Nat.min_eq_left he]

/-- the bytes from `/*` at `st` to the first `*/` behind it, at `m`, are a block comment -/
theorem blockCore_of_first (b : Bytes) (st m : Nat) (h0 : b[st]? = some 47) (h1 : b[st + 1]? = some 42)
    (hm : st + 2 ≤ m) (hlt : m + 1 < b.size) (e1 : b[m]? = some 42) (e2 : b[m + 1]? = some 47)
    (hp4 : ∀ r, st + 2 ≤ r → r < m → ¬ (b[r]? = some 42 ∧ b[r + 1]? = some 47)) :
    BlockCore (b.extract st (m + 2)).toList := by
  -- the comment has `n + 4` bytes, its `*/` stands at `st + (n + 2)`, `st + (n + 3)`
  obtain ⟨n, rfl⟩ : ∃ n, m = st + (n + 2) := ⟨m - (st + 2), by omega⟩
  have hsz : st + (n + 4) ≤ b.size := hlt
  have hidx : ∀ j, j < n + 4 → (b.extract st (st + (n + 4))).toList[j]? = b[st + j]? :=
    fun j hj => getElem?_extract_list b st _ j hsz (Nat.add_lt_add_left hj st)
  have hlen : (b.extract st (st + (n + 4))).toList.length = n + 4 := by
    rw [length_extract_list b st _ hsz, Nat.add_sub_cancel_left]
  show BlockCore (b.extract st (st + (n + 4))).toList
  refine ⟨?_, (hidx 0 (Nat.succ_pos _)).trans h0,
    (hidx 1 (Nat.succ_lt_succ (Nat.succ_pos _))).trans h1, ?_, ?_⟩
  · rw [hlen]
    exact Nat.le_add_left 4 n
  · rw [hlen]
    show _[n + 2]? = _ ∧ _[n + 3]? = _
    rw [hidx _ (Nat.add_lt_add_left (by decide) n), hidx _ (Nat.add_lt_add_left (by decide) n)]
    exact ⟨e1, e2⟩
  · intro j hj1 hj2
    rw [hlen] at hj2
    obtain ⟨i, rfl⟩ := Nat.exists_eq_add_of_le' (Nat.le_of_succ_le (Nat.le_of_succ_le hj1))
    have hi : i < n + 2 := Nat.lt_of_succ_lt_succ hj2
    rw [Nat.add_sub_cancel, hidx _ (Nat.lt_trans hi (Nat.add_lt_add_left (by decide) n)),
      hidx _ (Nat.lt_trans hj2 (Nat.add_lt_add_left (by decide) n))]
    exact hp4 (st + i) (by omega) (Nat.add_lt_add_left hi st)

theorem notPend {b : Bytes} {s : State} {t : Token} {c : UInt8} (hc : b[s.bytepos]? = some c) (hws : isWs c = false)
    (h : Pend b s t) : False := by
  obtain ⟨-, -, h3⟩ := h
  rcases h3 with h3 | h3
  · have := getElem?_some_lt hc; omega
  · rw [hc] at h3; cases h3; revert hws; decide

theorem Inv2.move {b : Bytes} {s : State} (inv2 : Inv2 b s) {p' line' : Nat} {sep : Bool} (hline : s.line ≤ line')
    (hp : ∀ t ∈ s.tokens.toList, LineC b t → Pend b s t → s.line < line') :
    Inv2 b { tokens := s.tokens, bytepos := p', separated := sep, line := line' } where
  shapes := inv2.shapes
  lc := by
    intro t ht hl
    left
    rcases inv2.lc t ht hl with h | h
    · simp only; omega
    · have := hp t ht hl h; have := h.2.1; simp only; omega
  lcp := inv2.lcp

theorem Inv2.push {b : Bytes} {s : State} (inv2 : Inv2 b s) {tk : Token} {p' line' : Nat} {sep : Bool}
    (hlt : ∀ t ∈ s.tokens.toList, LineC b t → t.line < s.line) (h5 : s.line ≤ tk.line) (h6 : tk.line ≤ line')
    (hshape : TShape b (HasInc (s.tokens.toList ++ [tk])) tk)
    (hpend : LineC b tk → tk.line < line' ∨
      Pend b { tokens := s.tokens.push tk, bytepos := p', separated := sep, line := line' } tk) :
    Inv2 b { tokens := s.tokens.push tk, bytepos := p', separated := sep, line := line' } where
  shapes := fun t ht => by
    rw [Array.toList_push]
    rcases mem_push_toList ht with ht | rfl
    · exact (inv2.shapes t ht).mono (fun ⟨x, hx, hi⟩ => ⟨x, List.mem_append_left _ hx, hi⟩)
    · exact hshape
  lc := fun t ht hl => by
    rcases mem_push_toList ht with ht | rfl
    · exact .inl (Nat.lt_of_lt_of_le (hlt t ht hl) (Nat.le_trans h5 h6))
    · exact hpend hl
  lcp := pairwise_push_toList inv2.lcp fun a ha hl => Nat.lt_of_lt_of_le (hlt a ha hl) h5

theorem TShape.other {b : Bytes} {inc : Prop} {t : Token} (h1 : t.ttype ≠ .identifier) (h2 : t.ttype ≠ .comment) :
    TShape b inc t := ⟨fun h => absurd h h1, fun h => absurd h h2⟩

/-- appending a token that is no comment: no `//` comment becomes pending -/
theorem Inv2.push_noCmt {b : Bytes} {s : State} (inv2 : Inv2 b s) {tk : Token} {p' line' : Nat} {sep : Bool}
    (hlt : ∀ t ∈ s.tokens.toList, LineC b t → t.line < s.line) (h5 : s.line ≤ tk.line) (h6 : tk.line ≤ line')
    (hshape : TShape b (HasInc (s.tokens.toList ++ [tk])) tk) (hnc : tk.ttype ≠ .comment) :
    Inv2 b { tokens := s.tokens.push tk, bytepos := p', separated := sep, line := line' } :=
  inv2.push hlt h5 h6 hshape (fun hl => absurd hl.1 hnc)

/-- the first byte behind the blanks of a comment token is where its `/` stands -/
theorem lineC_start {b : Bytes} {t : Token} {st : Nat} (hl : LineC b t) (h1 : t.startpos ≤ st)
    (hbl : AllIn b (· == 32) t.startpos st) (h47 : b[st]? = some 47) : b[st + 1]? = some 47 := by
  obtain ⟨-, st', a1, a2, a3, a4, -, -, -⟩ := hl
  have : st' = st := by
    rcases Nat.lt_trichotomy st' st with h | h | h
    · obtain ⟨c, hc, hc32⟩ := hbl st' a1 h
      rw [a3] at hc; cases hc; simp at hc32
    · exact h
    · obtain ⟨c, hc, hc32⟩ := a2 st h1 h
      rw [h47] at hc; cases hc; simp at hc32
  subst this; exact a4

theorem Inv2.push_plain {b : Bytes} {s : State} (inv2 : Inv2 b s) {tt : TokType} {e : Nat} {c : UInt8}
    (h : Plain b s tt e c) (n : Nat) :
    Inv2 b { tokens := s.tokens.push { ttype := tt, startpos := s.bytepos, endpos := e, line := s.line + n },
             bytepos := e, separated := false, line := s.line + n } := by
  refine inv2.push_noCmt (fun t ht hl => (inv2.lc t ht hl).resolve_right (notPend h.first h.nws))
    (Nat.le_add_right _ _) (Nat.le_refl _) ⟨fun hid => ?_, fun hc => absurd hc h.noCmt⟩ h.noCmt
  rcases h.ident hid with ⟨t, hb, hti⟩ | hf | hall
  · exact .inl ⟨t, List.mem_append_left _ (Array.mem_toList_iff.2 (Array.mem_of_back? hb)), hti⟩
  · exact .inr (.inl ⟨c, h.first, hf⟩)
  · exact .inr (.inr ⟨hall, h.lt, h.le⟩)

theorem step_good2 {b : Bytes} {s s' : State} (inv2 : Inv2 b s) (hs : step b s = .cont s') : Inv2 b s' := by
  -- no `//` comment is pending in front of a byte that is not white space
  have hold : ∀ {c}, b[s.bytepos]? = some c → isWs c = false →
      ∀ t ∈ s.tokens.toList, LineC b t → t.line < s.line :=
    fun hc hws t ht hl => (inv2.lc t ht hl).resolve_right (notPend hc hws)
  cases Step.of_cont hs with
  | ws e hgt hle =>
    refine inv2.move (Nat.le_add_right _ _) ?_
    intro t _ _ hp
    rcases hp.2.2 with h | h
    · omega
    · have := nlCount_pos_of_nl b s.bytepos _ hgt h
      omega
  | blockComment cs m hcm hnext hm hlt' h42 h47 hfirst =>
    have hbl : AllIn b (· == 32) cs s.bytepos := fun q h1 h2 => ⟨32, hcm.blanks q h1 h2, rfl⟩
    refine inv2.push (hold hcm.slash (by decide)) (Nat.le_refl _) (Nat.le_add_right _ _) ?_ ?_
    · exact ⟨nofun, fun _ => .inr ⟨rfl, s.bytepos, hcm.le, hbl, by simp only; omega, hlt',
        blockCore_of_first b s.bytepos m hcm.slash hnext hm hlt' h42 h47 hfirst⟩⟩
    · intro hl
      have := lineC_start hl hcm.le hbl hcm.slash
      rw [hnext] at this
      cases this
  | lineComment cs e hcm hnext hgt hle hall hstop =>
    exact inv2.push (hold hcm.slash (by decide)) (Nat.le_refl _) (Nat.le_refl _)
      ⟨nofun, fun _ => .inl ⟨rfl, s.bytepos, hcm.le, fun q h1 h2 => ⟨32, hcm.blanks q h1 h2, rfl⟩, hcm.slash, hnext, hgt, hle, hall⟩⟩
      fun _ => .inr ⟨rfl, rfl, hstop⟩
  | tok tt e c n h => exact inv2.push_plain h n
  | identA2ml e c h bp' line' h3 h4 h5 h6 =>
    refine (inv2.push_plain h 0).push_noCmt ?_ (Nat.le_refl _) h5 (TShape.other nofun nofun) nofun
    intro t ht hl
    rcases mem_push_toList ht with ht | rfl
    · exact hold h.first h.nws t ht hl
    · exact absurd hl.1 nofun

structure Shapes (b : Bytes) (ts : List Token) : Prop where
  shapes : ∀ t ∈ ts, TShape b (HasInc ts) t
  lcp : ts.Pairwise (fun a c => LineC b a → a.line < c.line)

theorem Reach.inv2 {b : Bytes} {s : State} (h : Reach b s) : Inv2 b s := by
  induction h with
  | init => exact ⟨fun _ ht => absurd ht List.not_mem_nil, fun _ ht => absurd ht List.not_mem_nil, .nil⟩
  | next _ hs ih => exact step_good2 ih hs

theorem tokenize_shapes (b : Bytes) (ts : List Token) (h : tokenize b = .ok ts) : Shapes b ts := by
  have ho := tokenize_outcome b
  rw [h] at ho
  obtain ⟨e, hre, -, rfl⟩ := ho
  exact ⟨hre.inv2.shapes, hre.inv2.lcp⟩

end A2l.Lex
