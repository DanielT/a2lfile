import A2lVerif.Lemmas.IfDataVals
/-!
# IF_DATA: the A2ML rules read declaratively (`Conf`), and: what the interpreter accepts conforms
-/
namespace A2l.IfData
open A2l.Tree A2l.Aml A2l.G A2l.Sc

/-- `get_identifier` accepts the text without a diagnostic: it does not start with a digit and is at most 1024 bytes -/
def TextClean (v : List Char) : Prop :=
  match v with
  | [] => False
  | c :: _ => ¬ (isAsciiDigit c || utf8Len v > 1024) = true

def IdentClean (t : PTok) : Prop := TextClean t.text

mutual
/-- **the A2ML rules, read declaratively**: the (comment-free) token list `l` is an instance of the definition `sp`.
    `strict = false` adds what the non-strict reader tolerates with a diagnostic. Sequences and tagged structs may
    have any number of elements: nothing here says "greedy". -/
inductive Conf (strict : Bool) (f32 : List Char → Option (List Char)) : Spec → List PTok → Prop where
  | none : Conf strict f32 .none []
  | int {w : Nat} {t : PTok} {r : Int × Bool} : t.ty = 5 → parseInt (intTyOf w) t.text = some r → Conf strict f32 (.int w) [t]
  | float {t : PTok} {txt : List Char} : t.ty = 5 → f32 t.text = some txt → Conf strict f32 .float [t]
  | double {t : PTok} {txt : List Char} : t.ty = 5 → t.fl = some txt → Conf strict f32 .double [t]
  /-- `char[n]`: a string of at most `n` bytes (longer: tolerated by the non-strict reader) -/
  | str {n : Nat} {t : PTok} {s : List Char} : t.ty = 4 → unescape (stripQuotes t.text) = .ok s →
      (strict = true → utf8Len s ≤ n) → Conf strict f32 (.array (.int 0) n) [t]
  /-- an identifier in place of the string: tolerated by the non-strict reader -/
  | strIdent {n : Nat} {t : PTok} : strict = false → t.ty = 0 → Conf strict f32 (.array (.int 0) n) [t]
  | array {of : Spec} {n : Nat} {l : List PTok} : of ≠ .int 0 → ConfRep strict f32 of n l →
      Conf strict f32 (.array of n) l
  | enum {items : List (List Char × Option Int)} {t : PTok} : t.ty = 0 → (lookupKV items t.text).isSome = true →
      (strict = true → IdentClean t) → Conf strict f32 (.enum items) [t]
  | struct {items : List Spec} {l : List PTok} : ConfAll strict f32 items l → Conf strict f32 (.struct items) l
  | seq {of : Spec} {l : List PTok} {n : Nat} : ConfRep strict f32 of n l → Conf strict f32 (.seq of) l
  /-- any number of tagged members; a member that is not defined as `("TAG" ...)*` occurs at most once -/
  | taggedStruct {items : List (Tagged Spec)} {l : List PTok} {tags : List (List Char)} :
      ConfTags strict f32 items l tags → TagsOk (repOf items) tags → Conf strict f32 (.taggedStruct items) l
  | taggedUnionNone {items : List (Tagged Spec)} : Conf strict f32 (.taggedUnion items) []
  | taggedUnion {items : List (Tagged Spec)} {l : List PTok} {tag : List Char} : ConfTag strict f32 items l tag →
      Conf strict f32 (.taggedUnion items) l
/-- the members of a struct, in order -/
inductive ConfAll (strict : Bool) (f32 : List Char → Option (List Char)) : List Spec → List PTok → Prop where
  | nil : ConfAll strict f32 [] []
  | cons {sp : Spec} {rest : List Spec} {l1 l2 : List PTok} : Conf strict f32 sp l1 → ConfAll strict f32 rest l2 →
      ConfAll strict f32 (sp :: rest) (l1 ++ l2)
/-- `n` instances of the same definition one after the other (array elements, sequence elements) -/
inductive ConfRep (strict : Bool) (f32 : List Char → Option (List Char)) : Spec → Nat → List PTok → Prop where
  | zero {sp : Spec} : ConfRep strict f32 sp 0 []
  | succ {sp : Spec} {n : Nat} {l1 l2 : List PTok} : Conf strict f32 sp l1 → ConfRep strict f32 sp n l2 →
      ConfRep strict f32 sp (n + 1) (l1 ++ l2)
/-- one tagged member: recognised by its tag and its block-ness; a block is closed by `/end TAG` -/
inductive ConfTag (strict : Bool) (f32 : List Char → Option (List Char)) :
    List (Tagged Spec) → List PTok → List Char → Prop where
  | kw {items : List (Tagged Spec)} {tg : Tagged Spec} {t : PTok} {body : List PTok} :
      lookupTagged items t.text = some tg → tg.isBlock = false → t.ty = 0 → Conf strict f32 tg.item body →
      ConfTag strict f32 items (t :: body) t.text
  | block {items : List (Tagged Spec)} {tg : Tagged Spec} {b t e t' : PTok} {body : List PTok} :
      lookupTagged items t.text = some tg → tg.isBlock = true → b.ty = 1 → t.ty = 0 → Conf strict f32 tg.item body →
      e.ty = 2 → t'.ty = 0 → t'.text = t.text → ConfTag strict f32 items (b :: t :: body ++ [e, t']) t.text
/-- any number of tagged members -/
inductive ConfTags (strict : Bool) (f32 : List Char → Option (List Char)) :
    List (Tagged Spec) → List PTok → List (List Char) → Prop where
  | nil {items : List (Tagged Spec)} : ConfTags strict f32 items [] []
  | cons {items : List (Tagged Spec)} {l1 l2 : List PTok} {tag : List Char} {tags : List (List Char)} :
      ConfTag strict f32 items l1 tag → ConfTags strict f32 items l2 tags →
      ConfTags strict f32 items (l1 ++ l2) (tag :: tags)
end

variable {e : Env} {f32 : List Char → Option (List Char)} {ctx : Ctx} {s s' : PState}

/-- the interpreter went from `s` to `s'` and the non-comment tokens in between are an instance of `sp` -/
def CRel (e : Env) (f32 : List Char → Option (List Char)) (sp : Spec) (s s' : PState) : Prop :=
  s.pos ≤ s'.pos ∧ s'.pos ≤ e.toks.size ∧ Conf e.strict f32 sp (span e.toks s.pos s'.pos)

theorem textClean_of_identOk {v : List Char} (h : IdentOk true v) : TextClean v := by
  obtain ⟨c, cs, rfl, hc⟩ := h
  have ⟨h1, h2⟩ := hc rfl
  show ¬ (isAsciiDigit c || decide (utf8Len (c :: cs) > 1024)) = true
  rw [h1, Bool.false_or, decide_eq_true_eq]
  exact Nat.not_lt.2 h2

def CP (e : Env) (f32 : List Char → Option (List Char)) (sp : Spec) (p : PM Gen) : Prop :=
  ∀ s g s', s.pos ≤ e.toks.size → p e s = .ok g s' → CRel e f32 sp s s'

def CD (e : Env) (f32 : List Char → Option (List Char)) (items : List (Tagged Spec))
    (d : List Char → Option (Bool × (Ctx → PM Gen))) : Prop :=
  ∀ tag b p, d tag = some (b, p) →
    ∃ tg, lookupTagged items tag = some tg ∧ tg.isBlock = b ∧ ∀ ctx, CP e f32 tg.item (p ctx)

/-- an element that matches the empty token list matches it any number of times (this is why the array loop may
    stop at the first element that consumes nothing: the remaining `dim - k` elements would all be empty too) -/
theorem confRep_nil {strict : Bool} {sp : Spec} (h : Conf strict f32 sp []) :
    ∀ m, ConfRep strict f32 sp m []
  | 0 => .zero
  | m + 1 => ConfRep.succ (l1 := []) (l2 := []) h (confRep_nil h m)

/-- a tagged member from its three parts: (`/begin`) tag, content, (`/end` tag) -/
theorem confTag_of {strict : Bool} {items : List (Tagged Spec)} {tg : Tagged Spec} {tok : PTok} {body : List PTok}
    {isBlock : Bool} {l1 l3 : List PTok}
    (hlk : lookupTagged items tok.text = some tg) (hbody : Conf strict f32 tg.item body) (hblk : tg.isBlock = isBlock)
    (h1 : All2 (agree strict f32) ((if isBlock then [.begin_] else []) ++ [.ident tok.text]) l1)
    (h3 : All2 (agree strict f32) (if isBlock then [.end_, .ident tok.text] else []) l3) :
    ConfTag strict f32 items (l1 ++ body ++ l3) tok.text := by
  cases isBlock with
  | false =>
    obtain _ | ⟨⟨h0, ht⟩, _ | _⟩ := h1
    cases h3
    rw [List.append_nil, ← ht]
    exact .kw (ht ▸ hlk) hblk h0 hbody
  | true =>
    obtain _ | ⟨hb, _ | ⟨⟨h0, ht⟩, _ | _⟩⟩ := h1
    obtain _ | ⟨he, _ | ⟨⟨h0', ht'⟩, _ | _⟩⟩ := h3
    rw [← ht]
    exact .block (ht ▸ hlk) hblk hb h0 hbody he h0' (ht'.trans ht.symm)

theorem Run.conf {sp : Spec} {g : Gen} (h : Run e f32 sp ctx s g s') :
    s.pos ≤ e.toks.size → Spans e (Conf e.strict f32 sp) s s' :=
  Run.rec
    (motive_1 := fun sp _ s _ s' _ => s.pos ≤ e.toks.size → Spans e (Conf e.strict f32 sp) s s')
    (motive_2 := fun l _ s _ s' _ => s.pos ≤ e.toks.size → Spans e (ConfAll e.strict f32 l) s s')
    (motive_3 := fun of _ n s _ s' _ => s.pos ≤ e.toks.size → Spans e (ConfRep e.strict f32 of n) s s')
    (motive_4 := fun of _ s _ s' _ => s.pos ≤ e.toks.size → Spans e (fun l => ∃ k, ConfRep e.strict f32 of k l) s s')
    (motive_5 := fun items _ s it s' _ => s.pos ≤ e.toks.size → Spans e (ConfTag e.strict f32 items · it.tag) s s')
    (motive_6 := fun items _ s its s' _ => s.pos ≤ e.toks.size →
      Spans e (ConfTags e.strict f32 items · (its.map (·.tag))) s s')
    (none := .nil rfl .none)
    (int := fun h _ => have ⟨_, o, h5, hp⟩ := Tree.getInteger_ok h; o.spans (.int h5 hp))
    (float := fun h _ => have ⟨_, o, h5, hp⟩ := getFloat_tok h; o.spans (.float h5 hp))
    (double := fun h _ => have ⟨_, o, h5, hp⟩ := Tree.getDouble_ok h; o.spans (.double h5 hp))
    (str := fun h _ => have ⟨_, o, hv, hl⟩ := Tree.getStringMaxlen_ok h
      o.spans (hv.elim (fun h4 => .str h4.1 h4.2 hl) fun h0 => .strIdent h0.1 h0.2.1))
    (array := fun hne _ ih hs => (ih hs).imp fun _ => .array hne)
    (enum := fun h hsome _ => have ⟨_, o, h0, hv, hid⟩ := Tree.getIdentifier_ok h
      o.spans (.enum h0 (hv ▸ hsome) fun hst => show TextClean _ from hv ▸ textClean_of_identOk (hst ▸ hid)))
    (struct := fun _ ih hs => (ih hs).imp fun _ => .struct)
    (seq := fun _ ih hs => (ih hs).imp fun _ ⟨_, hc⟩ => .seq hc)
    (taggedStruct := fun _ hok ih hs => (ih hs).imp fun _ hc => .taggedStruct hc hok)
    (taggedUnionNone := fun hp => .nil hp .taggedUnionNone)
    (taggedUnion := fun _ ih hs => (ih hs).imp fun _ => .taggedUnion)
    (nil := .nil rfl .nil)
    (cons := fun _ _ ih1 ih2 hs => have r1 := ih1 hs; r1.append (ih2 r1.2.1) fun _ _ => .cons)
    (zero := .nil rfl .zero)
    (last := fun _ hp ih hs => by
      have hc := (ih hs).2.2
      rw [hp, span_self] at hc
      exact .nil hp (confRep_nil hc _) hs)
    (more := fun _ _ _ ih1 ih2 hs => have r1 := ih1 hs; r1.append (ih2 r1.2.1) fun _ _ => .succ)
    (stop := fun hp => .nil hp ⟨0, .zero⟩)
    (elem := fun _ _ _ ih1 ih2 hs => have r1 := ih1 hs;
      r1.append (ih2 r1.2.1) fun _ _ hc ⟨k, hk⟩ => ⟨k + 1, .succ hc hk⟩)
    (mk := fun h1 h2 hlk hblk _ h3 ih hs =>
      have r1 := (skipComments_ok f32 _ _ _ _ _ h1 hs).trans (getNextTagOrComment_ok f32 h2)
      have r2 := ih r1.2.1
      -- `R`: tag and content are there, the end is still to come
      (Spans.append r1 r2 (R := fun l => ∀ l3, All2 _ _ l3 → ConfTag _ _ _ (l ++ l3) _)
        fun _ _ ha hb _ => confTag_of hlk hb hblk ha).append (endOfTagged_ok f32 h3 r2.2.1) fun _ _ h => h _)
    (done := fun hp => .nil hp .nil)
    (item := fun _ _ ih1 ih2 hs => have r1 := ih1 hs; r1.append (ih2 r1.2.1) fun _ _ => .cons)
    h

theorem itemP_conf (f32 : List Char → Option (List Char)) (sp : Spec) (ctx : Ctx) : CP e f32 sp (itemP f32 sp ctx) :=
  fun s g s' hs h => (itemP_run f32 sp ctx s g s' h).conf hs

theorem itemsP_conf (f32 : List Char → Option (List Char)) : ∀ (l : List Spec) (ctx : Ctx) (s : PState) (vs : List Gen)
    (s' : PState), s.pos ≤ e.toks.size → itemsP f32 l ctx e s = .ok vs s' →
    s.pos ≤ s'.pos ∧ s'.pos ≤ e.toks.size ∧ ConfAll e.strict f32 l (span e.toks s.pos s'.pos) :=
  fun l ctx s vs s' hs h => ((Run.struct (itemsP_run f32 l ctx s vs s' h)).conf hs).imp fun _ (.struct hc) => hc

theorem dispatch_conf (f32 : List Char → Option (List Char)) : ∀ (l : List (Tagged Spec)), CD e f32 l (dispatch f32 l) :=
  fun _ _ _ _ h => by
    obtain ⟨tg, hlk, hb, rfl⟩ := dispatch_some h
    exact ⟨tg, hlk, hb, itemP_conf f32 tg.item⟩

end A2l.IfData
