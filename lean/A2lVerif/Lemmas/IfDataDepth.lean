import A2lVerif.Lemmas.IfDataUnknown
import A2lVerif.Lemmas.IfData
/-!
# IF_DATA: the two budgets of the fallback - the nesting limit seen from outside, the recursion budget is not observable

`n` blocks inside each other are kept for `n ≤ MAX_NESTING_DEPTH` and rejected with `NestingTooDeep` for every larger
`n` (that the limit bounds the height of what is stored is in Lemmas/IfDataUid.lean).

The three functions of the fallback are recursive on a budget (`fuel`) that exists in the model only. A larger budget
never changes a result other than "budget exhausted" (`allExt`, `unknownStartWith_ext`); on well-formed tokens
`unknownFuel` is enough (Lemmas/IfData.lean), so every larger budget gives the same result as the one `unknownStart`
uses (Props/C18 `fallback_fuel_independent`).
-/
namespace A2l.IfData
open A2l.Tree A2l.Aml A2l.G A2l.Sc

section

variable {e : Env}

def tokBegin : PTok := { ty := 1, text := "/begin".toList, line := 1, sym := noSym }
def tokEnd : PTok := { ty := 2, text := "/end".toList, line := 1, sym := noSym }
def tokA : PTok := { ty := 0, text := ['a'], line := 1, sym := noSym }
def tokIfData : PTok := { ty := 0, text := ['I', 'F', '_', 'D', 'A', 'T', 'A'], line := 1, sym := noSym }

/-- `/begin a` `n` times -/
def opens : Nat → List PTok
  | 0 => []
  | n + 1 => tokBegin :: tokA :: opens n
/-- `/end a` `n` times -/
def closes : Nat → List PTok
  | 0 => []
  | n + 1 => tokEnd :: tokA :: closes n
/-- `/begin a /begin a ... /end a /end a /end IF_DATA`: the content of an IF_DATA block with `n` blocks inside each
    other, up to the end of the IF_DATA block -/
def nestedToks (n : Nat) : Array PTok := (opens n ++ (closes n ++ [tokEnd, tokIfData])).toArray

/-- what holds of the four tokens that `nestedToks` is made of holds of all its tokens -/
theorem nested_all {P : PTok → Prop} (hb : P tokBegin) (he : P tokEnd) (ha : P tokA) (hi : P tokIfData) (n : Nat) :
    ∀ t ∈ (nestedToks n).toList, P t := by
  have ho : ∀ k, ∀ t ∈ opens k, P t := fun k => by
    induction k with
    | zero => exact fun _ h => (List.not_mem_nil h).elim
    | succ k ih => exact List.forall_mem_cons.2 ⟨hb, List.forall_mem_cons.2 ⟨ha, ih⟩⟩
  have hc : ∀ k, ∀ t ∈ closes k, P t := fun k => by
    induction k with
    | zero => exact fun _ h => (List.not_mem_nil h).elim
    | succ k ih => exact List.forall_mem_cons.2 ⟨he, List.forall_mem_cons.2 ⟨ha, ih⟩⟩
  intro t h
  rcases List.mem_append.1 h with h | h
  · exact ho n t h
  · rcases List.mem_append.1 h with h | h
    · exact hc n t h
    · exact List.forall_mem_cons.2 ⟨he, List.forall_mem_cons.2 ⟨hi, fun _ h => (List.not_mem_nil h).elim⟩⟩ t h

theorem length_opens : ∀ k, (opens k).length = 2 * k
  | 0 => rfl
  | k + 1 => by rw [opens, List.length_cons, List.length_cons, length_opens k]; omega

theorem length_closes : ∀ k, (closes k).length = 2 * k
  | 0 => rfl
  | k + 1 => by rw [closes, List.length_cons, List.length_cons, length_closes k]; omega

theorem nested_size (n : Nat) : (nestedToks n).size = 4 * n + 2 := by
  simp only [nestedToks, List.size_toArray, List.length_append, length_opens, length_closes, List.length_cons,
    List.length_nil]
  omega

/-- tokens that are all on line 1 (identifiers not empty, comments without a line break) are as the tokenizer produces them -/
theorem tokOk_lines (toks : Array PTok)
    (h : ∀ i (h : i < toks.size), toks[i].line = 1 ∧ (toks[i].ty = 0 → toks[i].text ≠ []) ∧
      (toks[i].ty = 6 → countNewlines toks[i].text = 0)) : TokOk toks := by
  refine ⟨?_, ?_, ?_, ?_⟩
  · intro i hi; rw [(h i hi).1]; exact Nat.le_refl _
  · intro i j hi hj _; rw [(h i hi).1, (h j hj).1]; exact Nat.le_refl _
  · intro i hi; exact (h i hi).2.1
  · intro i j hi hj _ h6; rw [(h i hi).1, (h j hj).1, (h i hi).2.2 h6]; exact Nat.le_refl _

theorem nested_tokOk (n : Nat) : TokOk (nestedToks n) :=
  tokOk_lines _ fun i hi =>
    nested_all (P := fun t => t.line = 1 ∧ (t.ty = 0 → t.text ≠ []) ∧ (t.ty = 6 → countNewlines t.text = 0))
      (by decide) (by decide) (by decide) (by decide) n _ (Array.mem_toList_iff.2 (Array.getElem_mem hi))

/-! The fallback on `k` blocks inside each other, step by step. The environment is arbitrary (its tokens are on lines as
the tokenizer produces them, `TokOk`, so that `get_line_offset` returns); only the tokens at the cursor are given. -/

theorem getNextTagOrComment_begin (hk : TokOk e.toks) (hne : 0 < e.toks.size) (ctx : Ctx) {s : PState}
    (h1 : e.toks[s.pos]? = some tokBegin) (h2 : e.toks[s.pos + 1]? = some tokA) :
    ∃ off, getNextTagOrComment ctx e s = .ok (.block tokA true off) ((s.step tokBegin).step tokA) := by
  have h2' : e.toks[({ s with pos := s.pos + 1, lastLine := tokBegin.line } : PState).pos]? = some tokA := h2
  obtain ⟨off, hoff⟩ := getLineOffset_tokOk hk hne { s with pos := s.pos + 1, lastLine := tokBegin.line }
  refine ⟨off, ?_⟩
  unfold getNextTagOrComment
  simp only [getTokenpos_bind, peekToken_bind]
  rw [h1]
  show ((getToken ctx >>= fun _ => _) e s) = _
  rw [bind_def, getToken_eval, h1]
  dsimp only
  rw [bind_def, hoff]
  dsimp only
  rw [bind_def]
  unfold attempt
  rw [expectToken_eval ctx 0 _ tokA h2' (by decide)]
  rfl

/-- at a `/end` the loop of `parse_unknown_taggedstruct` finds no tag: `expect_token` fails, the cursor is put back -/
theorem getNextTagOrComment_end (hk : TokOk e.toks) (hne : 0 < e.toks.size) (ctx : Ctx) {s : PState}
    (h : e.toks[s.pos]? = some tokEnd) :
    getNextTagOrComment ctx e s = .ok .none { s with lastLine := 1 } := by
  obtain ⟨off, hoff⟩ := getLineOffset_tokOk hk hne (s.step tokEnd)
  unfold getNextTagOrComment
  simp only [getTokenpos_bind, peekToken_bind]
  rw [h]
  show ((attempt (expectToken ctx 0) >>= fun _ => _) e s) = _
  rw [bind_def]
  unfold attempt
  rw [expectToken_eval ctx 0 s tokEnd h (by decide), if_pos (by decide)]
  dsimp only
  rw [bind_def, hoff]
  rfl

theorem endOfTagged_end (hk : TokOk e.toks) (hne : 0 < e.toks.size) (ctx : Ctx) {s : PState}
    (h1 : e.toks[s.pos]? = some tokEnd) (h2 : e.toks[s.pos + 1]? = some tokA) :
    ∃ off, endOfTagged ctx tokA.text true e s = .ok off ((s.step tokEnd).step tokA) := by
  obtain ⟨off, hoff⟩ := getLineOffset_tokOk hk hne (s.step tokEnd)
  refine ⟨off, ?_⟩
  unfold endOfTagged
  rw [if_pos rfl, bind_def, expectToken_eval ctx 2 s tokEnd h1 (by decide), if_neg (by decide)]
  dsimp only
  rw [bind_def, hoff]
  dsimp only
  rw [bind_def, expectToken_eval ctx 0 (s.step tokEnd) tokA h2 (by decide), if_neg (by decide)]
  rfl

theorem unknownIfdata_at_end (fuel : Nat) (ctx : Ctx) (isB : Bool) {dp : Nat} (acc : List Gen) {s : PState}
    (hdp : dp ≤ maxNestingDepth) (h : e.toks[s.pos]? = some tokEnd) :
    unknownIfdata (fuel + 1) ctx isB dp acc e s = .ok (.struct 0 acc.reverse) s := by
  rw [unknownIfdata.eq_def]
  dsimp only
  rw [if_neg (by omega)]
  simp only [peekToken_bind]
  rw [h]
  rfl

theorem closes_succ : ∀ k, closes (k + 1) = closes k ++ [tokEnd, tokA]
  | 0 => rfl
  | k + 1 => congrArg (tokEnd :: tokA :: ·) (closes_succ k)

/-- what `parse_unknown_ifdata` at depth `dp` does on `k` blocks inside each other, seen from the state `s` in front of
    them: it returns with the cursor in front of the `/end` behind the last `/end a`; or it fails where block number
    `MAX_NESTING_DEPTH + 1` would open, behind `MAX_NESTING_DEPTH + 1 - dp` pairs `/begin a`, each of which took an id -/
def NestSpec (e : Env) (s : PState) (dp k : Nat) (rest : List PTok) : PRes Gen → Prop
  | .ok _ s' => dp + k ≤ maxNestingDepth ∧ e.toks.toList.drop s'.pos = tokEnd :: rest
  | .err d s' => maxNestingDepth < dp + k ∧ d = ⟨.nestingTooDeep, 1⟩ ∧
      ∃ j, dp + j = maxNestingDepth + 1 ∧ s'.pos = s.pos + 2 * j ∧ s'.seqId = s.seqId + j
  | .panic => False
  | .fuel => False

theorem nestSpec_deep {s : PState} {dp : Nat} (k fuel : Nat) (ctx : Ctx) (acc : List Gen) (rest : List PTok)
    (hdeep : maxNestingDepth < dp) (hdp : dp ≤ maxNestingDepth + 1) (hl : s.lastLine = 1) :
    NestSpec e s dp k rest (unknownIfdata (fuel + 1) ctx true dp acc e s) := by
  rw [unknownIfdata_deep fuel ctx true dp acc s hdeep, hl]
  exact ⟨Nat.lt_of_lt_of_le hdeep (Nat.le_add_right dp k), rfl, 0, Nat.le_antisymm hdp hdeep, rfl, rfl⟩

/-- Symbolic execution, by induction on `k`. One level is three calls (`parse_unknown_ifdata`,
    `parse_unknown_taggedstruct`, its loop), hence the budget. A call with `dp = MAX_NESTING_DEPTH + 1` fails at once
    with the line of the last token read, which is 1 when that token was an `a` (`hl`). -/
theorem unknownIfdata_nest (hk : TokOk e.toks) (hne : 0 < e.toks.size) :
    ∀ (k fuel : Nat) (ctx : Ctx) (dp : Nat) (acc : List Gen) (s : PState) (rest : List PTok),
      e.toks.toList.drop s.pos = opens k ++ (closes k ++ tokEnd :: rest) → 3 * k < fuel →
      dp ≤ maxNestingDepth + 1 → (maxNestingDepth < dp → s.lastLine = 1) →
      NestSpec e s dp k rest (unknownIfdata fuel ctx true dp acc e s) := by
  intro k
  induction k with
  | zero =>
    intro fuel ctx dp acc s rest hd hf hdp hl
    obtain ⟨f, rfl⟩ : ∃ f, fuel = f + 1 := ⟨fuel - 1, by omega⟩
    by_cases hdeep : maxNestingDepth < dp
    · exact nestSpec_deep 0 f ctx acc rest hdeep hdp (hl hdeep)
    · rw [unknownIfdata_at_end f ctx true acc (Nat.le_of_not_lt hdeep) (drop_toList_eq_cons hd).1]
      exact ⟨Nat.le_of_not_lt hdeep, hd⟩
  | succ k ih =>
    intro fuel ctx dp acc s rest hd hf hdp hl
    obtain ⟨f, rfl⟩ : ∃ f, fuel = f + 4 := ⟨fuel - 4, by omega⟩
    by_cases hdeep : maxNestingDepth < dp
    · exact nestSpec_deep (k + 1) (f + 3) ctx acc rest hdeep hdp (hl hdeep)
    have hd' : e.toks.toList.drop s.pos =
        tokBegin :: tokA :: (opens k ++ (closes k ++ tokEnd :: (tokA :: tokEnd :: rest))) := by
      rw [hd, closes_succ, List.append_assoc (closes k)]
      rfl
    obtain ⟨h1, hd1, _⟩ := drop_toList_eq_cons hd'
    obtain ⟨h2, hd2, _⟩ := drop_toList_eq_cons hd1
    obtain ⟨off, hnt⟩ := getNextTagOrComment_begin hk hne ctx h1 h2
    -- the content of the block: `k` blocks, one level deeper, behind `/begin a`, with the next id
    have hih := ih (f + 1) ⟨tokA.text, tokA.fileid, tokA.line⟩ (dp + 1) []
      { (s.step tokBegin).step tokA with seqId := ((s.step tokBegin).step tokA).seqId + 1 } (tokA :: tokEnd :: rest) hd2
      (by omega) (by omega) (fun _ => rfl)
    dsimp only at hih
    rw [unknownIfdata.eq_def]
    dsimp only
    rw [if_neg hdeep]
    simp only [peekToken_bind]
    rw [h1]
    dsimp only
    rw [if_neg (by decide), if_neg (by decide), if_neg (by decide), if_pos (by decide), if_pos trivial,
      unknownTaggedstruct_succ, bind_def]
    simp only [getEnv_bind]
    rw [bind_def, skipComments_nop ctx _ h1 (by decide)]
    dsimp only
    rw [unknownTsLoop_succ, bind_def, bind_def]
    unfold attempt
    rw [hnt]
    dsimp only
    simp only [getNextId_bind]
    rw [bind_def]
    generalize unknownIfdata (f + 1) ⟨tokA.text, tokA.fileid, tokA.line⟩ true (dp + 1) [] e _ = r at hih ⊢
    cases r with
    | panic => exact hih
    | fuel => exact hih
    | err d s' =>
      obtain ⟨h, hd, j, hj, hp, hq⟩ := hih
      exact ⟨by omega, hd, j + 1, by omega, by rw [hp]; show s.pos + 1 + 1 + _ = _; omega,
        by rw [hq]; show s.seqId + 1 + _ = _; omega⟩
    | ok result s4 =>
      obtain ⟨h, hd4⟩ := hih
      obtain ⟨h5, hd5, _⟩ := drop_toList_eq_cons hd4
      obtain ⟨h6, hd6, _⟩ := drop_toList_eq_cons hd5
      have h7 : e.toks[((s4.step tokEnd).step tokA).pos]? = some tokEnd := (drop_toList_eq_cons hd6).1
      obtain ⟨endOff, hend⟩ := endOfTagged_end hk hne ⟨tokA.text, tokA.fileid, tokA.line⟩ h5 h6
      dsimp only
      rw [bind_def, hend]
      dsimp only
      -- the loop meets the `/end` of the enclosing block and stops; so does the enclosing `parse_unknown_ifdata`
      rw [unknownTsLoop_succ, bind_def]
      unfold attempt
      rw [getNextTagOrComment_end hk hne ctx h7]
      dsimp only
      rw [pure_def]
      dsimp only
      simp only [peekToken_bind]
      rw [h7]
      dsimp only
      rw [if_neg (by decide), pure_def]
      dsimp only
      show NestSpec e s dp (k + 1) rest (unknownIfdata (f + 2 + 1) ctx true dp _ e ((s4.step tokEnd).step tokA))
      rw [unknownIfdata_at_end (f + 2) ctx true _ (by omega) h7]
      exact ⟨by omega, hd6⟩

/-- the limit seen from outside: `n ≤ MAX_NESTING_DEPTH` blocks inside each other are kept, the cursor ends in front of
    the closing `/end`; for every larger `n` the fallback fails behind `MAX_NESTING_DEPTH + 1` pairs `/begin a` -/
theorem unknownStart_nested (n : Nat) (strict : Bool) (ctx : Ctx) (s : PState) (hs : s.pos = 0) :
    (n ≤ maxNestingDepth →
      ∃ g s', unknownStart ctx (specialEnv (nestedToks n) strict) s = .ok g s' ∧ s'.pos = 4 * n) ∧
    (maxNestingDepth < n →
      ∃ s', unknownStart ctx (specialEnv (nestedToks n) strict) s = .err ⟨.nestingTooDeep, 1⟩ s' ∧
        s'.pos = 2 * (maxNestingDepth + 1) ∧ s'.seqId = s.seqId + (maxNestingDepth + 1)) := by
  have hd : (specialEnv (nestedToks n) strict).toks.toList.drop s.pos = opens n ++ (closes n ++ [tokEnd, tokIfData]) := by
    rw [hs]; rfl
  have hsz : 0 < (specialEnv (nestedToks n) strict).toks.size := by
    show 0 < (nestedToks n).size; rw [nested_size]; omega
  have hres := unknownIfdata_nest (nested_tokOk n) hsz n (unknownFuel (nestedToks n).size) ctx 0 [] s [tokIfData] hd
    (by rw [nested_size]; unfold unknownFuel; omega) (Nat.zero_le _) (fun h => absurd h (Nat.not_lt_zero _))
  -- the content starts with `/begin` or `/end`, not with an identifier
  have hty : ∃ t, (specialEnv (nestedToks n) strict).toks[s.pos]? = some t ∧ t.ty ≠ 0 := by
    cases n with
    | zero => exact ⟨tokEnd, (drop_toList_eq_cons hd).1, by decide⟩
    | succ n => exact ⟨tokBegin, (drop_toList_eq_cons hd).1, by decide⟩
  obtain ⟨t, ht, h0⟩ := hty
  have heq : unknownStart ctx (specialEnv (nestedToks n) strict) s =
      unknownIfdata (unknownFuel (nestedToks n).size) ctx true 0 [] (specialEnv (nestedToks n) strict) s := by
    unfold unknownStart
    simp only [getEnv_bind, peekToken_bind]
    rw [ht]
    dsimp only
    rw [if_neg h0]
    rfl
  rw [heq]
  generalize unknownIfdata _ ctx true 0 [] (specialEnv (nestedToks n) strict) s = r at hres
  cases r with
  | ok g s' =>
    -- two tokens are left behind the cursor
    have hl : (nestedToks n).size - s'.pos = 2 := by
      have := congrArg List.length hres.2
      rwa [List.length_drop, Array.length_toList] at this
    rw [nested_size] at hl
    exact ⟨fun _ => ⟨g, s', rfl, by omega⟩, fun h => absurd hres.1 (by omega)⟩
  | err d s' =>
    obtain ⟨h, rfl, j, hj, hp, hq⟩ := hres
    obtain rfl : j = maxNestingDepth + 1 := by omega
    exact ⟨fun h' => absurd h (by omega), fun _ => ⟨s', rfl, by rw [hp, hs]; omega, hq⟩⟩
  | panic => exact hres.elim
  | fuel => exact hres.elim

end

variable {e : Env}

/-- from every state `m'` does what `m` does, unless `m` runs out of budget: a judgement about two programs, with the
    usual rules -/
def ExtP {α : Type} (m m' : PM α) (e : Env) : Prop := ∀ s, m e s ≠ .fuel → m' e s = m e s

theorem ExtP.refl {α : Type} (m : PM α) : ExtP m m e := fun _ _ => rfl

theorem ExtP.bind {α β} {m m' : PM α} {f f' : α → PM β} (hm : ExtP m m' e) (hf : ∀ a, ExtP (f a) (f' a) e) :
    ExtP (m >>= f) (m' >>= f') e := by
  intro s hne
  rw [bind_def] at hne
  rw [bind_def m' f', bind_def m f]
  cases h : m e s with
  | fuel => rw [h] at hne; exact absurd rfl hne
  | ok a s1 =>
    rw [h] at hne
    rw [hm s (by rw [h]; intro hh; cases hh), h]
    exact hf a s1 hne
  | err d s1 => rw [hm s (by rw [h]; intro hh; cases hh), h]
  | panic => rw [hm s (by rw [h]; intro hh; cases hh), h]

theorem ExtP.bindSame {α β} {m : PM α} {f f' : α → PM β} (hf : ∀ a, ExtP (f a) (f' a) e) : ExtP (m >>= f) (m >>= f') e :=
  .bind (.refl m) hf

theorem ExtP.ite {α} {c : Prop} [Decidable c] {m m' n n' : PM α} (h1 : ExtP m n e) (h2 : ExtP m' n' e) :
    ExtP (if c then m else m') (if c then n else n') e := by
  split
  · exact h1
  · exact h2

theorem ExtP.attempt {α β} {m : PM α} {K K' : Except Diag α → PM β} (hok : ∀ a, ExtP (K (.ok a)) (K' (.ok a)) e)
    (herr : ∀ d, ExtP (K (.error d)) (K' (.error d)) e) : ExtP (attempt m >>= K) (attempt m >>= K') e :=
  .bindSame fun r => by
    cases r with
    | ok a => exact hok a
    | error d => exact herr d

structure AllExt (e : Env) (fuel fuel' : Nat) : Prop where
  u : ∀ ctx isB dp acc, ExtP (unknownIfdata fuel ctx isB dp acc) (unknownIfdata fuel' ctx isB dp acc) e
  ts : ∀ ctx dp, ExtP (unknownTaggedstruct fuel ctx dp) (unknownTaggedstruct fuel' ctx dp) e
  l : ∀ ctx dp acc, ExtP (unknownTsLoop fuel ctx dp acc) (unknownTsLoop fuel' ctx dp acc) e

theorem allExt_zero (fuel' : Nat) : AllExt e 0 fuel' :=
  ⟨fun _ _ _ _ _ hne => absurd rfl hne, fun _ _ _ hne => absurd rfl hne, fun _ _ _ _ hne => absurd rfl hne⟩

theorem u_scalar_ext {α} {fuel fuel' : Nat} (ih : AllExt e fuel fuel') {m : PM α} {g : α → Nat → Gen}
    {ctx : Ctx} {isB : Bool} {dp : Nat} {acc : List Gen} :
    ExtP (m >>= fun v => getLineOffset >>= fun off => unknownIfdata fuel ctx isB dp (g v off :: acc))
      (m >>= fun v => getLineOffset >>= fun off => unknownIfdata fuel' ctx isB dp (g v off :: acc)) e :=
  .bindSame fun _ => .bindSame fun _ => ih.u ctx isB dp _

theorem u_ext_step {fuel fuel' : Nat} (ih : AllExt e fuel fuel') (ctx : Ctx) (isB : Bool) (dp : Nat) (acc : List Gen) :
    ExtP (unknownIfdata (fuel + 1) ctx isB dp acc) (unknownIfdata (fuel' + 1) ctx isB dp acc) e := by
  rw [unknownIfdata.eq_def (fuel + 1), unknownIfdata.eq_def (fuel' + 1)]
  dsimp only
  refine .ite (.refl _) (.bindSame fun o => ?_)
  cases o with
  | none => exact .refl _
  | some t =>
    dsimp only
    refine .ite (u_scalar_ext ih) (.ite (u_scalar_ext ih) (.ite ?_ (.ite
      (.ite (.bind (ih.ts ctx dp) fun _ => ih.u ctx isB dp _) (.refl _))
      (.ite (.refl _) (.ite (ih.u ctx isB dp acc) (.bindSame fun _ => ih.u ctx isB dp acc))))))
    -- a Number token: i32, i64, u64, f64 in turn, the token put back in between
    have hint : ∀ (w : Nat) (a : Int × Bool),
        ExtP (getLineOffset >>= fun off => unknownIfdata fuel ctx isB dp (.int w off a.1 a.2 :: acc))
          (getLineOffset >>= fun off => unknownIfdata fuel' ctx isB dp (.int w off a.1 a.2 :: acc)) e :=
      fun w a => .bindSame fun _ => ih.u ctx isB dp _
    refine .attempt (hint 2) fun _ => .bindSame fun _ => ?_
    refine .attempt (hint 3) fun _ => .bindSame fun _ => ?_
    refine .attempt (hint 7) fun _ => .bindSame fun _ => ?_
    exact u_scalar_ext ih

theorem ts_ext_step {fuel fuel' : Nat} (ih : AllExt e fuel fuel') (ctx : Ctx) (dp : Nat) :
    ExtP (unknownTaggedstruct (fuel + 1) ctx dp) (unknownTaggedstruct (fuel' + 1) ctx dp) e := by
  rw [unknownTaggedstruct_succ, unknownTaggedstruct_succ]
  exact .bindSame fun _ => .bindSame fun _ => .bind (ih.l ctx dp []) fun _ => .refl _

theorem l_ext_step {fuel fuel' : Nat} (ih : AllExt e fuel fuel') (ctx : Ctx) (dp : Nat) (acc : List (TItem Gen)) :
    ExtP (unknownTsLoop (fuel + 1) ctx dp acc) (unknownTsLoop (fuel' + 1) ctx dp acc) e := by
  rw [unknownTsLoop_succ, unknownTsLoop_succ]
  refine .bindSame fun r => ?_
  cases r with
  | error d => exact .refl _
  | ok bc =>
    cases bc with
    | comment tok off => exact ih.l ctx dp acc
    | none => exact .refl _
    | block tok isBlock startOff =>
      exact .bindSame fun _ => .bind (ih.u _ isBlock (dp + 1) []) fun _ => .bindSame fun _ => ih.l ctx dp _

theorem allExt (e : Env) : ∀ (fuel fuel' : Nat), fuel ≤ fuel' → AllExt e fuel fuel'
  | 0, fuel', _ => allExt_zero fuel'
  | fuel + 1, 0, h => absurd h (by omega)
  | fuel + 1, fuel' + 1, h =>
    have ih := allExt e fuel fuel' (by omega)
    ⟨u_ext_step ih, ts_ext_step ih, l_ext_step ih⟩

/-- `parse_unknown_ifdata_start` with the budget as a parameter -/
def unknownStartWith (fuel : Nat) (ctx : Ctx) : PM Gen := do
  match (← peekToken) with
  | some t =>
    if t.ty = 0 then do
      let token ← getToken ctx
      let startOff ← getLineOffset
      let uid ← getNextId
      let newctx : Ctx := ⟨token.text, token.fileid, token.line⟩
      let result ← unknownIfdata fuel newctx true 0 []
      undoGetToken
      let endOff ← getLineOffset
      let _ ← attempt (getToken ctx)
      pure (.block startOff [.taggedUnion [⟨newctx.line, uid, startOff, endOff, token.text, result, false⟩]])
    else unknownIfdata fuel ctx true 0 []
  | none => unknownIfdata fuel ctx true 0 []

theorem unknownStartWith_ext {fuel fuel' : Nat} (h : fuel ≤ fuel') (ctx : Ctx) :
    ExtP (unknownStartWith fuel ctx) (unknownStartWith fuel' ctx) e := by
  have hA := allExt e fuel fuel' h
  unfold unknownStartWith
  refine .bindSame fun o => ?_
  cases o with
  | none => exact hA.u ctx true 0 []
  | some t =>
    exact .ite (.bindSame fun _ => .bindSame fun _ => .bindSame fun _ => .bind (hA.u _ true 0 []) fun _ => .refl _)
      (hA.u ctx true 0 [])

end A2l.IfData
