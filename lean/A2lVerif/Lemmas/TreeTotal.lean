import A2lVerif.Lemmas.TreeMonad
import A2lVerif.Lemmas.TreeSeg
import A2lVerif.Lemmas.Scalars
import A2lVerif.Lemmas.PMLogic
/-!
# helper lemmas for the C03 theorems about the generic parser (Props/C03Parse.lean)

One judgement `Safe c lo lg r Q` classifies the outcome `r` of a parser function: on `ok`/`err` the cursor is in range
(and, on `ok`, not below `lo`), the log extends `lg` in the sense of the log relation `c.L`, and a panic contradicts
`c.NP`. The configuration `c : Cfg e` says what is tracked (`PB`: cursor positions, `NP`: absence of panics, with the
hypotheses `TokOk`, `tableOk`, non-empty token array that this needs) and what is assumed of the `special` parsers.
Every parser function of Model/Tree.lean outside the mutual block gets one `_safe` lemma for an arbitrary configuration, as a
rule stated from its own start state (`lo = s.pos`, `lg = s.log`; `parse_version` and `parse_file` reset the cursor and are
stated from 0, the skipper's loop from the `lo` of its caller); inside a proof `At c lo lg s` says that the state reached is in range above `lo` with a log
that extends `lg`, and the rules (`Safe.step`, `.call`, `.done`, ...) carry it from state to state. The mutual block is
done by induction on the fuel (`AllSafe`, `allSafe`). The five theorems are three instances: `cfgFull`, `cfgPos`,
`cfgStrict`.
-/
namespace A2l.Tree
open A2l.G A2l.Sc

/-- what the parser relies on about the tokens (all consequences of `lex_inv` and of how tokens are built):
    line numbers are 1-based and non-decreasing, identifier tokens are not empty -/
structure TokOk (toks : Array PTok) : Prop where
  line_pos : ∀ i (h : i < toks.size), 1 ≤ toks[i].line
  line_mono : ∀ i j (hi : i < toks.size) (hj : j < toks.size), i ≤ j → toks[i].line ≤ toks[j].line
  ident_ne : ∀ i (h : i < toks.size), toks[i].ty = 0 → toks[i].text ≠ []
  comment_lines : ∀ i j (hi : i < toks.size) (hj : j < toks.size), i < j → toks[i].ty = 6 →
    toks[i].line + countNewlines toks[i].text ≤ toks[j].line

/-- item types only refer to existing types of the right kind -/
def itemOk (tbl : Table) : ItemTy → Bool
  | .enumRef ty => match tbl.lookup ty with | some (.enum _) => true | _ => false
  | .structRef ty => match tbl.lookup ty with | some (.block _ _ _ _) => true | _ => false
  | .arr of _ => itemOk tbl of
  | .seq of _ => itemOk tbl of
  | _ => true

/-- decidable well-formedness of a grammar table as far as panic-freedom is concerned: every reference resolves to a
    type of the expected kind, and the two types the hand-written code names exist with the expected shape -/
def tableOk (tbl : Table) (k : Known) : Bool :=
  tbl.all (fun e => match e.def_ with
    | .block _ items arms _ =>
      items.all (itemOk tbl) &&
      arms.all (fun a => match tbl.lookup a.ty with | some (.block _ _ _ _) => true | some .special => true | _ => false)
    | .enum _ => true
    | _ => true) &&
  (match tbl.lookup k.tyA2lFile with | some (.block _ _ _ _) => true | _ => false) &&
  (match tbl.lookup k.tyAsap2Version with
   | some (.block false [.int _, .int _] [] false) => true | _ => false)

/-- the hand-written parsers of the `special` types (A2ML, IF_DATA) are a parameter of the model: what is assumed
    of them here (and proved of their own model separately) is that they do not panic and keep the cursor in range -/
def SpecialOk (e : Env) : Prop :=
  ∀ ty ctx off s, s.pos ≤ e.toks.size →
    e.special ty ctx off e.toks e.strict s ≠ .panic ∧
    (∀ v s', e.special ty ctx off e.toks e.strict s = .ok v s' → s.pos ≤ s'.pos ∧ s'.pos ≤ e.toks.size ∧ ∃ l, s'.log = l ++ s.log) ∧
    (∀ d s', e.special ty ctx off e.toks e.strict s = .err d s' → s'.pos ≤ e.toks.size ∧ ∃ l, s'.log = l ++ s.log)

/-- a type that `parseType` can be called on: a block/keyword/struct or a `special` type -/
def tyOk (tbl : Table) (ty : Nat) : Bool :=
  match tbl.lookup ty with | some (.block _ _ _ _) => true | some .special => true | _ => false

/-- outcome classification relative to a lower bound `lo` for the cursor and a reference log `lg`.
    `PB`: positions are tracked; `NP`: panics are excluded. -/
def SafeRaw {α} (PB NP : Prop) (L : List Diag → List Diag → Prop) (size lo : Nat) (lg : List Diag)
    (r : PRes α) (Q : α → PState → Prop) : Prop :=
  match r with
  | .ok a s' => (PB → lo ≤ s'.pos ∧ s'.pos ≤ size) ∧ L lg s'.log ∧ Q a s'
  | .err _ s' => (PB → s'.pos ≤ size) ∧ L lg s'.log
  | .panic => ¬ NP
  | .fuel => True

/-- what is tracked, and under which assumptions -/
structure Cfg (e : Env) where
  PB : Prop
  NP : Prop
  L : List Diag → List Diag → Prop
  np_pb : NP → PB
  tok : NP → TokOk e.toks
  ne : NP → 0 < e.toks.size
  tbl : NP → tableOk e.table e.known = true
  L_refl : ∀ l, L l l
  L_trans : ∀ {a b c}, L a b → L b c → L a c
  L_log : ∀ (d : Diag) l, (e.strict = false ∨ d.kind = .blockRefDeprecated ∨ d.kind = .enumRefDeprecated) → L l (d :: l)
  special : ∀ ty ctx off s, (PB → s.pos ≤ e.toks.size) →
    SafeRaw PB NP L e.toks.size s.pos s.log (e.special ty ctx off e.toks e.strict s) (fun _ _ => True)

variable {e : Env}

def Cfg.Pre (c : Cfg e) (s : PState) : Prop := c.PB → s.pos ≤ e.toks.size

def Safe {α} (c : Cfg e) (lo : Nat) (lg : List Diag) (r : PRes α) (Q : α → PState → Prop) : Prop :=
  SafeRaw c.PB c.NP c.L e.toks.size lo lg r Q

@[simp] theorem Safe_ok {α} (c : Cfg e) (lo lg) (a : α) (s') (Q : α → PState → Prop) :
    Safe c lo lg (.ok a s') Q ↔ ((c.PB → lo ≤ s'.pos ∧ s'.pos ≤ e.toks.size) ∧ c.L lg s'.log ∧ Q a s') := Iff.rfl
@[simp] theorem Safe_err {α} (c : Cfg e) (lo lg) (d) (s') (Q : α → PState → Prop) :
    Safe c lo lg (.err d s') Q ↔ ((c.PB → s'.pos ≤ e.toks.size) ∧ c.L lg s'.log) := Iff.rfl
@[simp] theorem Safe_panic {α} (c : Cfg e) (lo lg) (Q : α → PState → Prop) :
    Safe c lo lg (.panic) Q ↔ ¬ c.NP := Iff.rfl
@[simp] theorem Safe_fuel {α} (c : Cfg e) (lo lg) (Q : α → PState → Prop) :
    Safe c lo lg (.fuel) Q ↔ True := Iff.rfl

/-- the state `s` of a run that started at cursor `lo` with log `lg`: the cursor in range, the log extended -/
structure At (c : Cfg e) (lo : Nat) (lg : List Diag) (s : PState) : Prop where
  range : c.PB → lo ≤ s.pos ∧ s.pos ≤ e.toks.size
  log : c.L lg s.log

theorem Safe.bindG {α β} {c : Cfg e} {lo lo1 : Nat} {lg : List Diag} {m : PM α} {f : α → PM β} {s : PState}
    {Q1 : α → PState → Prop} {Q2 : β → PState → Prop}
    (h1 : Safe c lo1 lg (m e s) Q1) (h2 : ∀ a s1, At c lo1 lg s1 → Q1 a s1 → Safe c lo lg (f a e s1) Q2) :
    Safe c lo lg ((m >>= f) e s) Q2 := by
  show Safe c lo lg (match m e s with
    | .ok a s' => f a e s' | .err d s' => .err d s' | .panic => .panic | .fuel => .fuel) Q2
  cases h : m e s with
  | ok a s1 => rw [h] at h1; exact h2 a s1 ⟨h1.1, h1.2.1⟩ h1.2.2
  | err d s1 | panic => rw [h] at h1; exact h1
  | fuel => trivial

theorem Safe.weaken {α} {c : Cfg e} {lo lo1 : Nat} {lg lg1 : List Diag} {r : PRes α}
    {Q1 Q2 : α → PState → Prop}
    (hlo : c.PB → lo ≤ lo1) (hl : c.L lg lg1)
    (h1 : Safe c lo1 lg1 r Q1) (hq : ∀ a s1, Q1 a s1 → Q2 a s1) : Safe c lo lg r Q2 := by
  cases r with
  | ok a s1 =>
    refine ⟨?_, c.L_trans hl h1.2.1, hq _ _ h1.2.2⟩
    intro hpb; have := h1.1 hpb; have := hlo hpb; omega
  | err d s1 => exact ⟨h1.1, c.L_trans hl h1.2⟩
  | panic => exact h1
  | fuel => trivial

theorem Safe.ite {α} {c : Cfg e} {lo : Nat} {lg : List Diag} {p : Prop} [Decidable p] {a b : PM α}
    {s : PState} {Q : α → PState → Prop}
    (h1 : Safe c lo lg (a e s) Q) (h2 : Safe c lo lg (b e s) Q) :
    Safe c lo lg ((if p then a else b) e s) Q :=
  of_ite (P := fun x : PM α => Safe c lo lg (x e s) Q) h1 h2

section
variable {c : Cfg e} {lo : Nat} {lg : List Diag} {s : PState}

theorem At.pre (h : At c lo lg s) : c.Pre s := fun hpb => (h.range hpb).2
theorem At.start (hp : c.Pre s) : At c s.pos s.log s := ⟨fun hpb => ⟨Nat.le_refl _, hp hpb⟩, c.L_refl _⟩
theorem At.same {s1 : PState} (h : At c lo lg s) (hp : s1.pos = s.pos) (hl : c.L lg s1.log) : At c lo lg s1 :=
  ⟨hp ▸ h.range, hl⟩
/-- more is known of where the cursor stands -/
theorem At.raise {lo1 : Nat} (h : At c lo lg s) (hp : c.PB → lo1 ≤ s.pos) : At c lo1 lg s :=
  ⟨fun hpb => ⟨hp hpb, (h.range hpb).2⟩, h.log⟩

/-- a callee specified from its own start state -/
theorem Safe.call {α} {r : PRes α} {Q : α → PState → Prop} (hi : At c lo lg s) (h : Safe c s.pos s.log r Q) :
    Safe c lo lg r Q :=
  Safe.weaken (fun hpb => (hi.range hpb).1) hi.log h (fun _ _ h => h)

/-- the usual step: a callee specified from its own start state, then the rest -/
theorem Safe.step {α β} {m : PM α} {f : α → PM β} {Q1 : α → PState → Prop} {Q2 : β → PState → Prop}
    (hi : At c lo lg s) (h1 : Safe c s.pos s.log (m e s) Q1)
    (h2 : ∀ a s1, At c lo lg s1 → Q1 a s1 → Safe c lo lg (f a e s1) Q2) : Safe c lo lg ((m >>= f) e s) Q2 :=
  Safe.bindG (Safe.call hi h1) h2

/-- `attempt`: after an error only the upper bound of the cursor is known -/
theorem Safe.stepAttempt {α β} {m : PM α} {f : Except Diag α → PM β} {Q1 : α → PState → Prop} {Q2 : β → PState → Prop}
    (hi : At c lo lg s) (h1 : Safe c s.pos s.log (m e s) Q1)
    (hok : ∀ a s1, m e s = .ok a s1 → At c lo lg s1 → Q1 a s1 → Safe c lo lg (f (.ok a) e s1) Q2)
    (herr : ∀ d s1, c.Pre s1 → c.L lg s1.log → Safe c lo lg (f (.error d) e s1) Q2) :
    Safe c lo lg ((attempt m >>= f) e s) Q2 := by
  have h := Safe.call hi h1
  rw [bind_def]
  unfold attempt
  cases hm : m e s with
  | ok a s1 => rw [hm] at h; exact hok a s1 hm ⟨h.1, h.2.1⟩ h.2.2
  | err d s1 => rw [hm] at h; exact herr d s1 h.1 h.2
  | panic => rw [hm] at h; exact h
  | fuel => trivial

theorem Safe.done {α} {a : α} {Q : α → PState → Prop} (hi : At c lo lg s) (hq : Q a s) :
    Safe c lo lg ((Pure.pure a : PM α) e s) Q := ⟨hi.range, hi.log, hq⟩

theorem Safe.failed {α} {k : DK} {Q : α → PState → Prop} (hi : At c lo lg s) : Safe c lo lg ((A2l.Tree.fail k : PM α) e s) Q :=
  ⟨hi.pre, hi.log⟩

end

theorem getToken_safe (c : Cfg e) (ctx : Ctx) (s : PState) (hp : c.Pre s) :
    Safe c s.pos s.log (getToken ctx e s) (fun t s' => s'.pos = s.pos + 1 ∧ e.toks[s.pos]? = some t) := by
  rw [getToken_eval]
  cases h : e.toks[s.pos]? with
  | none => exact ⟨hp, c.L_refl _⟩
  | some t =>
    exact ⟨fun _ => ⟨Nat.le_succ _, getElem?_some_lt h⟩, c.L_refl _, rfl, rfl⟩

/-- with 1-based, non-decreasing line numbers (a comment token counted up to its last line) no subtraction in
    `get_line_offset` underflows -/
theorem lineOffset?_isSome {toks : Array PTok} (hk : TokOk toks) (hne : 0 < toks.size) (pos : Nat) :
    ∃ n, lineOffset? toks pos = some n := by
  unfold lineOffset?
  by_cases hpos : pos > 1 ∧ pos < toks.size
  · have h2 : pos - 2 < toks.size := by omega
    have h1 : pos - 1 < toks.size := by omega
    rw [if_pos hpos, getElem?_pos toks _ h2, getElem?_pos toks _ h1]
    dsimp only
    by_cases hf : toks[pos - 2].fileid = toks[pos - 1].fileid
    · have hm := hk.line_mono (pos - 2) (pos - 1) h2 h1 (by omega)
      have hc := hk.comment_lines (pos - 2) (pos - 1) h2 h1 (by omega)
      rw [if_pos hf]
      by_cases h6 : toks[pos - 2].ty = 6
      · rw [if_pos h6, if_neg (Nat.not_lt.2 (hc h6))]
        exact ⟨_, rfl⟩
      · rw [if_neg h6, if_neg (Nat.not_lt.2 hm)]
        exact ⟨_, rfl⟩
    · rw [if_neg hf]
      exact ⟨_, rfl⟩
  · have := hk.line_pos 0 hne
    rw [if_neg hpos, getElem?_pos toks 0 hne]
    dsimp only
    rw [if_neg (Nat.ne_of_gt this)]
    exact ⟨_, rfl⟩

theorem getLineOffset_tokOk (hk : TokOk e.toks) (hne : 0 < e.toks.size) (s : PState) :
    ∃ n, getLineOffset e s = .ok n s := by
  obtain ⟨n, hn⟩ := lineOffset?_isSome hk hne s.pos
  exact ⟨n, by rw [getLineOffset_eq, hn]⟩

theorem Safe.bind_lineOffset {β} {c : Cfg e} {lo : Nat} {lg : List Diag} {f : Nat → PM β} {s : PState}
    {Q : β → PState → Prop} (h : ∀ n, Safe c lo lg (f n e s) Q) :
    Safe c lo lg ((getLineOffset >>= f) e s) Q := by
  rw [bind_def, getLineOffset_eq]
  cases hlo : lineOffset? e.toks s.pos with
  | some n => exact h n
  | none =>
    intro hnp
    obtain ⟨n, hn⟩ := lineOffset?_isSome (c.tok hnp) (c.ne hnp) s.pos
    rw [hlo] at hn
    cases hn

theorem strictOrLog_safe (c : Cfg e) {d : Diag} (s : PState) (hp : c.Pre s) {r : PRes Unit}
    (hr : r = if e.strict then .err d s else .ok () { s with log := d :: s.log }) :
    Safe c s.pos s.log r (fun _ s' => s'.pos = s.pos) := by
  subst hr
  split
  · exact ⟨hp, c.L_refl _⟩
  · rename_i h
    exact ⟨(At.start hp).range, c.L_log _ _ (.inl (by simpa using h)), rfl⟩

theorem errorOrLog_safe (c : Cfg e) (k : DK) (s : PState) (hp : c.Pre s) :
    Safe c s.pos s.log (errorOrLog k e s) (fun _ s' => s'.pos = s.pos) :=
  strictOrLog_safe c s hp (errorOrLog_eval k e s)

theorem logWarning_safe (c : Cfg e) (k : DK) (s : PState) (hp : c.Pre s)
    (hk : k = .blockRefDeprecated ∨ k = .enumRefDeprecated) :
    Safe c s.pos s.log (logWarning k e s) (fun _ s' => s'.pos = s.pos) := by
  rw [logWarning_eval]
  exact ⟨(At.start hp).range, c.L_log _ _ (.inr hk), rfl⟩

theorem SkipTo.at {c : Cfg e} {lo : Nat} {lg : List Diag} {s s2 : PState} (h : SkipTo e s s2) (hi : At c lo lg s) :
    At c lo lg s2 := by
  induction h with
  | stop _ => exact hi
  | cmt ht _ _ ih => exact ih ⟨fun hpb => ⟨Nat.le_succ_of_le (hi.range hpb).1, getElem?_some_lt ht⟩, hi.log⟩

theorem SkipTo.le {s s2 : PState} (h : SkipTo e s s2) : s.pos ≤ s2.pos := by
  induction h with
  | stop _ => exact Nat.le_refl _
  | cmt _ _ _ ih => exact Nat.le_of_succ_le ih

theorem expectToken_safe (c : Cfg e) (ctx : Ctx) (ty : Nat) (s : PState) (hp : c.Pre s) :
    Safe c s.pos s.log (expectToken ctx ty e s)
      (fun t s' => s.pos + 1 ≤ s'.pos ∧ e.toks[s'.pos - 1]? = some t ∧ t.ty = ty) := by
  obtain ⟨s2, hk, hr⟩ := expectToken_run (e := e) ctx ty s
  have i2 := hk.at (At.start hp)
  rw [hr]
  cases ht : e.toks[s2.pos]? with
  | none => exact ⟨i2.pre, i2.log⟩
  | some t =>
    have hlt := getElem?_some_lt ht
    dsimp only
    split
    · exact ⟨fun _ => hlt, i2.log⟩
    · rename_i hty
      exact ⟨fun hpb => ⟨Nat.le_succ_of_le (i2.range hpb).1, hlt⟩, i2.log, Nat.succ_le_succ hk.le, ht, by simpa using hty⟩

section
variable {c : Cfg e} {lo : Nat} {lg : List Diag} {s : PState}

/-- `if p then errorOrLog k` followed by the rest, in the shape the `do` notation produces -/
theorem Safe.ifE {β} {p : Prop} [Decidable p] {k : DK} {f : PUnit → PM β} {Q : β → PState → Prop} (hi : At c lo lg s)
    (h : ∀ s1, At c lo lg s1 → s1.pos = s.pos → Safe c lo lg (f () e s1) Q) :
    Safe c lo lg ((if p then errorOrLog k >>= f else f ()) e s) Q :=
  Safe.ite (Safe.step hi (errorOrLog_safe c k s hi.pre) (fun _ s1 i1 hq => h s1 i1 hq)) (h s hi rfl)

theorem Safe.ifW {β} {p : Prop} [Decidable p] {k : DK} {f : PUnit → PM β} {Q : β → PState → Prop} (hi : At c lo lg s)
    (hk : k = .blockRefDeprecated ∨ k = .enumRefDeprecated)
    (h : ∀ s1, At c lo lg s1 → s1.pos = s.pos → Safe c lo lg (f () e s1) Q) :
    Safe c lo lg ((if p then logWarning k >>= f else f ()) e s) Q :=
  Safe.ite (Safe.step hi (logWarning_safe c k s hi.pre hk) (fun _ s1 i1 hq => h s1 i1 hq)) (h s hi rfl)

theorem Safe.ifF {β} {p : Prop} [Decidable p] {k : DK} {f : PUnit → PM β} {Q : β → PState → Prop} (hi : At c lo lg s)
    (h : Safe c lo lg (f () e s) Q) : Safe c lo lg ((if p then (A2l.Tree.fail k : PM PUnit) >>= f else f ()) e s) Q :=
  Safe.ite ⟨hi.pre, hi.log⟩ h

end

theorem getIdentifier_safe (c : Cfg e) (ctx : Ctx) (s : PState) (hp : c.Pre s) :
    Safe c s.pos s.log (getIdentifier ctx e s) (fun _ s' => s.pos + 1 ≤ s'.pos) := by
  unfold getIdentifier
  refine Safe.step (At.start hp) (expectToken_safe c ctx 0 s hp) ?_
  intro t s1 i1 ⟨h1, h2, h3⟩
  cases htext : t.text with
  | nil =>
    intro hnp
    have hlt := getElem?_some_lt h2
    rw [getElem?_pos e.toks _ hlt] at h2
    have := (c.tok hnp).ident_ne _ hlt
    simp only [Option.some.injEq] at h2
    rw [h2] at this
    exact this h3 htext
  | cons ch tl =>
    dsimp only
    exact Safe.ifE i1 fun s2 i2 hp2 => Safe.done i2 (hp2 ▸ h1)

theorem getString_safe (c : Cfg e) (ctx : Ctx) (s : PState) (hp : c.Pre s) :
    Safe c s.pos s.log (getString ctx e s) (fun _ s' => s.pos + 1 ≤ s'.pos) := by
  unfold getString
  simp only [peekToken_bind]
  generalize e.toks[s.pos]? = o
  have i0 := At.start hp
  split
  · refine Safe.step i0 (getIdentifier_safe c ctx s hp) fun text s1 i1 hq => ?_
    exact Safe.step i1 (errorOrLog_safe c _ s1 i1.pre) fun _ s2 i2 hq2 => Safe.done i2 (hq2 ▸ hq)
  · refine Safe.step i0 (expectToken_safe c ctx 4 s hp) fun t s1 i1 hq => ?_
    rw [unescape_ok]
    exact Safe.done i1 hq.1

theorem getStringMaxlen_safe (c : Cfg e) (ctx : Ctx) (n : Nat) (s : PState) (hp : c.Pre s) :
    Safe c s.pos s.log (getStringMaxlen ctx n e s) (fun _ s' => s.pos + 1 ≤ s'.pos) := by
  unfold getStringMaxlen
  refine Safe.step (At.start hp) (getString_safe c ctx s hp) fun text s1 i1 hq => ?_
  dsimp only
  exact Safe.ifE i1 fun s2 i2 hp2 => Safe.done i2 (hp2 ▸ hq)

theorem getInteger_safe (c : Cfg e) (ctx : Ctx) (w : Nat) (s : PState) (hp : c.Pre s) :
    Safe c s.pos s.log (getInteger ctx w e s) (fun _ s' => s.pos + 1 ≤ s'.pos) := by
  unfold getInteger
  refine Safe.step (At.start hp) (expectToken_safe c ctx 5 s hp) fun t s1 i1 hq => ?_
  cases parseInt (intTyOf w) t.text with
  | none => exact Safe.failed i1
  | some r => exact Safe.done i1 hq.1

theorem getDouble_safe (c : Cfg e) (ctx : Ctx) (s : PState) (hp : c.Pre s) :
    Safe c s.pos s.log (getDouble ctx e s) (fun _ s' => s.pos + 1 ≤ s'.pos) := by
  unfold getDouble
  refine Safe.step (At.start hp) (expectToken_safe c ctx 5 s hp) fun t s1 i1 hq => ?_
  cases t.fl with
  | none => exact Safe.failed i1
  | some r => exact Safe.done i1 hq.1

theorem parseEnum_safe (c : Cfg e) (items : List EnumItem) (ctx : Ctx) (s : PState) (hp : c.Pre s) :
    Safe c s.pos s.log (parseEnum items ctx e s) (fun _ s' => s.pos + 1 ≤ s'.pos) := by
  unfold parseEnum
  refine Safe.step (At.start hp) (getIdentifier_safe c ctx s hp) fun name s1 i1 hq => ?_
  simp only [getEnv_bind, getState_bind]
  generalize lookupEnumItem items _ = o
  split
  · exact Safe.ifE i1 fun s2 i2 hp2 => Safe.ifW i2 (.inr rfl) fun s3 i3 hp3 => Safe.done i3 (hp3 ▸ hp2 ▸ hq)
  · exact Safe.failed i1

def NTQ (s : PState) : BlockContent → PState → Prop
  | .comment _ _, s' => s.pos + 1 ≤ s'.pos
  | .block _ isB _, s' => s.pos + (if isB then 2 else 1) ≤ s'.pos
  | .none, _ => True

theorem getNextTagOrComment_safe (c : Cfg e) (ctx : Ctx) (s : PState) (hp : c.Pre s) :
    Safe c s.pos s.log (getNextTagOrComment ctx e s) (NTQ s) := by
  have h := nextTag_rel ctx e s
  generalize getNextTagOrComment ctx e s = r at h
  cases h with
  | comment ht _ _ => exact ⟨fun _ => ⟨Nat.le_succ _, getElem?_some_lt ht⟩, c.L_refl _, Nat.le_refl _⟩
  | @block tb _ _ _ ht _ _ hx =>
    have h := hx ▸ expectToken_safe c ctx 0 { s with pos := s.pos + 1, lastLine := tb.line } fun _ => getElem?_some_lt ht
    exact ⟨fun hpb => ⟨Nat.le_of_succ_le (h.1 hpb).1, (h.1 hpb).2⟩, h.2.1, Nat.succ_le_of_lt h.2.2.1⟩
  | @blockErr tb _ _ _ ht _ _ hx =>
    exact ⟨hp, (hx ▸ expectToken_safe c ctx 0 { s with pos := s.pos + 1, lastLine := tb.line } fun _ =>
      getElem?_some_lt ht).2⟩
  | keyword _ hx _ => have h := hx ▸ expectToken_safe c ctx 0 s hp; exact ⟨h.1, h.2.1, h.2.2.1⟩
  | none _ hx _ => exact ⟨fun hpb => ⟨Nat.le_refl _, hp hpb⟩, (hx ▸ expectToken_safe c ctx 0 s hp).2, trivial⟩
  | @panic p hn =>
    intro hnp
    obtain ⟨n, h'⟩ := lineOffset?_isSome (c.tok hnp) (c.ne hnp) p
    rw [hn] at h'; cases h'

section
variable {c : Cfg e} {lo : Nat} {lg : List Diag} {s : PState}

/-- `token_cursor.back()` over a token read since `lo` -/
theorem undo_safe {Q : Unit → PState → Prop} (hi : At c (lo + 1) lg s) (hq : Q () { s with pos := s.pos - 1 }) :
    Safe c lo lg (undoGetToken e s) Q := by
  rw [undo_eval]
  split
  · intro hnp
    have := hi.range (c.np_pb hnp)
    omega
  · refine ⟨fun hpb => ?_, hi.log, hq⟩
    have := hi.range hpb
    show lo ≤ s.pos - 1 ∧ s.pos - 1 ≤ e.toks.size
    omega

/-- the state after it may be known to lie further behind `lo` (`lo1`): a second `back()` can follow -/
theorem Safe.undo {β} {lo1 : Nat} {f : Unit → PM β} {Q : β → PState → Prop} (hi : At c (lo1 + 1) lg s)
    (h : ∀ s1, At c lo1 lg s1 → Safe c lo lg (f () e s1) Q) : Safe c lo lg ((undoGetToken >>= f) e s) Q :=
  Safe.bindG (undo_safe (Q := fun _ _ => True) hi trivial) (fun _ s1 i _ => h s1 i)

end

/-- the loop never goes back behind `lo`: for a keyword (`isB = false`) `balance` counts `/begin` tokens read since
    `lo` that the loop may still go back over -/
theorem skipUnknownLoop_safe (c : Cfg e) (ctx : Ctx) (itemTag : List Char) (isB : Bool) (stop : List Nat)
    (lo : Nat) (lg : List Diag) : ∀ (fuel : Nat) (balance : Int) (s : PState),
    At c lo lg s → (c.PB → ¬ isB = true → (lo : Int) + balance ≤ s.pos) →
    Safe c lo lg (skipUnknownLoop ctx itemTag isB stop balance fuel e s) (fun _ _ => True)
  | 0, _, _, _, _ => trivial
  | fuel + 1, balance, s, hi, hp2 => by
    rw [skipUnknownLoop_succ]
    refine Safe.step hi (getToken_safe c ctx s hi.pre) ?_
    intro t s1 i1 ⟨hq1, _⟩
    have i1' : At c (lo + 1) lg s1 := i1.raise fun hpb => by have := hi.range hpb; omega
    have next : ∀ b' : Int, b' ≤ balance + 1 →
        Safe c lo lg (skipUnknownLoop ctx itemTag isB stop b' fuel e s1) (fun _ _ => True) := fun b' hb' =>
      skipUnknownLoop_safe c ctx itemTag isB stop lo lg fuel b' s1 i1
        (fun hpb hb => by have := hp2 hpb hb; omega)
    by_cases h1 : t.ty = 1
    · rw [skipStep_begin h1]
      exact next _ (Int.le_refl _)
    by_cases h2 : t.ty = 2
    · rw [skipStep_end h2]
      exact Safe.ite (undo_safe i1' trivial) (next _ (by omega))
    by_cases h0 : t.ty = 0
    · cases isB with
      | true =>
        rw [skipStep_ident_block h0]
        exact Safe.ite (Safe.ite (Safe.done i1 trivial) (Safe.failed i1)) (next _ (by omega))
      | false =>
        rw [skipStep_ident_keyword h0]
        refine Safe.ite ?_ (next _ (by omega))
        -- back over the tag that ends the element and, at balance 1, over the `/begin` in front of it
        by_cases hb1 : balance = 1
        · rw [if_pos hb1]
          refine Safe.undo (lo1 := lo + 1) (i1.raise fun hpb => ?_) fun s2 i2 => undo_safe i2 trivial
          have := hp2 hpb Bool.false_ne_true
          omega
        · rw [if_neg hb1]
          exact Safe.undo i1' fun s2 i2 => Safe.done i2 trivial
    · rw [skipStep_other h0 h1 h2]
      exact Safe.ite (Safe.failed i1) (next _ (by omega))

theorem handleUnknown_safe (c : Cfg e) (ctx : Ctx) (itemTag : List Char) (isB : Bool) (stop : List Nat)
    (s : PState) (hp : c.Pre s) :
    Safe c s.pos s.log (handleUnknownTaggedstructTag ctx itemTag isB stop e s) (fun _ _ => True) := by
  unfold handleUnknownTaggedstructTag
  refine Safe.step (At.start hp) (errorOrLog_safe c _ s hp) fun _ s1 i1 hq1 => ?_
  refine Safe.step i1 (getToken_safe c ctx s1 i1.pre) fun t s2 i2 hq2 => ?_
  refine Safe.undo (lo1 := s.pos) (i2.raise fun _ => by have := hq2.1; omega) fun s3 i3 => ?_
  simp only [getEnv_bind]
  refine skipUnknownLoop_safe c ctx itemTag isB stop s.pos s.log _ _ s3 i3 ?_
  intro hpb hb
  have := i3.range hpb
  rw [if_neg hb]
  omega

theorem lookup_mem {tbl : Table} {ty : Nat} {d : TyDef} (h : tbl.lookup ty = some d) : ∃ en ∈ tbl, en.def_ = d := by
  unfold Table.lookup at h
  cases hf : List.find? (fun e => e.name == ty) tbl with
  | none => rw [hf] at h; cases h
  | some en =>
    rw [hf] at h
    exact ⟨en, List.mem_of_find?_eq_some hf, by simpa using h⟩

theorem tableOk_block {tbl : Table} {k : Known} {ty : Nat} {isB : Bool} {items : List ItemTy} {arms : List Arm}
    {hT : Bool} (h : tableOk tbl k = true) (hl : tbl.lookup ty = some (.block isB items arms hT)) :
    items.all (itemOk tbl) = true ∧ arms.all (fun a => tyOk tbl a.ty) = true := by
  obtain ⟨en, hmem, hd⟩ := lookup_mem hl
  simp only [tableOk, Bool.and_eq_true] at h
  have := List.all_eq_true.1 h.1.1 en hmem
  rw [hd] at this
  simp only [Bool.and_eq_true] at this
  exact this

theorem itemOk_structRef {tbl : Table} {ty : Nat} (h : itemOk tbl (.structRef ty) = true) : tyOk tbl ty = true := by
  unfold itemOk at h
  unfold tyOk
  split at h
  · rename_i h1; rw [h1]
  · cases h

theorem itemOk_enumRef {tbl : Table} {ty : Nat} (h : itemOk tbl (.enumRef ty) = true) :
    ∃ items, tbl.lookup ty = some (.enum items) := by
  unfold itemOk at h
  split at h
  · rename_i items h1; exact ⟨items, h1⟩
  · cases h

def T {α : Type} : α → PState → Prop := fun _ _ => True

structure AllSafe (c : Cfg e) (fuel : Nat) : Prop where
  item : ∀ ctx it s, (c.NP → itemOk e.table it = true) → c.Pre s →
    Safe c s.pos s.log (parseItem fuel ctx it e s) T
  arr : ∀ ctx of n s, (c.NP → itemOk e.table of = true) → c.Pre s →
    Safe c s.pos s.log (parseArr fuel ctx of n e s) T
  seq : ∀ ctx of stop acc s, (c.NP → itemOk e.table of = true) → c.Pre s →
    Safe c s.pos s.log (parseSeq fuel ctx of stop acc e s) T
  items : ∀ ctx its s, (c.NP → its.all (itemOk e.table) = true) → c.Pre s →
    Safe c s.pos s.log (parseItems fuel ctx its e s) T
  tagged : ∀ ctx arms pib ch cm s, (c.NP → arms.all (fun a => tyOk e.table a.ty) = true) → c.Pre s →
    Safe c s.pos s.log (parseTagged fuel ctx arms pib ch cm e s) T
  type : ∀ ty ctx off s, (c.NP → tyOk e.table ty = true) → c.Pre s →
    Safe c s.pos s.log (parseType fuel ty ctx off e s) T

theorem scalar_then_offset (c : Cfg e) {α} {m : PM α} {g : α → Nat → Val} {s : PState} {Q : α → PState → Prop}
    (hp : c.Pre s) (h : Safe c s.pos s.log (m e s) Q) :
    Safe c s.pos s.log ((m >>= fun v => getLineOffset >>= fun off => pure (g v off)) e s) T :=
  Safe.step (At.start hp) h fun _ _ i1 _ => Safe.bind_lineOffset fun _ => Safe.done i1 trivial

theorem foldlM_safe (c : Cfg e) {X : Type} (F : Unit → X → PM Unit)
    (hF : ∀ u x s, c.Pre s → Safe c s.pos s.log (F u x e s) (fun _ s' => s'.pos = s.pos)) :
    ∀ (l : List X) (u : Unit) (s : PState), c.Pre s → Safe c s.pos s.log (List.foldlM F u l e s) T
  | [], u, s, hp => by
    rw [List.foldlM_nil]
    exact Safe.done (At.start hp) trivial
  | x :: l, u, s, hp => by
    rw [List.foldlM_cons]
    exact Safe.step (At.start hp) (hF u x s hp) fun u' s1 i1 _ => Safe.call i1 (foldlM_safe c F hF l u' s1 i1.pre)

theorem allSafe (c : Cfg e) : ∀ fuel, AllSafe c fuel
  | 0 => ⟨fun _ _ _ _ _ => trivial, fun _ _ _ _ _ _ => trivial, fun _ _ _ _ _ _ _ => trivial, fun _ _ _ _ _ => trivial,
      fun _ _ _ _ _ _ _ _ => trivial, fun _ _ _ _ _ _ => trivial⟩
  | fuel + 1 => by
    have ih := allSafe c fuel
    constructor
    · intro ctx it s hit hp
      have i0 := At.start hp
      cases it with
      | ident => rw [parseItem]; exact scalar_then_offset c hp (getIdentifier_safe c ctx s hp)
      | string => rw [parseItem]; exact scalar_then_offset c hp (getString_safe c ctx s hp)
      | double => rw [parseItem]; exact scalar_then_offset c hp (getDouble_safe c ctx s hp)
      | float => rw [parseItem]; exact scalar_then_offset c hp (getDouble_safe c ctx s hp)
      | int w =>
        rw [parseItem]
        exact scalar_then_offset c hp (g := fun x off => .int x.1 x.2 off w) (getInteger_safe c ctx w s hp)
      | strMax n =>
        rw [parseItem]
        exact Safe.step i0 (getStringMaxlen_safe c ctx n s hp) fun _ _ i1 _ => Safe.done i1 trivial
      | enumRef ty =>
        rw [parseItem]
        simp only [getEnv_bind]
        generalize hlk : e.table.lookup ty = o
        split
        · exact scalar_then_offset c hp (parseEnum_safe c _ ctx s hp)
        · rename_i hne
          intro hnp
          obtain ⟨items, h⟩ := itemOk_enumRef (hit hnp)
          exact hne items (hlk ▸ h)
      | structRef ty =>
        rw [parseItem]
        exact ih.type ty ctx 0 s (fun hnp => itemOk_structRef (hit hnp)) hp
      | arr of dim =>
        rw [parseItem]
        exact Safe.step i0 (ih.arr ctx of dim s hit hp) fun _ _ i1 _ => Safe.done i1 trivial
      | seq of stop =>
        rw [parseItem]
        exact Safe.step i0 (ih.seq ctx of stop [] s hit hp) fun _ _ i1 _ => Safe.done i1 trivial
    · intro ctx of n s hit hp
      have i0 := At.start hp
      cases n with
      | zero => rw [parseArr]; exact Safe.done i0 trivial
      | succ n =>
        rw [parseArr]
        refine Safe.step i0 (ih.item ctx of s hit hp) fun _ s1 i1 _ => ?_
        exact Safe.step i1 (ih.arr ctx of n s1 hit i1.pre) fun _ _ i2 _ => Safe.done i2 trivial
    · intro ctx of stop acc s hit hp
      have i0 := At.start hp
      rw [parseSeq]
      simp only [getTokenpos_bind]
      refine Safe.stepAttempt i0 (ih.item ctx of s hit hp) ?_ ?_
      · intro v s1 _ i1 _
        simp only [getEnv_bind, getState_bind]
        refine Safe.ite ?_ ?_
        · simp only [setTokenpos_bind]
          exact Safe.done (i0.same rfl i1.log) trivial
        · exact Safe.call i1 (ih.seq ctx of stop (v :: acc) s1 hit i1.pre)
      · intro d s1 _ hl
        simp only [setTokenpos_bind]
        exact Safe.done (i0.same rfl hl) trivial
    · intro ctx its s hit hp
      have i0 := At.start hp
      cases its with
      | nil => rw [parseItems]; exact Safe.done i0 trivial
      | cons it its =>
        rw [parseItems]
        have h1 : c.NP → itemOk e.table it = true := fun hnp => by
          have := hit hnp; simp only [List.all_cons, Bool.and_eq_true] at this; exact this.1
        have h2 : c.NP → its.all (itemOk e.table) = true := fun hnp => by
          have := hit hnp; simp only [List.all_cons, Bool.and_eq_true] at this; exact this.2
        refine Safe.step i0 (ih.item ctx it s h1 hp) fun _ s1 i1 _ => ?_
        exact Safe.step i1 (ih.items ctx its s1 h2 i1.pre) fun _ _ i2 _ => Safe.done i2 trivial
    · intro ctx arms pib ch cm s harms hp
      have i0 := At.start hp
      rw [parseTagged]
      refine Safe.step i0 (getNextTagOrComment_safe c ctx s hp) ?_
      intro bc s1 i1 hq
      have again : ∀ {ch cm} {s2 : PState}, At c s.pos s.log s2 →
          Safe c s.pos s.log (parseTagged fuel ctx arms pib ch cm e s2) T :=
        fun i2 => Safe.call i2 (ih.tagged ctx arms pib _ _ _ harms i2.pre)
      cases bc with
      | comment tok off =>
        dsimp only
        refine Safe.ite ?_ ?_
        · simp only [getNextId_bind]
          exact again (i1.same rfl i1.log)
        · exact again i1
      | none => dsimp only; exact Safe.done i1 trivial
      | block tok isB off =>
        dsimp -zeta only
        generalize hfi : List.findIdx? (fun x => x.tag == tok.sym) arms = oi
        cases oi with
        | none =>
          dsimp -zeta only
          refine Safe.ite ?_ ?_
          · exact Safe.step i1 (handleUnknown_safe c ctx tok.text isB _ s1 i1.pre) fun _ _ i2 _ => again i2
          · cases isB with
            | false =>
              simp only [NTQ, Bool.false_eq_true, if_false] at hq ⊢
              exact Safe.undo (i1.raise fun _ => hq) fun _ i2 => Safe.done i2 trivial
            | true =>
              simp only [NTQ, if_true] at hq ⊢
              exact Safe.undo (lo1 := s.pos + 1) (i1.raise fun _ => hq) fun _ i2 =>
                Safe.undo i2 fun _ i3 => Safe.done i3 trivial
        | some i =>
          dsimp -zeta only
          obtain ⟨hi, -, -⟩ := List.findIdx?_eq_some_iff_getElem.1 hfi
          rw [List.getElem?_eq_getElem hi]
          dsimp -zeta only
          have harm : c.NP → tyOk e.table arms[i].ty = true := fun hnp =>
            List.all_eq_true.1 (harms hnp) _ (List.getElem_mem hi)
          generalize arms[i] = arm at harm
          refine Safe.ifF i1 (Safe.ifF i1 ?_)
          simp only [getState_bind]
          refine Safe.ifE i1 fun s2 i2 _ => ?_
          simp only [getState_bind]
          refine Safe.ifW i2 (.inl rfl) fun s3 i3 _ => ?_
          refine Safe.step i3 (ih.type arm.ty _ off s3 harm i3.pre) fun v s4 i4 _ => ?_
          refine Safe.ite (again i4) ?_
          exact Safe.ifE i4 fun s5 i5 _ => again i5
    · intro ty ctx off s hty hp
      rw [parseType]
      simp only [getEnv_bind]
      generalize hlk : e.table.lookup ty = o
      split
      · rename_i isB items arms hT
        simp -zeta only [getNextId_bind]
        obtain ⟨hitems, harms⟩ : (c.NP → items.all (itemOk e.table) = true) ∧
            (c.NP → arms.all (fun a => tyOk e.table a.ty) = true) :=
          ⟨fun hnp => (tableOk_block (c.tbl hnp) hlk).1, fun hnp => (tableOk_block (c.tbl hnp) hlk).2⟩
        have i0 : At c s.pos s.log { s with seqId := s.seqId + 1 } := At.start (s := { s with seqId := s.seqId + 1 }) hp
        refine Safe.step i0 (ih.items ctx items _ hitems hp) fun fields s1 i1 _ => ?_
        rw [ite_bind_eq]
        refine Safe.step (Q1 := T) i1 ?_ ?_
        · refine Safe.ite ?_ ?_
          · exact ih.tagged ctx arms isB _ _ s1 harms i1.pre
          · exact Safe.done (At.start i1.pre) trivial
        · intro x s2 i2 _
          refine Safe.step i2 (foldlM_safe c _ ?_ _ _ s2 i2.pre) ?_
          · intro u ac s' hp'
            refine Safe.ite ?_ ?_
            · refine Safe.ite ?_ ?_
              · exact errorOrLog_safe c _ s' hp'
              · exact ⟨hp', c.L_refl _⟩
            · exact Safe.done (At.start hp') rfl
          · intro _ s3 i3 _
            refine Safe.ite ?_ ?_
            · refine Safe.step i3 (expectToken_safe c ctx 2 s3 i3.pre) fun _ s4 i4 _ => ?_
              refine Safe.bind_lineOffset fun endOff => ?_
              refine Safe.step i4 (getIdentifier_safe c ctx s4 i4.pre) fun ident s5 i5 _ => ?_
              exact Safe.ifE i5 fun s6 i6 _ => Safe.done i6 trivial
            · exact Safe.done i3 trivial
      · exact c.special ty ctx off s hp
      · rename_i h1 h2
        intro hnp
        have := hty hnp
        unfold tyOk at this
        rw [hlk] at this
        split at this
        · exact h1 _ _ _ _ rfl
        · exact h2 rfl
        · cases this

def LExt (a b : List Diag) : Prop := ∃ l, b = l ++ a

/-- deprecation notices: the only diagnostics that `log_warning` (as opposed to `error_or_log`) produces -/
def IsNotice (d : Diag) : Prop := d.kind = .blockRefDeprecated ∨ d.kind = .enumRefDeprecated

/-- `LExt` by deprecation notices only -/
def Clean (a b : List Diag) : Prop := ∃ l, b = l ++ a ∧ ∀ d ∈ l, IsNotice d

theorem Clean.refl (a : List Diag) : Clean a a := ⟨[], rfl, fun _ h => nomatch h⟩

theorem LExt.refl (l : List Diag) : LExt l l := ⟨[], rfl⟩
theorem LExt.trans {a b c : List Diag} : LExt a b → LExt b c → LExt a c := by
  rintro ⟨l1, rfl⟩ ⟨l2, rfl⟩; exact ⟨l2 ++ l1, by simp⟩
theorem Clean.trans {a b c : List Diag} : Clean a b → Clean b c → Clean a c := by
  rintro ⟨l1, rfl, h1⟩ ⟨l2, rfl, h2⟩
  refine ⟨l2 ++ l1, by simp, ?_⟩
  intro d hd
  rcases List.mem_append.1 hd with h | h
  · exact h2 d h
  · exact h1 d h

/-- cursor range and log are tracked; panics are excluded under `NP`, which has to provide what that needs -/
def cfgRange (e : Env) (NP : Prop) (hk : NP → TokOk e.toks) (hne : NP → 0 < e.toks.size)
    (ht : NP → tableOk e.table e.known = true) (hsp : SpecialOk e) : Cfg e where
  PB := True
  NP := NP
  L := LExt
  np_pb := fun _ => trivial
  tok := hk
  ne := hne
  tbl := ht
  L_refl := LExt.refl
  L_trans := LExt.trans
  L_log := fun d l _ => ⟨[d], rfl⟩
  special := by
    intro ty ctx off s hs
    obtain ⟨h1, h2, h3⟩ := hsp ty ctx off s (hs trivial)
    cases heq : e.special ty ctx off e.toks e.strict s with
    | ok a s' => exact ⟨fun _ => ⟨(h2 _ _ heq).1, (h2 _ _ heq).2.1⟩, (h2 _ _ heq).2.2, trivial⟩
    | err d s' => exact ⟨fun _ => (h3 _ _ heq).1, (h3 _ _ heq).2⟩
    | panic => exact fun _ => h1 heq
    | fuel => trivial

/-- everything is tracked: cursor range, log, no panic -/
def cfgFull (e : Env) (hk : TokOk e.toks) (hne : 0 < e.toks.size) (ht : tableOk e.table e.known = true)
    (hsp : SpecialOk e) : Cfg e :=
  cfgRange e True (fun _ => hk) (fun _ => hne) (fun _ => ht) hsp

/-- cursor range and log, panics allowed (no assumption on tokens or table) -/
def cfgPos (e : Env) (hsp : SpecialOk e) : Cfg e :=
  cfgRange e False nofun nofun nofun hsp

/-- strict mode, the log only: it receives deprecation notices and nothing else -/
def cfgStrict (e : Env) (hstrict : e.strict = true)
    (hsp : ∀ ty ctx off s,
      (∀ v s', e.special ty ctx off e.toks e.strict s = .ok v s' → Clean s.log s'.log) ∧
      (∀ d s', e.special ty ctx off e.toks e.strict s = .err d s' → Clean s.log s'.log)) : Cfg e where
  PB := False
  NP := False
  L := Clean
  np_pb := nofun
  tok := nofun
  ne := nofun
  tbl := nofun
  L_refl := Clean.refl
  L_trans := Clean.trans
  L_log := fun d l h => ⟨[d], rfl, fun d' hd' => by
    rw [List.mem_singleton] at hd'
    subst hd'
    rcases h with h | h
    · rw [hstrict] at h; cases h
    · exact h⟩
  special := by
    intro ty ctx off s hs
    cases heq : e.special ty ctx off e.toks e.strict s with
    | ok a s' => exact ⟨nofun, (hsp ty ctx off s).1 _ _ heq, trivial⟩
    | err d s' => exact ⟨nofun, (hsp ty ctx off s).2 _ _ heq⟩
    | panic => exact fun h => h
    | fuel => trivial

theorem tableOk_a2lfile {tbl : Table} {k : Known} (h : tableOk tbl k = true) : tyOk tbl k.tyA2lFile = true := by
  simp only [tableOk, Bool.and_eq_true] at h
  have := h.1.2
  unfold tyOk
  split at this
  · rename_i h1; rw [h1]
  · cases this

theorem tableOk_version {tbl : Table} {k : Known} (h : tableOk tbl k = true) :
    ∃ a b, tbl.lookup k.tyAsap2Version = some (.block false [.int a, .int b] [] false) := by
  simp only [tableOk, Bool.and_eq_true] at h
  have := h.2
  split at this
  · rename_i a b h1; exact ⟨a, b, h1⟩
  · cases this

theorem At.reset {c : Cfg e} {lg : List Diag} {s : PState} (hl : c.L lg s.log) : At c 0 lg { s with pos := 0 } :=
  ⟨fun _ => ⟨Nat.le_refl _, Nat.zero_le _⟩, hl⟩

theorem noLineTail_safe (c : Cfg e) (k : DK) (n : Nat) {s : PState} {lg : List Diag} (hi : At c 0 lg s) :
    Safe c 0 lg ((errorOrLogNoLine k >>= fun _ => Pure.pure n) e s) T :=
  Safe.step hi (strictOrLog_safe c s hi.pre (errorOrLogNoLine_eval k e s)) fun _ _ i2 _ => Safe.done i2 trivial

theorem resetTail_safe (c : Cfg e) (k : DK) (n : Nat) {s1 : PState} {lg : List Diag} (hl : c.L lg s1.log) :
    Safe c 0 lg ((setTokenpos 0 >>= fun _ => errorOrLogNoLine k >>= fun _ => Pure.pure n) e s1) T := by
  simp only [setTokenpos_bind]
  exact noLineTail_safe c k n (At.reset hl)

theorem parseVersion_safe (c : Cfg e) (fuel : Nat) (ctx : Ctx) (s : PState) (hp : c.Pre s) :
    Safe c 0 s.log (parseVersion fuel ctx e s) T := by
  unfold parseVersion
  simp only [getEnv_bind, peekToken_bind]
  generalize e.toks[s.pos]? = o
  cases o with
  | none =>
    dsimp -zeta only
    exact resetTail_safe c _ _ (c.L_refl _)
  | some token =>
    dsimp -zeta only
    refine Safe.stepAttempt ((At.start hp).raise fun _ => Nat.zero_le _) (getIdentifier_safe c ctx s hp) ?_ ?_
    · intro name s1 _ i1 _
      simp only [getState_bind]
      refine Safe.ite ?_ ?_
      · have hty : c.NP → tyOk e.table e.known.tyAsap2Version = true := fun hnp => by
          obtain ⟨a, b, h⟩ := tableOk_version (c.tbl hnp)
          unfold tyOk; rw [h]
        refine Safe.stepAttempt i1 ((allSafe c fuel).type e.known.tyAsap2Version _ 0 s1 hty i1.pre) ?_ ?_
        · intro v s2 heq i2 _
          simp only [setTokenpos_bind]
          generalize hr : (Except.ok v : Except Diag Val) = r
          split
          · rename_i major _ _ _ minor _ _ _ _ _
            generalize versionOf major minor = ov
            cases ov with
            | some n => exact Safe.done (At.reset i2.log) trivial
            | none => exact noLineTail_safe c _ _ (At.reset i2.log)
          · -- the `panic` arm: the version keyword's value has two integers
            rename_i hne
            intro hnp
            obtain ⟨a, b, h⟩ := tableOk_version (c.tbl hnp)
            obtain ⟨info, _, x, hx, ox, _, _, y, hy, oy, rfl, -⟩ := versionType_inv h heq
            exact hne _ _ _ _ _ _ _ _ _ _ _ _ (Except.ok.inj hr.symm)
          · cases hr
        · intro d s2 _ hl2
          simp only [setTokenpos_bind]
          exact noLineTail_safe c _ _ (At.reset hl2)
      · exact resetTail_safe c _ _ i1.log
    · intro d s1 _ hl1
      simp only [getState_bind]
      rw [if_neg (by simp)]
      exact resetTail_safe c _ _ hl1

theorem parseFile_safe (c : Cfg e) (fuel : Nat) (s : PState) (hp : c.Pre s) :
    Safe c 0 s.log (parseFile fuel e s) T := by
  unfold parseFile
  simp only [getEnv_bind]
  refine Safe.bindG (lo1 := 0) (parseVersion_safe c fuel _ s hp) ?_
  intro ver s1 i1 _
  simp only [modifyState_bind]
  replace i1 : At c 0 s.log { s1 with ver := ver } := i1.same rfl i1.log
  refine Safe.step i1 ((allSafe c fuel).type e.known.tyA2lFile _ 0 _ (fun hnp => tableOk_a2lfile (c.tbl hnp)) i1.pre)
    fun file s2 i2 _ => ?_
  simp only [peekToken_bind]
  generalize e.toks[s2.pos]? = o
  cases o with
  | none =>
    dsimp only
    exact Safe.done i2 trivial
  | some t =>
    dsimp only
    exact Safe.step i2 (errorOrLog_safe c _ s2 i2.pre) fun _ _ i3 _ => Safe.done i3 trivial

end A2l.Tree
