import A2lVerif.Lemmas.TypedExact
import A2lVerif.Lemmas.TypedStore
import A2lVerif.Lemmas.IfDataWrite
/-!
# Typed IF_DATA access: content that has the exact shape decodes, and storing it again gives the same content, which is
# written as the same text

* `Sim a b`: the generic values `a` and `b` have the same content: they agree in every scalar, line offset, line,
  uid, tag and block-ness, and differ at most (1) in the ORDER of the items of a tagged struct / union (in Rust: a
  hash map) and (2) in that the data of a tagged item without data is `Block []` in `a` where it is `Block [None]`
  in `b`.
* `exact_load`: `Exact t g` → the typed load succeeds, and the stored value is `Sim`ilar to `g`.

`Sim a b` and `UidOk b` (the tagged items of `b` carry non-zero uids that increase along every list: what the parser
produces, Lemmas/IfDataUid.lean) imply `writeG top indent a = writeG top indent b`: the writer sorts the items of a
tagged struct by uid (`add_group`), the uids are pairwise different, so the order in which the hash map hands out the
items does not matter; and a `None` item writes nothing.
-/
namespace A2l.Typed
open A2l.Tree A2l.Aml A2l.IfData

mutual
def Sim : Gen → Gen → Prop
  | .array a, g => ∃ b, g = .array b ∧ SimL a b
  | .seq a, g => ∃ b, g = .seq b ∧ SimL a b
  | .struct l a, g => ∃ b, g = .struct l b ∧ SimL a b
  | .block l a, g => ∃ b, g = .block l b ∧ (SimL a b ∨ (a = [] ∧ b = [.none]))
  | .taggedStruct a, g => ∃ b b', g = .taggedStruct b ∧ b.Perm b' ∧ SimT a b'
  | .taggedUnion a, g => ∃ b b', g = .taggedUnion b ∧ b.Perm b' ∧ SimT a b'
  | .none, g => g = .none
  | .int w off v hex, g => g = .int w off v hex
  | .float off t, g => g = .float off t
  | .double off t, g => g = .double off t
  | .str off s, g => g = .str off s
  | .enumItem off s, g => g = .enumItem off s
def SimL : List Gen → List Gen → Prop
  | [], b => b = []
  | x :: a, b => ∃ y b', b = y :: b' ∧ Sim x y ∧ SimL a b'
def SimT : List (TItem Gen) → List (TItem Gen) → Prop
  | [], b => b = []
  | x :: a, b => ∃ y b', b = y :: b' ∧ x.line = y.line ∧ x.uid = y.uid ∧ x.startOff = y.startOff ∧ x.endOff = y.endOff ∧
      x.tag = y.tag ∧ x.isBlock = y.isBlock ∧ Sim x.data y.data ∧ SimT a b'
end

theorem SimT_append : ∀ {a b a' b' : List (TItem Gen)}, SimT a b → SimT a' b' → SimT (a ++ a') (b ++ b')
  | [], b, a', b', h, h' => by
    obtain rfl : b = [] := h
    exact h'
  | x :: a, b, a', b', h, h' => by
    obtain ⟨y, b1, rfl, h1, h2, h3, h4, h5, h6, h7, h8⟩ := h
    exact ⟨y, b1 ++ b', rfl, h1, h2, h3, h4, h5, h6, h7, SimT_append h8 h'⟩

theorem SimT_nil : SimT [] [] := rfl

def grouped : List (OTag OTy) → List (TItem Gen) → List (TItem Gen)
  | [], _ => []
  | m :: rest, its => itemsOf its m.tag ++ grouped rest its

theorem grouped_filter (tag : List Char) : ∀ (ms : List (OTag OTy)) (its : List (TItem Gen)), tag ∉ tagsOfM ms →
    grouped ms (its.filter (fun it => !decide (it.tag = tag))) = grouped ms its
  | [], _, _ => rfl
  | m :: rest, its, h => by
    show itemsOf _ m.tag ++ grouped rest _ = itemsOf its m.tag ++ grouped rest its
    rw [grouped_filter tag rest its (fun hm => h (List.mem_cons_of_mem _ hm))]
    congr 1
    unfold itemsOf
    rw [List.filter_filter]
    apply List.filter_congr
    intro it _
    by_cases hx : it.tag = m.tag
    · have : m.tag ≠ tag := by
        intro he
        exact h (he ▸ List.mem_cons_self ..)
      simp [hx, this]
    · simp [hx]

theorem perm_grouped : ∀ (ms : List (OTag OTy)) (its : List (TItem Gen)), (tagsOfM ms).Nodup →
    (∀ it ∈ its, it.tag ∈ tagsOfM ms) → its.Perm (grouped ms its)
  | [], its, _, h => by
    cases its with
    | nil => exact List.Perm.refl _
    | cons it rest =>
      cases h it (List.mem_cons_self ..)
  | m :: rest, its, hn, h => by
    have hn := List.nodup_cons.1 hn
    -- the items of `m` first, then the others; `m.tag` is not a tag of `rest`, so the others group like `its`
    have h1 : its.Perm (its.filter (fun it => decide (it.tag = m.tag)) ++ its.filter (fun it => !decide (it.tag = m.tag))) :=
      (List.filter_append_perm _ its).symm
    refine h1.trans (List.Perm.append (List.Perm.refl _) ?_)
    rw [← grouped_filter m.tag rest its hn.1]
    refine perm_grouped rest _ hn.2 ?_
    intro it hit
    obtain ⟨hit1, hit2⟩ := List.mem_filter.1 hit
    rcases List.mem_cons.1 (h it hit1) with h' | h'
    · simp [h'] at hit2
    · exact h'

theorem storeMembers_append : ∀ (ms : List (OTag OTy)) (a b : List TVal), a.length = ms.length →
    storeMembers ms (a ++ b) = storeMembers ms a
  | [], a, b, _ => rfl
  | m :: rest, a, b, h => by
    cases a with
    | nil => simp at h
    | cons x a' =>
      rw [List.cons_append, storeMembers_cons, storeMembers_cons]
      simp only [List.headD_cons, List.tail_cons]
      rw [storeMembers_append rest a' b (by simpa using h)]

theorem block_sim {ts : List OTy}
    (h : ∀ gs, ExactL ts gs → LOk (loadFields ts gs) (fun r => SimL (storeFields ts r.1 r.2) gs))
    {gs : List Gen} (hex : ExactB ts gs) (line u so eo : Nat) :
    LOk (loadBlockWith (loadFields ts) (.block line gs) u so eo) (fun v => ∃ fs locs, v = .struct ⟨line, u, so, eo, locs⟩ fs ∧
      Sim (.block line (storeFields ts fs locs)) (.block line gs)) := by
  rcases hex with hex | ⟨rfl, rfl⟩
  · exact (h gs hex).bind fun r hs => ⟨_, rfl, r.1, r.2, rfl, gs, rfl, .inl hs⟩
  · exact ⟨_, rfl, [], [], rfl, _, rfl, .inr ⟨rfl, rfl⟩⟩

theorem item_sim {ts : List OTy}
    (h : ∀ gs, ExactL ts gs → LOk (loadFields ts gs) (fun r => SimL (storeFields ts r.1 r.2) gs))
    {tag : List Char} {b : Bool} {it : TItem Gen} (ht : it.tag = tag)
    (hex : b = it.isBlock ∧ ∃ gs, it.data = .block it.line gs ∧ ExactB ts gs) :
    LOk (loadBlockWith (loadFields ts) it.data it.uid it.startOff it.endOff) (fun v => SimT [mkItem (storeFields ts) tag b v] [it]) := by
  obtain ⟨hb, gs, hd, hgs⟩ := hex
  rw [hd]
  obtain ⟨_, hl, fs, locs, rfl, hs⟩ := block_sim h hgs it.line it.uid it.startOff it.endOff
  exact ⟨_, hl, it, [], rfl, rfl, rfl, rfl, rfl, ht.symm, hb, hd ▸ hs, SimT_nil⟩

theorem mapL_sim {f : TItem Gen → LRes TVal} {mk : TVal → TItem Gen} :
    ∀ (l : List (TItem Gen)), (∀ x ∈ l, LOk (f x) (fun v => SimT [mk v] [x])) → LOk (mapL f l) (fun vs => SimT (vs.map mk) l)
  | [], _ => ⟨[], rfl, SimT_nil⟩
  | x :: rest, h =>
    (h x (List.mem_cons_self ..)).bind fun v hs => (mapL_sim rest (fun y hy => h y (List.mem_cons_of_mem _ hy))).bind
      fun vs hss => ⟨v :: vs, rfl, SimT_append (a := [mk v]) (b := [x]) hs hss⟩

theorem member_sim {lf : List Gen → LRes (List TVal × List Loc)} {sf : List TVal → List Loc → List Gen}
    (tag : List Char) (rep b : Bool) (its : List (TItem Gen)) (hlen : rep = false → (itemsOf its tag).length ≤ 1)
    (hitem : ∀ it ∈ itemsOf its tag, LOk (loadBlockWith lf it.data it.uid it.startOff it.endOff)
      (fun v => SimT [mkItem sf tag b v] [it])) :
    LOk (loadMember lf tag rep its) (fun f => SimT (storeMember sf tag b f) (itemsOf its tag)) := by
  cases rep with
  | true =>
    obtain ⟨vs, hvs, hs⟩ := mapL_sim (f := fun it : TItem Gen => loadBlockWith lf it.data it.uid it.startOff it.endOff)
      (mk := mkItem sf tag b) (itemsOf its tag) hitem
    exact ⟨.multi vs, loadMember_rep hvs, hs⟩
  | false =>
    cases hi : itemsOf its tag with
    | nil => exact ⟨.opt none, loadMember_absent hi, SimT_nil⟩
    | cons it tl =>
      rw [hi] at hitem hlen
      obtain ⟨v, hv, hs⟩ := hitem it (List.mem_cons_self ..)
      obtain rfl : tl = [] := List.eq_nil_of_length_eq_zero (Nat.eq_zero_of_le_zero (Nat.le_of_succ_le_succ (hlen rfl)))
      exact ⟨.opt (some v), loadMember_first hi hv, hs⟩

theorem mapL_simL {f : Gen → LRes (TVal × Loc)} {sf : TVal → Loc → Gen} (d : Loc) :
    ∀ (gs : List Gen), (∀ x ∈ gs, LOk (f x) (fun r => Sim (sf r.1 r.2) x)) →
    LOk (mapL f gs) (fun rs => SimL (storeList sf d (rs.map (·.1)) (rs.map (·.2))) gs)
  | [], _ => ⟨[], rfl, rfl⟩
  | x :: rest, h =>
    (h x (List.mem_cons_self ..)).bind fun r hs => (mapL_simL d rest (fun y hy => h y (List.mem_cons_of_mem _ hy))).bind
      fun rs hss => ⟨r :: rs, rfl, x, rest, rfl, hs, hss⟩

/-- For the members: `store` inserts member by member, so what it builds is `Sim`ilar to the items `grouped` by member;
    `perm_grouped` (at the tagged struct / union) says that this is a permutation of the items that were loaded. -/
theorem exact_load :
    (∀ t, isTagged t = false → distinctTy t = true → ∀ g, Exact t g → LOk (loadItem t g) (fun r => Sim (storeItem t r.1 r.2) g)) ∧
    (∀ ts, distinctL ts = true → ∀ gs, ExactL ts gs → LOk (loadFields ts gs) (fun r => SimL (storeFields ts r.1 r.2) gs)) ∧
    (∀ ms, distinctM ms = true → ∀ g its, tagItems g = .ok its → ExactM ms its →
      LOk (loadMembers ms g) (fun vs => vs.length = ms.length ∧ SimT (storeMembers ms vs) (grouped ms its))) := by
  refine OTy.induct ?_ ?_ ?_ ?_ ?_ ?_ ?_ ?_ ?_ ?_ ?_ ?_ ?_ ?_ ?_
  · intro _ _ g h; exact h.elim
  · intro w _ _ g h
    obtain ⟨off, v, hex, rfl⟩ := h
    exact ⟨_, if_pos rfl, rfl⟩
  · intro _ _ g h
    obtain ⟨off, t, rfl⟩ := h
    exact ⟨_, rfl, rfl⟩
  · intro _ _ g h
    obtain ⟨off, t, rfl⟩ := h
    exact ⟨_, rfl, rfl⟩
  · intro _ _ g h
    obtain ⟨off, t, rfl⟩ := h
    exact ⟨_, rfl, rfl⟩
  · intro of dim ih _ hd g h
    obtain ⟨hnt, gs, rfl, hlen, hall⟩ := h
    rw [loadItem_array]
    dsimp only
    rw [← hlen, loadArr_length]
    exact (mapL_simL (sf := storeItem of) (defLoc of) gs (fun x hx => ih hnt hd x (hall x hx))).bind
      fun _ hsim => ⟨_, rfl, gs, rfl, hsim⟩
  · intro names _ _ g h
    obtain ⟨off, s, rfl, hc⟩ := h
    exact ⟨_, if_pos hc, rfl⟩
  · intro items ih _ hd g h
    obtain ⟨line, gs, rfl, hl⟩ := h
    rw [loadItem_struct]
    exact (ih hd gs hl).bind fun _ hsim => ⟨_, rfl, gs, rfl, hsim⟩
  · intro of ih _ hd g h
    obtain ⟨hnt, gs, rfl, hall⟩ := h
    rw [loadItem_seq]
    exact (mapL_simL (sf := storeItem of) (defLoc of) gs (fun x hx => ih hnt hd x (hall x hx))).bind
      fun _ hsim => ⟨_, rfl, gs, rfl, hsim⟩
  · intro u ms _ ht; cases ht
  · intro _ gs h
    obtain rfl : gs = [] := h
    exact ⟨_, rfl, rfl⟩
  · intro u ms rest ihm ihr hd gs h
    obtain ⟨hn, hdm, hdr⟩ := distinctL_cons_tagged hd
    obtain ⟨g, gs', rfl, ⟨its, rfl, htags, hm⟩, hr⟩ := h
    rw [loadFields_cons_tagged]
    refine (ihm hdm _ its (tagItems_tagged u its) hm).bind fun vs hvs => (ihr hdr gs' hr).bind fun r hsimr => ⟨_, rfl, ?_⟩
    dsimp only
    rw [storeFields_cons_tagged, storeMembers_append ms vs r.1 hvs.1, ← hvs.1, List.drop_left]
    have hperm := perm_grouped ms its hn htags
    cases u with
    | true => exact ⟨_, gs', rfl, ⟨its, grouped ms its, rfl, hperm, hvs.2⟩, hsimr⟩
    | false => exact ⟨_, gs', rfl, ⟨its, grouped ms its, rfl, hperm, hvs.2⟩, hsimr⟩
  · intro t rest ht iht ihr hd gs h
    have hd := distinctL_cons hd
    obtain ⟨g, gs', rfl, hg, hr⟩ := h
    rw [loadFields_cons_item t ht]
    refine (iht ht hd.1 g hg).bind fun x hsim => (ihr hd.2 gs' hr).bind fun r hsimr => ⟨_, rfl, ?_⟩
    dsimp only
    rw [storeFields_cons_item t ht]
    exact ⟨g, gs', rfl, hsim, hsimr⟩
  · intro _ g its _ _
    exact ⟨[], rfl, rfl, SimT_nil⟩
  · intro m rest ihm ihr hd g its hg hex
    have hd := distinctM_cons hd
    rw [loadMembers_cons, hg, LRes.ok_bind]
    refine (member_sim (sf := storeFields m.items) m.tag m.rep m.isBlock its hex.1 (fun it hit =>
      item_sim (ihm hd.1) (mem_itemsOf hit).2 (hex.2.1 it hit))).bind fun f hsimf =>
      (ihr hd.2 g its hg hex.2.2).bind fun vs hvs => ⟨_, rfl, congrArg Nat.succ hvs.1, ?_⟩
    rw [storeMembers_cons]
    exact SimT_append hsimf hvs.2

theorem mergeSort_perm_eq {l l' : List TagInfo} (hp : l'.Perm l)
    (hu : List.Pairwise (fun a b : TagInfo => a.uid < b.uid) l) (h0 : ∀ x ∈ l, x.uid ≠ 0) :
    l'.mergeSort tagLe = l.mergeSort tagLe := by
  -- `tagLe` is `ListOrder.lexLe` on (uid, line, tag)
  have hs : l.Pairwise (fun a b => tagLe a b = true ∧ tagLe b a = false) :=
    hu.imp_of_mem fun {a b} ha _ h => ⟨ListOrder.lexLe_of_lt (h0 a ha) h, ListOrder.lexLe_of_gt (h0 a ha) h⟩
  rw [mergeSort_of_perm_strict tagLe_trans tagLe_total hp hs, mergeSort_of_perm_strict tagLe_trans tagLe_total (.refl l) hs]

theorem addGroup_tagInfos_perm (indent : Nat) {a b b' : List (TItem Gen)} (hperm : b.Perm b') (hu : UidOkT b)
    (hmap : (∀ y ∈ b', UidOk y.data) → a.map (tagInfo indent) = b'.map (tagInfo indent)) :
    addGroup indent (tagInfos indent a) = addGroup indent (tagInfos indent b) := by
  obtain ⟨hlt, hmem⟩ := uidOkT_mem hu
  have hpl (l : List (TItem Gen)) : Plain (l.map (tagInfo indent)) := tagInfos_map indent l ▸ tagInfos_plain indent l
  rw [tagInfos_map, tagInfos_map, hmap fun y hy => (hmem y (hperm.symm.subset hy)).2,
    addGroup_plain indent _ (hpl b'), addGroup_plain indent _ (hpl b),
    mergeSort_perm_eq (hperm.symm.map _) (hlt.map _ fun _ _ h => h) (List.forall_mem_map.2 fun y hy => (hmem y hy).1)]

mutual
theorem sim_write (indent : Nat) : ∀ (top : Bool) (a b : Gen), Sim a b → UidOk b → writeG top indent a = writeG top indent b
  | top, a, b => match a with
    | .none => fun h _ => h ▸ rfl
    | .int .. => fun h _ => h ▸ rfl
    | .float .. => fun h _ => h ▸ rfl
    | .double .. => fun h _ => h ▸ rfl
    | .str .. => fun h _ => h ▸ rfl
    | .enumItem .. => fun h _ => h ▸ rfl
    | .array a => fun h hu => by
      obtain ⟨b', rfl, hl⟩ := h
      exact simL_write indent a b' hl hu
    | .seq a => fun h hu => by
      obtain ⟨b', rfl, hl⟩ := h
      exact simL_write indent a b' hl hu
    | .struct l a => fun h hu => by
      obtain ⟨b', rfl, hl⟩ := h
      exact simL_write indent a b' hl hu
    | .block l a => fun h hu => by
      obtain ⟨b', rfl, hl⟩ := h
      cases top
      · rfl
      · rcases hl with hl | ⟨rfl, rfl⟩
        · exact simL_write indent a b' hl hu
        · rfl
    | .taggedStruct a => fun h hu => by
      obtain ⟨b1, b2, rfl, hperm, hs⟩ := h
      exact addGroup_tagInfos_perm indent hperm hu (simT_map indent a b2 hs)
    | .taggedUnion a => fun h hu => by
      obtain ⟨b1, b2, rfl, hperm, hs⟩ := h
      exact addGroup_tagInfos_perm indent hperm hu (simT_map indent a b2 hs)
theorem simL_write (indent : Nat) : ∀ (a b : List Gen), SimL a b → UidOkL b → IfData.writeItems indent a = IfData.writeItems indent b
  | [], _, h, _ => h ▸ rfl
  | x :: a, b, h, hu => by
    obtain ⟨y, b', rfl, hxy, hl⟩ := h
    show _ ++ _ = _ ++ _
    rw [sim_write indent false x y hxy hu.1, simL_write indent a b' hl hu.2]
theorem simT_map (indent : Nat) : ∀ (a b : List (TItem Gen)), SimT a b → (∀ y ∈ b, UidOk y.data) →
    a.map (tagInfo indent) = b.map (tagInfo indent)
  | [], _, h, _ => h ▸ rfl
  | x :: a, b, h, hu => by
    obtain ⟨y, b', rfl, h1, h2, h3, h4, h5, h6, h7, h8⟩ := h
    have hw := sim_write (indent + 1) true x.data y.data h7 (hu y (List.mem_cons_self ..))
    have hx : tagInfo indent x = tagInfo indent y := by
      unfold tagInfo
      rw [h1, h2, h3, h4, h5, h6, hw]
    rw [List.map_cons, List.map_cons, hx, simT_map indent a b' h8 (fun z hz => hu z (List.mem_cons_of_mem _ hz))]
end

end A2l.Typed
