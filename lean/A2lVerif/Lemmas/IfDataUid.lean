import A2lVerif.Lemmas.IfData
import A2lVerif.Lemmas.IfDataWrite
/-!
# IF_DATA: the uids of the tagged items that the parser produces

`sequential_id` only grows, every tagged item gets the next id when its tag has been read, so the items of every
tagged struct / union carry non-zero, strictly increasing uids in parse order (`UidOk`). This is what
`writeG_render` (Lemmas/IfDataWrite.lean) needs: the stable sort by uid in `add_group` is the identity.

For the fallback the same induction on its budget (`allRes`) also shows that the nesting limit bounds the height of
the tree it returns (`genDepth`, `unknownIfdata_genDepth`).
-/
namespace A2l.IfData
open A2l.Tree A2l.Aml A2l.G A2l.Sc

variable {e : Env}

/-- `sequential_id` did not fall below `lo` (also when the function failed), and `Q` holds for a result -/
def MQ {α : Type} (lo : Nat) (r : PRes α) (Q : α → PState → Prop) : Prop :=
  match r with
  | .ok a s' => lo ≤ s'.seqId ∧ Q a s'
  | .err _ s' => lo ≤ s'.seqId
  | .panic => True
  | .fuel => True

/-- a function that never lowers `sequential_id` and whose results satisfy `Q` -/
def MonoQ {α : Type} (Q : α → Prop) (m : PM α) (e : Env) : Prop :=
  ∀ (s : PState) (lo : Nat), lo ≤ s.seqId → MQ lo (m e s) (fun a _ => Q a)

abbrev Mono {α : Type} (m : PM α) (e : Env) : Prop := MonoQ (fun _ => True) m e

theorem MQ.attemptB {α β} {lo : Nat} {m : PM α} {f : Except Diag α → PM β} {s : PState} {Q1 : α → PState → Prop}
    {Q2 : β → PState → Prop} (h1 : MQ lo (m e s) Q1)
    (hok : ∀ a s1, lo ≤ s1.seqId → Q1 a s1 → MQ lo (f (.ok a) e s1) Q2)
    (herr : ∀ d s1, lo ≤ s1.seqId → MQ lo (f (.error d) e s1) Q2) : MQ lo ((A2l.Tree.attempt m >>= f) e s) Q2 := by
  rw [bind_def]
  unfold A2l.Tree.attempt
  cases h : m e s with
  | ok a s1 => rw [h] at h1; exact hok a s1 h1.1 h1.2
  | err d s1 => rw [h] at h1; exact herr d s1 h1
  | panic => trivial
  | fuel => trivial

theorem MQ.bind {α β} {lo : Nat} {m : PM α} {f : α → PM β} {s : PState} {Q1 : α → PState → Prop}
    {Q2 : β → PState → Prop} (h1 : MQ lo (m e s) Q1)
    (h2 : ∀ a s1, lo ≤ s1.seqId → Q1 a s1 → MQ lo (f a e s1) Q2) : MQ lo ((m >>= f) e s) Q2 := by
  rw [bind_eq_attempt]
  exact MQ.attemptB h1 h2 fun _ _ hlo => hlo

theorem MQ.weaken {α} {lo lo' : Nat} {r : PRes α} {Q Q' : α → PState → Prop} (h : MQ lo r Q) (hlo : lo' ≤ lo)
    (hq : ∀ a s, Q a s → Q' a s) : MQ lo' r Q' := by
  cases r with
  | ok a s => exact ⟨Nat.le_trans hlo h.1, hq a s h.2⟩
  | err d s => exact Nat.le_trans hlo h
  | panic => trivial
  | fuel => trivial

/-- strengthening of a `MQ` result by what it says relative to the start state -/
theorem MQ.rel {α} {m : PM α} {s : PState} {lo : Nat} {Q : α → PState → Prop} (hlo : lo ≤ s.seqId)
    (h : MQ s.seqId (m e s) Q) : MQ lo (m e s) (fun a s' => Q a s' ∧ s.seqId ≤ s'.seqId) := by
  cases hr : m e s with
  | ok a s1 => rw [hr] at h; exact ⟨Nat.le_trans hlo h.1, h.2, h.1⟩
  | err d s1 => rw [hr] at h; exact Nat.le_trans hlo h
  | panic => trivial
  | fuel => trivial

theorem MQ.pure {α} {lo : Nat} {a : α} {s : PState} {Q : α → PState → Prop} (hlo : lo ≤ s.seqId) (hq : Q a s) :
    MQ lo ((Pure.pure a : PM α) e s) Q := ⟨hlo, hq⟩

theorem MQ.fail {α} {lo : Nat} {k : DK} {s : PState} {Q : α → PState → Prop} (hlo : lo ≤ s.seqId) :
    MQ lo ((A2l.Tree.fail k : PM α) e s) Q := hlo

section
variable {α β : Type} {Q : β → Prop}

/-- the form in which the results are used -/
theorem MonoQ.ok {m : PM β} (h : MonoQ Q m e) {s s' : PState} {a : β} (hr : m e s = .ok a s') : Q a := by
  have := h s s.seqId (Nat.le_refl _)
  rw [hr] at this
  exact this.2

theorem MonoQ.pure {a : β} (h : Q a) : MonoQ Q (Pure.pure a : PM β) e := fun _ _ hlo => MQ.pure hlo h

theorem MonoQ.fail (k : DK) : MonoQ Q (A2l.Tree.fail k : PM β) e := fun _ _ hlo => MQ.fail hlo

theorem MonoQ.panic : MonoQ Q (A2l.Tree.panic : PM β) e := fun _ _ _ => trivial

theorem MonoQ.bind {Q1 : α → Prop} {m : PM α} {f : α → PM β} (h1 : MonoQ Q1 m e)
    (h2 : ∀ a, Q1 a → MonoQ Q (f a) e) : MonoQ Q (m >>= f) e :=
  fun s lo hlo => MQ.bind (h1 s lo hlo) fun a s1 hlo1 hq => h2 a hq s1 lo hlo1

theorem MonoQ.attempt {Q1 : α → Prop} {m : PM α} {f : Except Diag α → PM β} (h1 : MonoQ Q1 m e)
    (hok : ∀ a, Q1 a → MonoQ Q (f (.ok a)) e) (herr : ∀ d, MonoQ Q (f (.error d)) e) : MonoQ Q (attempt m >>= f) e :=
  fun s lo hlo => MQ.attemptB (h1 s lo hlo) (fun a s1 hlo1 hq => hok a hq s1 lo hlo1) fun d s1 hlo1 => herr d s1 lo hlo1

theorem getLineOffset_mono : MonoQ (fun _ => True) getLineOffset e := by
  intro s lo hlo
  rcases getLineOffset_cases e s with h | ⟨n, h⟩ <;> rw [h]
  · trivial
  · exact ⟨hlo, trivial⟩

theorem MonoQ.lineOffset {f : Nat → PM β} (h : ∀ n, MonoQ Q (f n) e) : MonoQ Q (getLineOffset >>= f) e :=
  .bind getLineOffset_mono fun n _ => h n

theorem MonoQ.ite {p : Prop} [Decidable p] {a b : PM β} (ha : MonoQ Q a e) (hb : MonoQ Q b e) :
    MonoQ Q (if p then a else b) e :=
  of_ite (P := fun m => MonoQ Q m e) ha hb

theorem MonoQ.getEnv {f : Env → PM β} (h : MonoQ Q (f e) e) : MonoQ Q (getEnv >>= f) e := h

theorem MonoQ.peekToken {f : Option PTok → PM β} (h : ∀ o, MonoQ Q (f o) e) :
    MonoQ Q (peekToken >>= f) e :=
  fun s lo hlo => h _ s lo hlo

theorem MonoQ.getTokenpos {f : Nat → PM β} (h : ∀ n, MonoQ Q (f n) e) : MonoQ Q (getTokenpos >>= f) e :=
  fun s lo hlo => h _ s lo hlo

theorem MonoQ.setTokenpos {p : Nat} {f : Unit → PM β} (h : MonoQ Q (f ()) e) :
    MonoQ Q (setTokenpos p >>= f) e :=
  fun s lo hlo => h { s with pos := p } lo hlo

theorem MonoQ.undo {f : Unit → PM β} (h : MonoQ Q (f ()) e) : MonoQ Q (undoGetToken >>= f) e := by
  intro s lo hlo
  rw [undo_bind]
  split
  · trivial
  · exact h _ lo hlo

/-- the next id is not 0 -/
theorem MonoQ.getNextId {f : Nat → PM β} (h : ∀ n, n ≠ 0 → MonoQ Q (f n) e) :
    MonoQ Q (getNextId >>= f) e :=
  fun s lo hlo => h _ (Nat.succ_ne_zero _) { s with seqId := s.seqId + 1 } lo (Nat.le_succ_of_le hlo)

end

theorem getToken_mono (ctx : Ctx) : Mono (getToken ctx) e := by
  intro s lo hlo
  rw [getToken_eval]
  cases e.toks[s.pos]? with
  | none => exact hlo
  | some t => exact ⟨hlo, trivial⟩

theorem monoRules : PMRulesLog e (fun m => Mono m e) where
  pure := fun _ => .pure trivial
  fail := .fail
  panic := .panic
  outOfFuel := fun _ _ _ => trivial
  bind := fun h1 h2 => .bind h1 fun a _ => h2 a
  getEnv_bind := fun _ => .getEnv
  getTokenpos_bind := .getTokenpos
  peekToken_bind := .peekToken
  getToken := getToken_mono
  getLineOffset := getLineOffset_mono
  setTokenpos := fun _ _ _ hlo => ⟨hlo, trivial⟩
  errorOrLog := fun _ => .getEnv (.ite (.fail _) fun _ _ hlo => ⟨hlo, trivial⟩)

theorem getNextTagOrComment_mono (ctx : Ctx) : Mono (getNextTagOrComment ctx) e :=
  monoRules.getNextTagOrComment (fun h hf => .attempt h (fun a _ => hf (.ok a)) fun d => hf (.error d))
    (fun _ _ hlo => ⟨hlo, trivial⟩) (fun _ _ _ hlo => hlo) ctx

theorem uidOkL_nil' : UidOkL [] := by rw [uidOkL_nil]; trivial
theorem uidOkL_cons' {g : Gen} {rest : List Gen} (hg : UidOk g) (hrest : UidOkL rest) : UidOkL (g :: rest) := by
  rw [uidOkL_cons]; exact ⟨hg, hrest⟩

theorem uidOk_makeBlock (d : Gen) (line : Nat) (h : UidOk d) : UidOk (makeBlock d line) := by
  unfold makeBlock
  split
  · rw [uidOk_struct] at h; rw [uidOk_block]; exact h
  · rw [uidOk_block, uidOkL_cons, uidOkL_nil]; exact ⟨h, trivial⟩

theorem uidOkL_iff : ∀ {l : List Gen}, UidOkL l ↔ ∀ g ∈ l, UidOk g
  | [] => ⟨fun _ _ h => (nomatch h), fun _ => trivial⟩
  | _ :: _ => by rw [uidOkL_cons, List.forall_mem_cons, uidOkL_iff]

/-- the loops collect their items newest first: the invariant speaks of the members, the result is the reverse -/
theorem uidOkL_reverse {acc : List Gen} (h : ∀ g ∈ acc, UidOk g) : UidOkL acc.reverse :=
  uidOkL_iff.2 fun g hg => h g (List.mem_reverse.1 hg)

def UidP (p : PM Gen) (e : Env) : Prop := ∀ (s : PState) (lo : Nat), lo ≤ s.seqId → MQ lo (p e s) (fun g _ => UidOk g)

def UidD (d : List Char → Option (Bool × (Ctx → PM Gen))) (e : Env) : Prop :=
  ∀ tag b p, d tag = some (b, p) → ∀ ctx, UidP (p ctx) e

theorem arrayLoop_uid {p : PM Gen} (hp : UidP p e) : ∀ n : Nat, MonoQ UidOkL (arrayLoop p n) e
  | 0 => by
    rw [arrayLoop]
    exact .pure uidOkL_nil'
  | n + 1 => by
    rw [arrayLoop]
    exact .getTokenpos fun _ => .bind hp fun v hv => .getTokenpos fun _ =>
      .ite (.pure (uidOkL_cons' hv uidOkL_nil')) (.bind (arrayLoop_uid hp n) fun vs hvs => .pure (uidOkL_cons' hv hvs))

theorem seqLoop_uid {p : PM Gen} (hp : UidP p e) : ∀ (fuel : Nat) (acc : List Gen), (∀ g ∈ acc, UidOk g) →
    MonoQ UidOkL (seqLoop p fuel acc) e
  | 0, _, _ => fun _ _ _ => trivial
  | fuel + 1, acc, hacc => by
    rw [seqLoop]
    exact .getTokenpos fun _ => .attempt hp
      (fun v hv => .getTokenpos fun _ => .ite (.setTokenpos (.pure (uidOkL_reverse hacc)))
        (seqLoop_uid hp fuel (v :: acc) (List.forall_mem_cons.2 ⟨hv, hacc⟩)))
      fun _ => .setTokenpos (.pure (uidOkL_reverse hacc))

/-- an item produced between `s` and `s'`: its uid is one of the ids handed out in between -/
def ItemQ (s : PState) (r : Option (TItem Gen)) (s' : PState) : Prop :=
  ∀ it, r = some it → s.seqId < it.uid ∧ it.uid ≤ s'.seqId ∧ UidOk it.data

theorem taggedItem_uid {d : List Char → Option (Bool × (Ctx → PM Gen))} (hd : UidD d e) (ctx : Ctx) (s : PState)
    (lo : Nat) (hlo : lo ≤ s.seqId) : MQ lo (taggedItem d ctx e s) (ItemQ s) := by
  unfold taggedItem
  simp only [getTokenpos_bind, getEnv_bind]
  have hreset : ∀ s2 : PState, lo ≤ s2.seqId →
      MQ lo ((do setTokenpos s.pos; pure (none : Option (TItem Gen)) : PM _) e s2) (ItemQ s) := by
    intro s2 h2
    simp only [setTokenpos_bind]
    exact MQ.pure h2 (fun it h => by cases h)
  refine MQ.bind (MQ.rel hlo (monoRules.skipComments ctx _ s s.seqId (Nat.le_refl _))) ?_
  intro _ s1 hlo1 hs1
  refine MQ.attemptB (MQ.rel hlo1 (getNextTagOrComment_mono ctx s1 s1.seqId (Nat.le_refl _))) ?_
    (fun _ s2 hlo2 => hreset s2 hlo2)
  intro bc s2 hlo2 hs2
  cases bc with
  | comment tok off => exact hreset s2 hlo2
  | none => exact hreset s2 hlo2
  | block tok isBlock startOff =>
    dsimp only
    cases hdt : d tok.text with
    | none => exact hreset s2 hlo2
    | some bp =>
      obtain ⟨b, p⟩ := bp
      dsimp only
      split
      · exact hreset s2 hlo2
      · simp only [getNextId_bind]
        -- the item gets the id `s2.seqId + 1`, which is above everything handed out before `s`
        refine MQ.bind (MQ.rel (s := { s2 with seqId := s2.seqId + 1 }) (Nat.le_succ_of_le hlo2)
          (hd _ _ _ hdt _ _ _ (Nat.le_refl _))) ?_
        intro data s3 hlo3 hq3
        refine MQ.bind (MQ.rel hlo3 (monoRules.endOfTagged _ _ _ s3 s3.seqId (Nat.le_refl _))) ?_
        intro endOff s4 hlo4 hq4
        refine MQ.pure hlo4 ?_
        intro it hit
        cases hit
        exact ⟨Nat.lt_succ_of_le (Nat.le_trans hs1.2 hs2.2), Nat.le_trans hq3.2 hq4.2, uidOk_makeBlock _ _ hq3.1⟩

theorem uidOk_none : UidOk .none := trivial
theorem uidOk_int (w off : Nat) (v : Int) (hex : Bool) : UidOk (.int w off v hex) := trivial
theorem uidOk_float (off : Nat) (t : List Char) : UidOk (.float off t) := trivial
theorem uidOk_double (off : Nat) (t : List Char) : UidOk (.double off t) := trivial
theorem uidOk_str (off : Nat) (t : List Char) : UidOk (.str off t) := trivial
theorem uidOk_enumItem (off : Nat) (t : List Char) : UidOk (.enumItem off t) := trivial

/-- the items appended by a loop: increasing uids, all handed out since `s` -/
def ItemsQ (s : PState) (new : List (TItem Gen)) (s' : PState) : Prop :=
  UidOkT new ∧ ∀ x ∈ new, s.seqId < x.uid ∧ x.uid ≤ s'.seqId

/-- the result of a loop over tagged items that started at `s` with `acc` already read (newest first) -/
def LoopQ (acc : List (TItem Gen)) (s : PState) (vs : List (TItem Gen)) (s' : PState) : Prop :=
  ∃ new, vs = acc.reverse ++ new ∧ ItemsQ s new s' ∧ s.seqId ≤ s'.seqId

theorem LoopQ.stop {acc : List (TItem Gen)} {s s' : PState} (h : s.seqId ≤ s'.seqId) : LoopQ acc s acc.reverse s' :=
  ⟨[], (List.append_nil _).symm, ⟨by rw [uidOkT_nil]; trivial, fun x hx => by cases hx⟩, h⟩

/-- the loop read `it` between `s` and `s1` and went on -/
theorem LoopQ.cons {acc vs : List (TItem Gen)} {s s1 s' : PState} {it : TItem Gen}
    (hit : s.seqId < it.uid ∧ it.uid ≤ s1.seqId ∧ UidOk it.data) (h : LoopQ (it :: acc) s1 vs s') : LoopQ acc s vs s' := by
  obtain ⟨new, hvs, ⟨hok, hnew⟩, hmono⟩ := h
  have hlt : ∀ x ∈ new, it.uid < x.uid := fun x hx => Nat.lt_of_le_of_lt hit.2.1 (hnew x hx).1
  refine ⟨it :: new, by simp [hvs], ⟨?_, ?_⟩, Nat.le_trans (Nat.le_of_lt hit.1) (Nat.le_trans hit.2.1 hmono)⟩
  · rw [uidOkT_cons]
    exact ⟨Nat.ne_of_gt (Nat.zero_lt_of_lt hit.1), hlt, hit.2.2, hok⟩
  · intro x hx
    rcases List.mem_cons.1 hx with rfl | hx'
    · exact ⟨hit.1, Nat.le_trans hit.2.1 hmono⟩
    · exact ⟨Nat.lt_trans hit.1 (hlt x hx'), (hnew x hx').2⟩

/-- the loop went from `s` to `s1` without reading an item -/
theorem LoopQ.skip {acc vs : List (TItem Gen)} {s s1 s' : PState} (h1 : s.seqId ≤ s1.seqId) (h : LoopQ acc s1 vs s') :
    LoopQ acc s vs s' := by
  obtain ⟨new, hvs, hnew, hmono⟩ := h
  exact ⟨new, hvs, ⟨hnew.1, fun x hx => ⟨Nat.lt_of_le_of_lt h1 (hnew.2 x hx).1, (hnew.2 x hx).2⟩⟩, Nat.le_trans h1 hmono⟩

theorem LoopQ.uidOkT {vs : List (TItem Gen)} {s s' : PState} (h : LoopQ [] s vs s') : UidOkT vs := by
  obtain ⟨new, rfl, hnew, _⟩ := h
  simpa using hnew.1

theorem tsLoop_uid {d : List Char → Option (Bool × (Ctx → PM Gen))} (hd : UidD d e) (rep : List Char → Bool) (ctx : Ctx) :
    ∀ (fuel : Nat) (acc : List (TItem Gen)) (s : PState) (lo : Nat), lo ≤ s.seqId →
    MQ lo (tsLoop d rep ctx fuel acc e s) (LoopQ acc s)
  | 0, _, _, _, _ => trivial
  | fuel + 1, acc, s, lo, hlo => by
    rw [tsLoop]
    refine MQ.bind (MQ.rel hlo (taggedItem_uid hd ctx s s.seqId (Nat.le_refl _))) ?_
    intro r s1 hlo1 hq
    cases r with
    | none => exact MQ.pure hlo1 (.stop hq.2)
    | some it =>
      dsimp only
      split
      · exact MQ.fail hlo1
      · exact MQ.weaken (tsLoop_uid hd rep ctx fuel (it :: acc) s1 lo hlo1) (Nat.le_refl _)
          (fun _ _ h => .cons (hq.1 it rfl) h)

mutual
theorem itemP_uid (f32 : List Char → Option (List Char)) : ∀ (sp : Spec) (ctx : Ctx), UidP (itemP f32 sp ctx) e
  | .none, ctx =>
    MonoQ.pure uidOk_none
  | .int w, ctx =>
    MonoQ.bind (monoRules.getInteger ctx w) fun ⟨_, _⟩ _ => .lineOffset fun _ => .pure (uidOk_int ..)
  | .float, ctx => MonoQ.bind (monoRules.getFloat f32 ctx) fun _ _ => .lineOffset fun _ => .pure (uidOk_float ..)
  | .double, ctx =>
    MonoQ.bind (monoRules.getDouble ctx) fun _ _ => .lineOffset fun _ => .pure (uidOk_double ..)
  | .array of dim, ctx => by
    rw [itemP.eq_def]
    dsimp only
    split
    · exact MonoQ.bind (monoRules.getStringMaxlen ctx dim) fun _ _ => .lineOffset fun _ => .pure (uidOk_str ..)
    · exact MonoQ.bind (arrayLoop_uid (itemP_uid f32 of ctx) dim) fun vs hvs => .pure (by rw [uidOk_array]; exact hvs)
  | .enum items, ctx =>
    MonoQ.bind (monoRules.getIdentifier ctx) fun _ _ => .lineOffset fun _ => .ite (.pure (uidOk_enumItem ..)) (.fail _)
  | .struct items, ctx =>
    MonoQ.bind (fun s lo hlo => itemsP_uid f32 items ctx s lo hlo) fun vs hvs =>
      .pure (by rw [uidOk_struct]; exact hvs)
  | .seq of, ctx =>
    MonoQ.getEnv (.bind (seqLoop_uid (itemP_uid f32 of ctx) _ [] nofun) fun vs hvs =>
      .pure (by rw [uidOk_seq]; exact hvs))
  | .taggedStruct items, ctx => by
    intro s lo hlo
    rw [itemP]
    simp only [getEnv_bind]
    refine MQ.bind (tsLoop_uid (dispatch_uid f32 items) _ ctx _ [] s lo hlo) ?_
    intro vs s1 hlo1 h
    exact MQ.pure hlo1 (by rw [uidOk_ts]; exact h.uidOkT)
  | .taggedUnion items, ctx => by
    intro s lo hlo
    rw [itemP]
    refine MQ.bind (taggedItem_uid (dispatch_uid f32 items) ctx s lo hlo) ?_
    intro r s1 hlo1 hq
    cases r with
    | none => exact MQ.pure hlo1 (by rw [uidOk_tu, uidOkT_nil]; trivial)
    | some it =>
      refine MQ.pure hlo1 ?_
      have := hq it rfl
      rw [uidOk_tu, uidOkT_cons, uidOkT_nil]
      exact ⟨by omega, fun x hx => (by cases hx), this.2.2, trivial⟩

theorem itemsP_uid (f32 : List Char → Option (List Char)) : ∀ (l : List Spec) (ctx : Ctx) (s : PState) (lo : Nat),
    lo ≤ s.seqId → MQ lo (itemsP f32 l ctx e s) (fun vs _ => UidOkL vs)
  | [], ctx, s, lo, hlo => by
    rw [itemsP]; exact MQ.pure hlo uidOkL_nil'
  | sp :: rest, ctx, s, lo, hlo => by
    rw [itemsP]
    exact MonoQ.bind (itemP_uid f32 sp ctx) (fun v hv => .bind (fun s lo hlo => itemsP_uid f32 rest ctx s lo hlo)
      fun vs hvs => .pure (uidOkL_cons' hv hvs)) s lo hlo

theorem dispatch_uid (f32 : List Char → Option (List Char)) : ∀ (l : List (Tagged Spec)), UidD (dispatch f32 l) e
  | [] => by
    intro tag b p h; rw [dispatch] at h; cases h
  | t :: rest => by
    intro tag b p h
    rw [dispatch] at h
    split at h
    · cases h
      intro ctx
      exact itemP_uid f32 t.item ctx
    · exact dispatch_uid f32 rest tag b p h
end

/-- what `parse_ifdata_from_spec` and the loop over the definitions return -/
def SomeUidOk (r : Option Gen) : Prop := ∀ g, r = some g → UidOk g

theorem fromSpec_uid (f32 : List Char → Option (List Char)) (ctx : Ctx) (sp : Spec) : MonoQ SomeUidOk (fromSpec f32 ctx sp) e := by
  unfold fromSpec
  refine .getTokenpos fun pos => ?_
  have hreset : MonoQ SomeUidOk (do setTokenpos pos; pure (none : Option Gen) : PM _) e :=
    .setTokenpos (.pure fun g h => by cases h)
  refine .attempt (itemP_uid f32 sp ctx)
    (fun g hg => .getEnv (.bind (monoRules.skipComments ctx _) fun _ _ => .peekToken fun o => ?_)) fun _ => hreset
  cases o with
  | none => exact hreset
  | some t => exact .ite (.pure fun g' h => by cases h; exact uidOk_makeBlock _ _ hg) hreset

theorem trySpecs_uid (f32 : List Char → Option (List Char)) (ctx : Ctx) : ∀ specs : List Spec,
    MonoQ SomeUidOk (trySpecs f32 ctx specs) e
  | [] => by
    rw [trySpecs]
    exact .pure fun g h => by cases h
  | sp :: rest => by
    rw [trySpecs]
    refine .bind (fromSpec_uid f32 ctx sp) fun r hr => ?_
    cases r with
    | some g => exact .pure hr
    | none => exact trySpecs_uid f32 ctx rest

/-! ## the fallback: what it returns

`genDepth g` is the height of a `GenericIfData` tree: the number of nested calls of `GenericIfData::write` /
`write_item` (and of every other function that walks the tree: `merge_includes`, `Drop`, `Clone`, `PartialEq`) that the
tree causes. `parse_unknown_ifdata` at depth `d` returns a tree of height at most `2 * (MAX_NESTING_DEPTH + 1 - d)`: two
levels (`Struct`, `TaggedStruct`) per nested block. Like the uids this holds whatever the tokens are, so one induction
on the budget proves both. -/

mutual
/-- the height of the tree: a leaf is 1 -/
def genDepth : Gen → Nat
  | .array items => genDepthL items + 1
  | .seq items => genDepthL items + 1
  | .struct _ items => genDepthL items + 1
  | .block _ items => genDepthL items + 1
  | .taggedStruct items => genDepthT items + 1
  | .taggedUnion items => genDepthT items + 1
  | .none => 1
  | .int _ _ _ _ => 1
  | .float _ _ => 1
  | .double _ _ => 1
  | .str _ _ => 1
  | .enumItem _ _ => 1
def genDepthL : List Gen → Nat
  | [] => 0
  | g :: rest => max (genDepth g) (genDepthL rest)
def genDepthT : List (TItem Gen) → Nat
  | [] => 0
  | it :: rest => max (genDepth it.data) (genDepthT rest)
end

theorem genDepthL_nil : genDepthL [] = 0 := by rw [genDepthL]
theorem genDepthL_cons (g : Gen) (rest : List Gen) : genDepthL (g :: rest) = max (genDepth g) (genDepthL rest) := by
  rw [genDepthL]
theorem genDepthT_nil : genDepthT [] = 0 := by rw [genDepthT]
theorem genDepthT_cons (it : TItem Gen) (rest : List (TItem Gen)) :
    genDepthT (it :: rest) = max (genDepth it.data) (genDepthT rest) := by rw [genDepthT]
theorem genDepth_struct (line : Nat) (items : List Gen) : genDepth (.struct line items) = genDepthL items + 1 := by
  rw [genDepth]
theorem genDepth_block (line : Nat) (items : List Gen) : genDepth (.block line items) = genDepthL items + 1 := by
  rw [genDepth]
theorem genDepth_taggedStruct (items : List (TItem Gen)) : genDepth (.taggedStruct items) = genDepthT items + 1 := by
  rw [genDepth]
theorem genDepth_taggedUnion (items : List (TItem Gen)) : genDepth (.taggedUnion items) = genDepthT items + 1 := by
  rw [genDepth]
theorem genDepth_enumItem (off : Nat) (v : List Char) : genDepth (.enumItem off v) = 1 := by rw [genDepth]
theorem genDepth_str (off : Nat) (v : List Char) : genDepth (.str off v) = 1 := by rw [genDepth]
theorem genDepth_int (w off : Nat) (v : Int) (hex : Bool) : genDepth (.int w off v hex) = 1 := by rw [genDepth]
theorem genDepth_double (off : Nat) (v : List Char) : genDepth (.double off v) = 1 := by rw [genDepth]

theorem genDepthL_append : ∀ (l1 l2 : List Gen), genDepthL (l1 ++ l2) = max (genDepthL l1) (genDepthL l2)
  | [], l2 => by rw [List.nil_append, genDepthL_nil, Nat.zero_max]
  | g :: l1, l2 => by
    rw [List.cons_append, genDepthL_cons, genDepthL_cons, genDepthL_append l1 l2, Nat.max_assoc]

theorem genDepthL_reverse : ∀ (l : List Gen), genDepthL l.reverse = genDepthL l
  | [] => rfl
  | g :: l => by
    rw [List.reverse_cons, genDepthL_append, genDepthL_reverse l, genDepthL_cons, genDepthL_cons, genDepthL_nil,
      Nat.max_zero, Nat.max_comm]

theorem genDepthT_append : ∀ (l1 l2 : List (TItem Gen)), genDepthT (l1 ++ l2) = max (genDepthT l1) (genDepthT l2)
  | [], l2 => by rw [List.nil_append, genDepthT_nil, Nat.zero_max]
  | g :: l1, l2 => by
    rw [List.cons_append, genDepthT_cons, genDepthT_cons, genDepthT_append l1 l2, Nat.max_assoc]

theorem genDepthT_reverse : ∀ (l : List (TItem Gen)), genDepthT l.reverse = genDepthT l
  | [] => rfl
  | g :: l => by
    rw [List.reverse_cons, genDepthT_append, genDepthT_reverse l, genDepthT_cons, genDepthT_cons, genDepthT_nil,
      Nat.max_zero, Nat.max_comm]

def depthBound (dp : Nat) : Nat := 2 * (maxNestingDepth + 1 - dp)

theorem depthBound_succ {dp : Nat} (h : dp ≤ maxNestingDepth) : depthBound (dp + 1) + 2 = depthBound dp := by
  unfold depthBound
  omega

theorem depthBound_nil {dp : Nat} (h : dp ≤ maxNestingDepth) : genDepthL [] + 1 ≤ depthBound dp := by
  rw [genDepthL_nil]
  unfold depthBound
  omega

/-- "if there is a result, it satisfies `Q`" -/
def DQ {α : Type} (Q : α → Prop) : PRes α → Prop
  | .ok a _ => Q a
  | _ => True

theorem DQ.attempt {α β} {Q : β → Prop} {m : PM α} {f : Except Diag α → PM β} {s : PState}
    (herr : ∀ d s1, DQ Q (f (.error d) e s1)) (hok : ∀ a s1, DQ Q (f (.ok a) e s1)) : DQ Q ((attempt m >>= f) e s) := by
  rw [bind_def]
  unfold Tree.attempt
  cases m e s with
  | ok a s1 => exact hok a s1
  | err d s1 => exact herr d s1
  | panic => trivial
  | fuel => trivial

/-- what the three functions of the fallback return, whatever the tokens: increasing uids, and a tree whose height the
    nesting limit bounds -/
structure AllRes (e : Env) (fuel : Nat) : Prop where
  u : ∀ ctx isB dp acc, (∀ g ∈ acc, UidOk g) → (dp ≤ maxNestingDepth → genDepthL acc + 1 ≤ depthBound dp) →
    MonoQ (fun g => UidOk g ∧ genDepth g ≤ depthBound dp) (unknownIfdata fuel ctx isB dp acc) e
  ts : ∀ ctx dp, MonoQ (fun g => UidOk g ∧ (dp ≤ maxNestingDepth → genDepth g + 1 ≤ depthBound dp))
    (unknownTaggedstruct fuel ctx dp) e
  l : ∀ ctx dp acc (s : PState) lo, lo ≤ s.seqId → genDepthT acc ≤ depthBound (dp + 1) →
    MQ lo (unknownTsLoop fuel ctx dp acc e s) (fun vs s' => LoopQ acc s vs s' ∧ genDepthT vs ≤ depthBound (dp + 1))

theorem allRes_zero : AllRes e 0 := by
  constructor
  · intro ctx isB dp acc _ _ s lo _; rw [unknownIfdata_zero]; trivial
  · intro ctx dp s lo _; rw [unknownTaggedstruct_zero]; trivial
  · intro ctx dp acc s lo _ _; rw [unknownTsLoop_zero]; trivial

theorem u_res_step {fuel : Nat} (ih : AllRes e fuel) (ctx : Ctx) (isB : Bool) (dp : Nat) (acc : List Gen)
    (hacc : ∀ g ∈ acc, UidOk g) (hd : dp ≤ maxNestingDepth → genDepthL acc + 1 ≤ depthBound dp) :
    MonoQ (fun g => UidOk g ∧ genDepth g ≤ depthBound dp) (unknownIfdata (fuel + 1) ctx isB dp acc) e := by
  intro s lo hlo
  by_cases hdeep : maxNestingDepth < dp
  · rw [unknownIfdata_deep fuel ctx isB dp acc s hdeep]
    exact hlo
  have hdp : dp ≤ maxNestingDepth := Nat.le_of_not_lt hdeep
  -- an item may be as high as the bound less one; a scalar is a leaf, and every bound is at least 2
  have hnext : ∀ g, UidOk g → genDepth g + 1 ≤ depthBound dp →
      MonoQ (fun g => UidOk g ∧ genDepth g ≤ depthBound dp) (unknownIfdata fuel ctx isB dp (g :: acc)) e :=
    fun g hg hh => ih.u ctx isB dp _ (List.forall_mem_cons.2 ⟨hg, hacc⟩) fun _ => by
      rw [genDepthL_cons]; have := hd hdp; omega
  have hleaf : ∀ g, UidOk g → genDepth g = 1 →
      MonoQ (fun g => UidOk g ∧ genDepth g ≤ depthBound dp) (unknownIfdata fuel ctx isB dp (g :: acc)) e :=
    fun g hg h1 => hnext g hg (by rw [h1]; unfold depthBound; omega)
  refine unknownIfdata_step (P := fun r => MQ lo r (fun g _ => UidOk g ∧ genDepth g ≤ depthBound dp))
    (fun _ => MQ.fail hlo) (fun _ => MQ.fail hlo) ?hident ?hstr ?hnum ?hbad ?hblock ?hend ?hinc ?hskip
  case hident =>
    exact fun _ _ _ => MonoQ.bind (monoRules.getIdentifier ctx)
      (fun v _ => .lineOffset fun off => hleaf _ (uidOk_enumItem ..) (genDepth_enumItem off v)) s lo hlo
  case hstr =>
    exact fun _ _ _ => MonoQ.bind (monoRules.getString ctx)
      (fun v _ => .lineOffset fun off => hleaf _ (uidOk_str ..) (genDepth_str off v)) s lo hlo
  case hnum =>
    intro t _ _ g hg
    refine MonoQ.lineOffset (fun off => ?_) (s.step t) lo hlo
    cases hg with
    | int w v hex _ => exact hleaf _ (uidOk_int ..) (genDepth_int w off v hex)
    | double r _ => exact hleaf _ (uidOk_double ..) (genDepth_double off r)
  case hbad => exact fun _ _ _ _ _ _ _ => hlo
  case hblock => exact fun _ _ _ _ => MonoQ.bind (ih.ts ctx dp) (fun ts hts => hnext ts hts.1 (hts.2 hdp)) s lo hlo
  case hend =>
    exact fun _ _ _ => MQ.pure hlo ⟨by rw [uidOk_struct]; exact uidOkL_reverse hacc, by
      rw [genDepth_struct, genDepthL_reverse]; exact hd hdp⟩
  case hinc => exact fun _ _ _ => ih.u ctx isB dp acc hacc hd s lo hlo
  case hskip => exact fun t _ _ => ih.u ctx isB dp acc hacc hd (s.step t) lo hlo

theorem ts_res_step {fuel : Nat} (ih : AllRes e fuel) (ctx : Ctx) (dp : Nat) :
    MonoQ (fun g => UidOk g ∧ (dp ≤ maxNestingDepth → genDepth g + 1 ≤ depthBound dp))
      (unknownTaggedstruct (fuel + 1) ctx dp) e := by
  rw [unknownTaggedstruct_succ]
  have hl : MonoQ (fun items => UidOkT items ∧ genDepthT items ≤ depthBound (dp + 1)) (unknownTsLoop fuel ctx dp []) e :=
    fun s lo hlo => MQ.weaken (ih.l ctx dp [] s lo hlo (Nat.zero_le _)) (Nat.le_refl _) fun _ _ h => ⟨h.1.uidOkT, h.2⟩
  refine .getEnv (.bind (monoRules.skipComments ctx _) fun _ _ => .bind hl fun items hitems => .peekToken fun o => ?_)
  have hok : UidOk (.taggedStruct items) ∧ (dp ≤ maxNestingDepth → genDepth (.taggedStruct items) + 1 ≤ depthBound dp) :=
    ⟨by rw [uidOk_ts]; exact hitems.1, fun hdp => by
      rw [genDepth_taggedStruct, ← depthBound_succ hdp]; exact Nat.add_le_add_right hitems.2 2⟩
  cases o with
  | none => exact .pure hok
  | some t => exact .ite (.fail _) (.pure hok)

theorem l_res_step {fuel : Nat} (ih : AllRes e fuel) (ctx : Ctx) (dp : Nat) (acc : List (TItem Gen)) (s : PState)
    (lo : Nat) (hlo : lo ≤ s.seqId) (hd : genDepthT acc ≤ depthBound (dp + 1)) :
    MQ lo (unknownTsLoop (fuel + 1) ctx dp acc e s)
      (fun vs s' => LoopQ acc s vs s' ∧ genDepthT vs ≤ depthBound (dp + 1)) := by
  refine MQ.weaken (lo := s.seqId) ?_ hlo (fun _ _ h => h)
  rw [unknownTsLoop_succ]
  have hstop : ∀ s1 : PState, s.seqId ≤ s1.seqId → LoopQ acc s acc.reverse s1 ∧ genDepthT acc.reverse ≤ depthBound (dp + 1) :=
    fun s1 h => ⟨.stop h, by rw [genDepthT_reverse]; exact hd⟩
  refine MQ.attemptB (getNextTagOrComment_mono ctx s s.seqId (Nat.le_refl _)) ?_
    (fun _ s1 hlo1 => MQ.pure hlo1 (hstop s1 hlo1))
  intro bc s1 hlo1 _
  cases bc with
  | comment tok off =>
    exact MQ.weaken (ih.l ctx dp acc s1 s.seqId hlo1 hd) (Nat.le_refl _) (fun _ _ h => ⟨.skip hlo1 h.1, h.2⟩)
  | none => exact MQ.pure hlo1 (hstop s1 hlo1)
  | block tok isBlock startOff =>
    dsimp only
    simp only [getNextId_bind]
    refine MQ.bind (MQ.rel (s := { s1 with seqId := s1.seqId + 1 }) (Nat.le_succ_of_le hlo1)
      (ih.u ⟨tok.text, tok.fileid, tok.line⟩ isBlock (dp + 1) [] nofun
        depthBound_nil _ (s1.seqId + 1) (Nat.le_refl _))) ?_
    intro result s2 hlo2 hq2
    refine MQ.bind (MQ.rel hlo2 (monoRules.endOfTagged _ _ _ s2 s2.seqId (Nat.le_refl _))) ?_
    intro endOff s3 hlo3 hq3
    have hit : s.seqId < s1.seqId + 1 ∧ s1.seqId + 1 ≤ s3.seqId ∧ UidOk result :=
      ⟨Nat.lt_succ_of_le hlo1, Nat.le_trans hq2.2 hq3.2, hq2.1.1⟩
    exact MQ.weaken (ih.l ctx dp _ s3 s.seqId hlo3 (by rw [genDepthT_cons]; exact Nat.max_le.2 ⟨hq2.1.2, hd⟩))
      (Nat.le_refl _) (fun _ _ h => ⟨.cons hit h.1, h.2⟩)

theorem allRes (e : Env) : ∀ fuel, AllRes e fuel
  | 0 => allRes_zero
  | fuel + 1 =>
    have ih := allRes e fuel
    ⟨u_res_step ih, ts_res_step ih, l_res_step ih⟩

/-- `parse_unknown_ifdata` called with `depth = dp` (and no items yet) returns a tree of height at most
    `2 * (MAX_NESTING_DEPTH + 1 - dp)`; in particular it returns nothing when `dp > MAX_NESTING_DEPTH` -/
theorem unknownIfdata_genDepth {fuel : Nat} {ctx : Ctx} {isB : Bool} {dp : Nat} {s : PState} {g : Gen} {s' : PState}
    (h : unknownIfdata fuel ctx isB dp [] e s = .ok g s') : genDepth g ≤ 2 * (maxNestingDepth + 1 - dp) :=
  (((allRes e fuel).u ctx isB dp [] nofun depthBound_nil).ok h).2

/-- what `parse_unknown_ifdata_start` returns: two more levels (`Block`, `TaggedUnion`) when the content starts with an
    identifier -/
theorem unknownStart_res (ctx : Ctx) : MonoQ (fun g => UidOk g ∧ genDepth g ≤ depthBound 0 + 2) (unknownStart ctx) e := by
  unfold unknownStart
  have hrun : ∀ ctx', MonoQ (fun g => UidOk g ∧ genDepth g ≤ depthBound 0)
      (unknownIfdata (unknownFuel e.toks.size) ctx' true 0 []) e :=
    fun ctx' => (allRes e _).u ctx' true 0 [] nofun depthBound_nil
  have hdirect : ∀ ctx', MonoQ (fun g => UidOk g ∧ genDepth g ≤ depthBound 0 + 2)
      (unknownIfdata (unknownFuel e.toks.size) ctx' true 0 []) e :=
    fun ctx' s lo hlo => MQ.weaken (hrun ctx' s lo hlo) (Nat.le_refl _) fun _ _ h => ⟨h.1, Nat.le_add_right_of_le h.2⟩
  refine .getEnv (.peekToken fun o => ?_)
  cases o with
  | none => exact hdirect ctx
  | some t =>
    refine .ite (.bind (getToken_mono ctx) fun token _ => .lineOffset fun startOff => .getNextId fun uid huid =>
      .bind (hrun _) fun result hres => .undo (.lineOffset fun endOff => ?_)) (hdirect ctx)
    have hblock : UidOk (.block startOff [.taggedUnion [⟨token.line, uid, startOff, endOff, token.text, result, false⟩]]) ∧
        genDepth (.block startOff [.taggedUnion [⟨token.line, uid, startOff, endOff, token.text, result, false⟩]]) ≤
          depthBound 0 + 2 := by
      rw [uidOk_block, uidOkL_cons, uidOkL_nil, uidOk_tu, uidOkT_cons, uidOkT_nil, genDepth_block, genDepthL_cons,
        genDepthL_nil, genDepth_taggedUnion, genDepthT_cons, genDepthT_nil, Nat.max_zero, Nat.max_zero]
      exact ⟨⟨⟨huid, fun x hx => (by cases hx), hres.1, trivial⟩, trivial⟩, Nat.add_le_add_right hres.2 2⟩
    exact .attempt (getToken_mono ctx) (fun _ _ => .pure hblock) fun _ => .pure hblock

/-- **the data that `parse_ifdata` stores carries increasing non-zero uids**, and what it stores without a definition
    (flagged invalid) is a shallow tree -/
theorem parseIfdata_res (f32 : List Char → Option (List Char)) (specs : List Spec) (ctx : Ctx) :
    MonoQ (fun r => ∀ g, r.1 = some g → UidOk g ∧ (r.2 = false → genDepth g ≤ depthBound 0 + 2))
      (parseIfdata f32 specs ctx) e := by
  unfold parseIfdata
  refine .peekToken fun o => ?_
  cases o with
  | none => exact .pure fun g h => by cases h
  | some t =>
    refine .ite (.bind (trySpecs_uid f32 ctx specs) fun r hr => ?_) (.pure fun g h => by cases h)
    cases r with
    | some g => exact .pure fun g' h => ⟨hr g' h, fun hv => by cases hv⟩
    | none => exact .bind (unknownStart_res ctx) fun g hg => .pure fun g' h => by cases h; exact ⟨hg.1, fun _ => hg.2⟩

end A2l.IfData
