import A2lVerif.Model.Lex
import A2lVerif.Lemmas.Basics
/-! Lemmas about the tokenizer model (`A2lVerif/Model/Lex.lean`): what the scanning loops return; one iteration of the main
    loop as the relation `Step` by kind of outcome (`step_rel`; `step_eq` is the chain of tests; `Plain`: what is known of a
    token that starts at the scan position), which the loop invariant `Inv` (`step_good`) and
    the other facts about an iteration (`step_pushed`, PO/LexShape's `step_good2`) are case analyses of; the loop as the
    relation `Reach`, whose recursor is the loop rule and which alone meets the fuel (`Reach.run`, `Reach.outcome`).
    Core Lean only. -/

namespace A2l.Lex

variable {b : Bytes}

theorem isWs_ascii {c : UInt8} (h : isWs c = true) : c < 128 := by
  simp only [isWs, Bool.or_eq_true, beq_iff_eq] at h
  rcases h with (((rfl | rfl) | rfl) | rfl) | rfl <;> decide

theorem ascii_of_bounds {c : UInt8} (h1 : 43 ≤ c) (h2 : c ≤ 122) : c < 128 ∧ c ≠ 32 :=
  ⟨UInt8.lt_of_le_of_lt h2 (by decide), fun e => absurd (e ▸ h1) (by decide)⟩

theorem isDigit_bounds {c : UInt8} (h : isDigit c = true) : 48 ≤ c ∧ c ≤ 57 := by
  simpa only [isDigit, Bool.and_eq_true, decide_eq_true_eq] using h

theorem isAlpha_bounds {c : UInt8} (h : isAlpha c = true) : 65 ≤ c ∧ c ≤ 122 := by
  simp only [isAlpha, Bool.or_eq_true, Bool.and_eq_true, decide_eq_true_eq] at h
  rcases h with ⟨h1, h2⟩ | ⟨h1, h2⟩
  · exact ⟨h1, UInt8.le_trans h2 (by decide)⟩
  · exact ⟨UInt8.le_trans (by decide) h1, h2⟩

theorem isIdentChar_ascii {c : UInt8} (h : isIdentChar c = true) : c < 128 ∧ c ≠ 32 := by
  simp only [isIdentChar, isAlnum, Bool.or_eq_true, beq_iff_eq] at h
  rcases h with ((((h | h) | rfl) | rfl) | rfl) | rfl
  · exact ascii_of_bounds (UInt8.le_trans (by decide) (isAlpha_bounds h).1) (isAlpha_bounds h).2
  · have hd := isDigit_bounds h
    exact ascii_of_bounds (UInt8.le_trans (by decide) hd.1) (UInt8.le_trans hd.2 (by decide))
  all_goals decide

theorem isPathChar_ascii {c : UInt8} (h : isPathChar c = true) : c < 128 ∧ c ≠ 32 := by
  simp only [isPathChar, Bool.or_eq_true, beq_iff_eq] at h
  rcases h with (h | rfl) | rfl
  · exact isIdentChar_ascii h
  · decide
  · decide

theorem isNumChar_ascii {c : UInt8} (h : isNumChar c = true) : c < 128 ∧ c ≠ 32 := by
  simp only [isNumChar, isHexDigit, Bool.or_eq_true, Bool.and_eq_true, decide_eq_true_eq, beq_iff_eq] at h
  rcases h with ((((((h | ⟨h1, h2⟩) | ⟨h1, h2⟩) | rfl) | rfl) | rfl) | rfl) | rfl
  · have hd := isDigit_bounds h
    exact ascii_of_bounds (UInt8.le_trans (by decide) hd.1) (UInt8.le_trans hd.2 (by decide))
  · exact ascii_of_bounds (UInt8.le_trans (by decide) h1) (UInt8.le_trans h2 (by decide))
  · exact ascii_of_bounds (UInt8.le_trans (by decide) h1) (UInt8.le_trans h2 (by decide))
  all_goals decide

theorem isAlpha_identChar {c : UInt8} (h : (isAlpha c || c == 95) = true) : isIdentChar c = true := by
  simp only [isIdentChar, isAlnum, Bool.or_eq_true, beq_iff_eq] at h ⊢
  rcases h with h | rfl
  · exact .inl (.inl (.inl (.inl (.inl h))))
  · exact .inr rfl

theorem minus_numChar {c : UInt8} (h : (c == 45 || isNumChar c) = true) : isNumChar c = true := by
  simp at h; rcases h with h | h
  · subst h; decide
  · exact h

def AllIn (b : Bytes) (p : UInt8 → Bool) (a e : Nat) : Prop := ∀ q, a ≤ q → q < e → ∃ c, b[q]? = some c ∧ p c = true

section
variable (b) (p : UInt8 → Bool) (pos : Nat)

theorem skipWhile_le (h : pos ≤ b.size) : skipWhile b p pos ≤ b.size := by
  fun_induction skipWhile b p pos <;> omega

theorem skipWhile_of_pos {c : UInt8} (hc : b[pos]? = some c) (hp : p c = true) :
    skipWhile b p pos = skipWhile b p (pos + 1) := by
  obtain ⟨h, rfl⟩ := Array.getElem?_eq_some_iff.1 hc
  rw [skipWhile, dif_pos h, if_pos hp]

theorem skipWhile_gt {c : UInt8} (hc : b[pos]? = some c) (hp : p c = true) : pos < skipWhile b p pos := by
  rw [skipWhile_of_pos b p pos hc hp]; exact skipWhile_ge b p (pos + 1)

/-- `e` is where the scan `skipWhile b p pos` stops (`skipWhile_scan`, `skipWhile_eq`) -/
structure Scan (b : Bytes) (p : UInt8 → Bool) (pos e : Nat) : Prop where
  ge : pos ≤ e
  all : AllIn b p pos e
  stop : b.size ≤ e ∨ ∃ c, b[e]? = some c ∧ p c = false

theorem skipWhile_scan : Scan b p pos (skipWhile b p pos) := by
  fun_induction skipWhile b p pos with
  | case1 pos h hp ih =>
    exact ⟨Nat.le_of_succ_le ih.ge, fun q hq hlt => (Nat.eq_or_lt_of_le hq).elim
      (fun e => e ▸ ⟨_, Array.getElem?_eq_getElem h, hp⟩) fun hq => ih.all q hq hlt, ih.stop⟩
  | case2 pos h hp =>
    exact ⟨Nat.le_refl _, fun q h1 h2 => absurd h2 (Nat.not_lt.2 h1),
      .inr ⟨_, Array.getElem?_eq_getElem h, by simpa using hp⟩⟩
  | case3 pos hn => exact ⟨Nat.le_refl _, fun q h1 h2 => absurd h2 (Nat.not_lt.2 h1), .inl (Nat.le_of_not_lt hn)⟩

variable {b p pos} in
theorem Scan.le_of {e e' : Nat} (h : Scan b p pos e) (h' : Scan b p pos e') : e ≤ e' := by
  refine Nat.le_of_not_lt fun hlt => ?_
  -- the scan that goes on to `e` has passed `e'`, where the other one stops
  obtain ⟨c, hc, hp⟩ := h.all e' h'.ge hlt
  rcases h'.stop with hs | ⟨c', hc', hp'⟩
  · exact absurd (getElem?_some_lt hc) (Nat.not_lt.2 hs)
  · cases hc.symm.trans hc'; rw [hp] at hp'; cases hp'

variable {b p pos} in
theorem skipWhile_eq {e : Nat} (h : Scan b p pos e) : skipWhile b p pos = e :=
  Nat.le_antisymm ((skipWhile_scan b p pos).le_of h) (h.le_of (skipWhile_scan b p pos))

theorem skipWhile_last (h : pos < skipWhile b p pos) :
    ∃ c, b[skipWhile b p pos - 1]? = some c ∧ p c = true :=
  (skipWhile_scan b p pos).all _ (Nat.le_sub_one_of_lt h) (Nat.sub_one_lt (Nat.ne_of_gt (Nat.zero_lt_of_lt h)))

end

theorem slice_ok {a e : Nat} (h1 : a ≤ e) (h2 : e ≤ b.size) : ∃ s, slice b a e = .ok s := by
  simp [slice, h1, h2]

/-- number of newline bytes (10) in `b[a..e)`; total version of the model's `countNewlines` -/
def nlCount (b : Bytes) (a e : Nat) : Nat :=
  (b.extract a e).foldl (fun n c => n + (if c == 10 then 1 else 0)) 0

theorem countNewlines_eq {a e : Nat} (h1 : a ≤ e) (h2 : e ≤ b.size) :
    countNewlines b a e = .ok (nlCount b a e) := by
  simp [countNewlines, slice, h1, h2, nlCount]

theorem countNewlines_ok {a e : Nat} (h1 : a ≤ e) (h2 : e ≤ b.size) :
    ∃ n, countNewlines b a e = .ok n :=
  ⟨_, countNewlines_eq h1 h2⟩

def nlB (l : List UInt8) : Nat := l.count 10

theorem nlB_eq_count (l : List UInt8) : nlB l = l.count 10 := rfl

theorem nlB_cons (c : UInt8) (l : List UInt8) : nlB (c :: l) = nlB l + if c == 10 then 1 else 0 := List.count_cons

theorem nlB_append (a b : List UInt8) : nlB (a ++ b) = nlB a + nlB b := List.count_append

theorem nlB_eq_zero {l : List UInt8} (h : ∀ c ∈ l, c ≠ 10) : nlB l = 0 :=
  List.count_eq_zero.2 fun hm => h 10 hm rfl

theorem nlCount_eq_nlB (b : Bytes) (a e : Nat) : nlCount b a e = nlB (b.extract a e).toList := by
  have gen : ∀ (l : List UInt8) (n : Nat), l.foldl (fun n c => n + (if c == 10 then 1 else 0)) n = n + nlB l := by
    intro l
    induction l with
    | nil => intro n; rfl
    | cons c l ih => intro n; rw [List.foldl_cons, ih, nlB_cons, Nat.add_assoc, Nat.add_comm (nlB l)]
  rw [nlCount, ← Array.foldl_toList, gen, Nat.zero_add]

theorem extract_append (b : Bytes) (a m e : Nat) (h1 : a ≤ m) (h2 : m ≤ e) :
    (b.extract a e).toList = (b.extract a m).toList ++ (b.extract m e).toList := by
  rw [← Array.toList_append, Array.extract_append_extract, Nat.min_eq_left h1, Nat.max_eq_right h2]

theorem extract_cons (b : Bytes) (a e : Nat) (c : UInt8) (h : a < e) (hc : b[a]? = some c) :
    (b.extract a e).toList = c :: (b.extract (a + 1) e).toList := by
  have hlt := getElem?_some_lt hc
  rw [Array.getElem?_eq_getElem hlt] at hc
  rw [extract_append b a (a + 1) e (Nat.le_succ a) h, Array.extract_succ_right (Nat.lt_succ_self a) hlt,
    Array.extract_eq_empty_of_le (Nat.min_le_left a _), Option.some.inj hc]
  rfl

theorem mem_extract {a e : Nat} {x : UInt8} (hx : x ∈ (b.extract a e).toList) : ∃ q, a ≤ q ∧ q < e ∧ b[q]? = some x := by
  obtain ⟨j, hj⟩ := List.getElem?_of_mem hx
  rw [Array.getElem?_toList, Array.getElem?_extract] at hj
  split at hj
  · rename_i hlt
    exact ⟨a + j, Nat.le_add_right _ _, Nat.lt_of_lt_of_le (Nat.add_lt_of_lt_sub' hlt) (by omega), hj⟩
  · cases hj

theorem nlCount_self (b : Bytes) (a : Nat) : nlCount b a a = 0 := by
  unfold nlCount; rw [Array.extract_empty_of_stop_le_start (Nat.le_refl _)]; rfl

theorem nlCount_succ (b : Bytes) (a e : Nat) (h1 : a ≤ e) (h2 : e < b.size) :
    nlCount b a (e + 1) = nlCount b a e + (if b[e] == 10 then 1 else 0) := by
  unfold nlCount
  rw [Array.extract_succ_right (by omega) h2, Array.foldl_push]

theorem nlCount_add (b : Bytes) (a m e : Nat) (h1 : a ≤ m) (h2 : m ≤ e) :
    nlCount b a e = nlCount b a m + nlCount b m e := by
  simp only [nlCount_eq_nlB, extract_append b a m e h1 h2, nlB_append]

theorem nlCount_zero (b : Bytes) (a e : Nat)
    (h : ∀ q, a ≤ q → q < e → ∃ c, b[q]? = some c ∧ c ≠ 10) : nlCount b a e = 0 := by
  rw [nlCount_eq_nlB]
  refine nlB_eq_zero fun x hx => ?_
  obtain ⟨q, h1, h2, hq⟩ := mem_extract hx
  obtain ⟨c, hc, hne⟩ := h q h1 h2
  cases hq.symm.trans hc
  exact hne

theorem nlCount_pos_of_nl (b : Bytes) (p q : Nat) (hpq : p < q) (h : b[p]? = some 10) : 1 ≤ nlCount b p q := by
  rw [nlCount_eq_nlB, extract_cons b p q 10 hpq h, nlB_cons]
  exact Nat.le_add_left _ _

theorem matchAt_getElem? {pos : Nat} {pat : List UInt8} (h : matchAt b pos pat = true) :
    ∀ i (hi : i < pat.length), b[pos + i]? = some pat[i] := by
  induction pat generalizing pos with
  | nil => intro i hi; cases hi
  | cons c cs ih =>
    simp only [matchAt, Bool.and_eq_true, beq_iff_eq] at h
    intro i hi
    cases i with
    | zero => exact h.1
    | succ i =>
      have hi' : i < cs.length := Nat.lt_of_succ_lt_succ hi
      show b[pos + (i + 1)]? = some cs[i]
      rw [Nat.add_comm i 1, ← Nat.add_assoc]
      exact ih h.2 i hi'

theorem matchAt_len (b : Bytes) (pos : Nat) (pat : List UInt8) (hle : pos ≤ b.size)
    (h : matchAt b pos pat = true) : pos + pat.length ≤ b.size := by
  cases hp : pat.length with
  | zero => exact hle
  | succ n => have := getElem?_some_lt (matchAt_getElem? h n (by omega)); omega

theorem commentStart_spec (b : Bytes) (p : Nat) (hp : p ≤ b.size) :
    ∃ cs, commentStart b p = .ok cs ∧ cs ≤ p ∧ ∀ q, cs ≤ q → q < p → b[q]? = some 32 := by
  induction p with
  | zero => exact ⟨0, rfl, Nat.le_refl _, fun q _ h2 => absurd h2 (Nat.not_lt_zero q)⟩
  | succ p ih =>
    have hlt : p < b.size := hp
    rw [commentStart, Array.getElem?_eq_getElem hlt]
    simp only
    by_cases hc : (b[p] == 32) = true
    · obtain ⟨cs, h1, h2, h3⟩ := ih (Nat.le_of_lt hlt)
      refine ⟨cs, by rw [if_pos hc, h1], Nat.le_succ_of_le h2, ?_⟩
      intro q hq1 hq2
      by_cases hqp : q = p
      · rw [hqp, Array.getElem?_eq_getElem hlt, beq_iff_eq.1 hc]
      · exact h3 q hq1 (Nat.lt_of_le_of_ne (Nat.le_of_lt_succ hq2) hqp)
    · exact ⟨p + 1, if_neg hc, Nat.le_refl _, fun q h1 h2 => absurd h2 (Nat.not_lt.2 h1)⟩

theorem commentStart_barrier {p cs q : Nat} {c : UInt8} (h : commentStart b p = .ok cs)
    (hp : p ≤ b.size) (hq : q < p) (hc : b[q]? = some c) (hne : c ≠ 32) : q < cs := by
  obtain ⟨cs', h1, _, h3⟩ := commentStart_spec b p hp
  rw [h] at h1; cases h1
  apply Nat.lt_of_not_le; intro hle
  have := h3 q hle hq
  rw [hc] at this; cases this; exact hne rfl

/-- `find_block_comment_end`'s loop stops behind the FIRST `*/`: `m` is where its `*` stands -/
theorem commentLoop_first (b : Bytes) (pos : Nat) (h1 : 1 ≤ pos) :
    ∃ m, commentLoop b pos = .ok (m + 1) ∧ pos ≤ m + 1 ∧ (m + 1 < b.size → b[m]? = some 42 ∧ b[m + 1]? = some 47) ∧
      ∀ q, pos ≤ q + 1 → q < m → ¬ (b[q]? = some 42 ∧ b[q + 1]? = some 47) := by
  fun_induction commentLoop b pos with
  | case1 => omega
  | case2 pos hlt hne hnone =>
    rw [Array.getElem?_eq_getElem (show pos - 1 < b.size by omega)] at hnone
    cases hnone
  | case3 pos hlt hne prev hprev hc =>
    obtain ⟨m, rfl⟩ := Nat.exists_eq_add_of_le' h1
    rw [Nat.add_sub_cancel] at hprev
    simp only [Bool.and_eq_true, beq_iff_eq] at hc
    refine ⟨m, rfl, Nat.le_refl _, fun _ => ?_, fun q h2 h3 => absurd (Nat.le_of_succ_le_succ h2) (Nat.not_le_of_lt h3)⟩
    rw [hprev, hc.1, Array.getElem?_eq_getElem hlt, hc.2]
    exact ⟨rfl, rfl⟩
  | case4 pos hlt hne prev hprev hc ih =>
    obtain ⟨m, h2, h3, h4, h5⟩ := ih (Nat.le_add_left 1 pos)
    refine ⟨m, h2, Nat.le_of_succ_le h3, h4, fun q hq1 hq2 => ?_⟩
    rcases Nat.eq_or_lt_of_le hq1 with rfl | hq
    · rw [Nat.add_sub_cancel] at hprev
      intro hh
      rw [hprev, Array.getElem?_eq_getElem hlt] at hh
      exact hc (by rw [Option.some.inj hh.1, Option.some.inj hh.2]; rfl)
    · exact h5 q hq hq2
  | case5 pos hn =>
    obtain ⟨m, rfl⟩ := Nat.exists_eq_add_of_le' h1
    exact ⟨m, rfl, Nat.le_refl _, fun h => absurd h hn,
      fun q h2 h3 => absurd (Nat.le_of_succ_le_succ h2) (Nat.not_le_of_lt h3)⟩

theorem findBlockCommentEnd_spec (b : Bytes) (pos : Nat) :
    match findBlockCommentEnd b pos with
    | .panic => False
    | .err => True
    | .ok q => ∃ m, q = m + 2 ∧ pos ≤ m ∧ m + 1 < b.size ∧ b[m]? = some 42 ∧ b[m + 1]? = some 47 ∧
        ∀ r, pos ≤ r → r < m → ¬ (b[r]? = some 42 ∧ b[r + 1]? = some 47) := by
  obtain ⟨m, h1, h2, h3, h4⟩ := commentLoop_first b (pos + 1) (Nat.le_add_left 1 pos)
  simp only [findBlockCommentEnd, h1]
  by_cases hp : m + 1 ≥ b.size
  · rw [if_pos hp]; trivial
  · rw [if_neg hp]
    have hp := Nat.lt_of_not_le hp
    exact ⟨m, rfl, Nat.le_of_succ_le_succ h2, hp, (h3 hp).1, (h3 hp).2, fun r hr => h4 r (Nat.succ_le_succ hr)⟩

/-- postcondition of `stringLoop` started at `pos` with `end_found = ef`, `prev_quote = pq`; `qfar` and `far` say how far
    the scan has moved when it has seen a quote / found the end -/
structure StrPost (b : Bytes) (pos : Nat) (ef pq : Bool) (r : Nat × Bool × Bool) : Prop where
  ge : pos ≤ r.1
  le : pos ≤ b.size → r.1 ≤ b.size
  quote : r.2.2 = true → 1 ≤ r.1 ∧ b[r.1 - 1]? = some 34
  found : r.2.1 = true → 2 ≤ r.1 ∧ b[r.1 - 2]? = some 34
  qfar : r.2.2 = true → pq = true ∨ pos < r.1
  far : r.2.1 = true → ef = true ∨ (pq = true ∧ pos < r.1) ∨ pos + 1 < r.1
  exit : r.2.1 = false → b.size ≤ r.1

theorem StrPost.lift {pos : Nat} {ef ef' pq pq' : Bool} {r} (hlt : pos < b.size) (h : ef' = true → ef = true ∨ pq = true)
    (ih : StrPost b (pos + 1) ef' pq' r) : StrPost b pos ef pq r :=
  ⟨Nat.le_of_lt ih.ge, fun _ => ih.le hlt, ih.quote, ih.found, fun _ => .inr ih.ge,
    fun hf => (ih.far hf).elim (fun e => (h e).imp_right fun p => .inl ⟨p, ih.ge⟩)
      fun d => .inr (.inr (d.elim (fun d => d.2) Nat.lt_of_succ_lt)), ih.exit⟩

theorem stringLoop_spec (b : Bytes) (pos : Nat) (ef pq bk : Bool)
    (hq : pq = true → 1 ≤ pos ∧ b[pos - 1]? = some 34)
    (he : ef = true → 2 ≤ pos ∧ b[pos - 2]? = some 34) :
    StrPost b pos ef pq (stringLoop b pos ef pq bk) := by
  fun_induction stringLoop b pos ef pq bk with
  | case1 pos ef pq bk h hc ih =>
    -- a quote: the next iteration sees it as the previous byte
    obtain ⟨hlt, rfl⟩ := h
    exact .lift hlt .inl (ih (fun _ => ⟨Nat.le_add_left 1 pos, by
      rw [Nat.add_sub_cancel, Array.getElem?_eq_getElem hlt, beq_iff_eq.1 hc]⟩) nofun)
  | case2 pos ef bk h hc ih =>
    -- the byte after a closing quote: the end is found, two bytes behind the next position
    exact .lift h.1 (fun _ => .inr rfl) (ih nofun (fun _ => ⟨Nat.succ_le_succ (hq rfl).1, (hq rfl).2⟩))
  | case3 pos ef pq h _ _ _ ih | case4 pos ef pq bk h _ _ _ _ ih | case5 pos ef pq bk h _ _ _ ih =>
    -- any other byte: no quote behind the next position, the end not found
    obtain ⟨hlt, rfl⟩ := h
    exact .lift hlt .inl (ih nofun nofun)
  | case6 pos ef pq bk h =>
    exact ⟨Nat.le_refl _, id, hq, he, .inl, .inl, fun h' => Nat.le_of_not_lt fun hlt => h ⟨hlt, h'⟩⟩

/-- the end found lies behind a closing quote, which is not the opening one (`pos` is the position behind that) -/
theorem findStringEnd_spec (b : Bytes) (pos : Nat) (hpos : pos ≤ b.size) :
    match findStringEnd b pos with
    | .panic => False
    | .err => True
    | .ok q => pos < q ∧ q ≤ b.size ∧ b[q - 1]? = some 34 := by
  have hs := stringLoop_spec b pos false false false nofun nofun
  unfold findStringEnd
  generalize stringLoop b pos false false false = r at hs
  obtain ⟨p, ef, pq⟩ := r
  obtain ⟨-, hle, hquote, hfound, hqfar, hfar, hexit⟩ := hs
  simp only at hle hquote hfound hqfar hfar hexit ⊢
  by_cases h1 : p = b.size ∧ ef = false
  · rw [if_pos h1]
    cases pq with
    | false => trivial
    | true => exact ⟨(hqfar rfl).resolve_left nofun, hle hpos, (hquote rfl).2⟩
  · rw [if_neg h1]
    cases ef with
    | false => exact absurd ⟨Nat.le_antisymm (hle hpos) (hexit rfl), rfl⟩ h1
    | true =>
      have h2 := hfound rfl
      have h3 : pos + 1 < p := ((hfar rfl).resolve_left nofun).resolve_left (fun h => nomatch h.1)
      rw [if_neg (Nat.ne_of_gt (Nat.lt_of_lt_of_le (by decide) h2.1))]
      exact ⟨Nat.lt_sub_of_add_lt h3, Nat.le_trans (Nat.sub_le p 1) (hle hpos), h2.2⟩

theorem startsWith_eq {pos : Nat} (h : pos ≤ b.size) (pat : List UInt8) :
    startsWith b pos pat = .ok (matchAt b pos pat) := if_pos h

theorem startsWith_ne_panic {pos : Nat} {pat} (h : pos ≤ b.size) : startsWith b pos pat ≠ .panic := by
  rw [startsWith_eq h]; nofun

theorem startsWith_true {pos : Nat} {pat} (h : startsWith b pos pat = .ok true) :
    matchAt b pos pat = true := by
  unfold startsWith at h; split at h
  · injection h
  · cases h

theorem a2mlBlockLoop_ne_panic (b : Bytes) (pos : Nat) : a2mlBlockLoop b pos ≠ .panic := by
  fun_induction a2mlBlockLoop b pos with
  | case1 | case4 => nofun
  | case2 x hx c0 c1 h1 h0 hc ih => exact ih
  | case3 x hx hnone =>
    have h1 : x + 1 < b.size := Nat.add_lt_of_lt_sub hx
    exact absurd (hnone b[x] b[x + 1] (Array.getElem?_eq_getElem (Nat.lt_of_succ_lt h1)) (Array.getElem?_eq_getElem h1)) id

theorem a2mlLoop_spec (b : Bytes) (pos : Nat) (hle : pos ≤ b.size) :
    ∃ q, a2mlLoop b pos = .ok q ∧ pos ≤ q ∧ q ≤ b.size ∧ (q = b.size ∨ matchAt b q kwSlashEnd = true) := by
  fun_induction a2mlLoop b pos with
  | case1 x hx p1 h | case3 x hx p1 _ h | case7 x hx p1 _ _ h =>
    exact absurd h (startsWith_ne_panic (skipWhile_le b notSlash x hle))
  | case2 x hx p1 h ih =>
    have h2 : p1 + 2 ≤ b.size :=
      matchAt_len b p1 kwSlashSlash (skipWhile_le b notSlash x hle) (startsWith_true h)
    obtain ⟨q, h4, h5, h6, h7⟩ := ih (skipWhile_le b notNewline (p1 + 2) h2)
    refine ⟨q, h4, ?_, h6, h7⟩
    calc x ≤ p1 := skipWhile_ge b notSlash x
      _ ≤ p1 + 2 := Nat.le_add_right _ _
      _ ≤ skipWhile b notNewline (p1 + 2) := skipWhile_ge b notNewline (p1 + 2)
      _ ≤ q := h5
  | case4 x hx p1 h h' h0 => exact absurd hx (h0 ▸ Nat.not_lt_zero x)
  | case5 x hx p1 h h' h0 hp =>
    exact absurd hp (a2mlBlockLoop_ne_panic b (p1 + 2))
  | case6 x hx p1 h h' h0 p2 hp2 ih =>
    have h1 := skipWhile_ge b notSlash x
    have h2 := a2mlBlockLoop_ge b _ _ hp2
    have : x ≤ (if _h : p2 + 2 > b.size then b.size else p2 + 2) ∧
        (if _h : p2 + 2 > b.size then b.size else p2 + 2) ≤ b.size := by split <;> omega
    obtain ⟨q, h4, h5, h6, h7⟩ := ih this.2
    exact ⟨q, h4, Nat.le_trans this.1 h5, h6, h7⟩
  | case8 x hx p1 h h' h'' =>
    exact ⟨p1, rfl, skipWhile_ge b notSlash x, skipWhile_le b notSlash x hle, Or.inr (startsWith_true h'')⟩
  | case9 x hx p1 h h' h'' hp1 ih =>
    obtain ⟨q, h4, h5, h6, h7⟩ := ih hp1
    exact ⟨q, h4, Nat.le_trans (skipWhile_ge b notSlash x) (Nat.le_of_lt h5), h6, h7⟩
  | case10 x hx p1 h h' h'' hp1 =>
    have h2 := skipWhile_le b notSlash x hle
    exact ⟨p1, rfl, skipWhile_ge b notSlash x, h2, Or.inl (Nat.le_antisymm h2 (Nat.le_of_not_lt hp1))⟩
  | case11 x hx => exact ⟨x, rfl, Nat.le_refl _, hle, Or.inl (Nat.le_antisymm hle (Nat.le_of_not_lt hx))⟩

def WsRange (b : Bytes) (p e : Nat) : Prop := ∀ r, p ≤ r → r < e → ∃ c, b[r]? = some c ∧ isWs c = true

/-- what `a2mlBody` guarantees of the text behind the position `p` it returns -/
def Ahead (b : Bytes) (p : Nat) : Prop :=
  ∃ e, p ≤ e ∧ e ≤ b.size ∧ WsRange b p e ∧ (e = b.size ∨ matchAt b e kwSlashEnd = true)

theorem WsRange.extend {b : Bytes} {q p e : Nat} (h1 : WsRange b q p) (h2 : WsRange b p e) : WsRange b q e := by
  intro r hr1 hr2
  by_cases h : r < p
  · exact h1 r hr1 h
  · exact h2 r (by omega) hr2

theorem WsRange.refl (b : Bytes) (p : Nat) : WsRange b p p := fun _ h1 h2 => absurd h2 (Nat.not_lt.2 h1)

theorem WsRange.single {p : Nat} {c : UInt8} (hp : 1 ≤ p) (hc : b[p - 1]? = some c)
    (hw : isWs c = true) : WsRange b (p - 1) p := by
  intro r h1 h2
  have : r = p - 1 := by omega
  subst this
  exact ⟨c, hc, hw⟩

theorem trimLoop_spec (b : Bytes) (startpos p : Nat) (h1 : startpos ≤ p) (h2 : p ≤ b.size) :
    ∃ q, trimLoop b startpos p = .ok q ∧ startpos ≤ q ∧ q ≤ p ∧ WsRange b q p := by
  fun_induction trimLoop b startpos p with
  | case1 x hx hnone =>
    rw [Array.getElem?_eq_getElem (Nat.sub_one_lt_of_le (Nat.zero_lt_of_lt hx) h2)] at hnone; cases hnone
  | case2 x hx c hc hws ih =>
    obtain ⟨q, h3, h4, h5, h6⟩ := ih (Nat.le_sub_one_of_lt hx) (Nat.le_trans (Nat.sub_le x 1) h2)
    simp only [Bool.and_eq_true] at hws
    exact ⟨q, h3, h4, Nat.le_trans h5 (Nat.sub_le x 1), h6.extend (.single (Nat.zero_lt_of_lt hx) hc hws.1.1)⟩
  | case3 x | case4 x => exact ⟨x, rfl, h1, Nat.le_refl _, .refl b x⟩

theorem trimNewline_spec (b : Bytes) (startpos p : Nat) (h1 : startpos ≤ p) (h2 : p ≤ b.size) :
    ∃ q, trimNewline b startpos p = .ok q ∧ startpos ≤ q ∧ q ≤ p ∧ WsRange b q p := by
  unfold trimNewline
  by_cases hp : p > startpos
  · have hp0 : 0 < p := Nat.zero_lt_of_lt hp
    obtain ⟨c, hc⟩ : ∃ c, b[p - 1]? = some c := ⟨_, Array.getElem?_eq_getElem (Nat.sub_one_lt_of_le hp0 h2)⟩
    -- the test `== b'\r' && == b'\n'` never holds
    have hcr : (c == 13 && c == 10) = false := by
      by_cases h : c = 13
      · rw [h]; rfl
      · rw [beq_false_of_ne h]; rfl
    rw [if_pos hp, hc]
    simp only [hcr, Bool.false_eq_true, if_false]
    by_cases hnl : (c == 10) = true
    · rw [if_pos hnl]
      exact ⟨p - 1, rfl, Nat.le_sub_one_of_lt hp, Nat.sub_le p 1, .single hp0 hc (by rw [beq_iff_eq.1 hnl]; decide)⟩
    · rw [if_neg hnl]
      exact ⟨p, rfl, h1, Nat.le_refl _, .refl b p⟩
  · rw [if_neg hp]
    exact ⟨p, rfl, h1, Nat.le_refl _, .refl b p⟩

theorem a2mlBody_spec (b : Bytes) (startpos : Nat) (h : startpos ≤ b.size) :
    ∃ q, a2mlBody b startpos = .ok q ∧ startpos ≤ q ∧ q ≤ b.size ∧ Ahead b q := by
  obtain ⟨p1, h1, h2, h3, h4⟩ := a2mlLoop_spec b startpos h
  obtain ⟨p2, h5, h6, h7, h8⟩ := trimLoop_spec b startpos p1 h2 h3
  obtain ⟨p3, h9, h10, h11, h12⟩ := trimNewline_spec b startpos p2 h6 (Nat.le_trans h7 h3)
  have h13 : p3 ≤ p1 := Nat.le_trans h11 h7
  exact ⟨p3, by simp only [a2mlBody, h1, h5, h9], h10, Nat.le_trans h13 h3, p1, h13, h3, h12.extend h8, h4⟩

/-- `handle_a2ml` behind the identifier token `tok` just pushed: the indexing of the token vector done. It looks at the
    text only if the token in front of `tok` is `/begin`. -/
theorem handleA2ml_push (b : Bytes) (pos line : Nat) (tokens : Array Token) (tok : Token) :
    handleA2ml b pos line (tokens.push tok) =
      if tokens.back?.any (fun t => t.ttype = .begin) then
        (match slice b tok.startpos tok.endpos with
          | .panic => .panic
          | .ok tag =>
            match (if tag == tagA2ml then a2mlBody b pos else .ok pos) with
            | .panic => .panic
            | .ok q =>
              if q > pos then
                match countNewlines b pos q with
                | .panic => .panic
                | .ok n => .ok (q, line + n, (tokens.push tok).push { ttype := .string, startpos := pos, endpos := q, line := line })
              else .ok (q, line, tokens.push tok))
      else .ok (pos, line, tokens.push tok) := by
  unfold handleA2ml
  simp only [Array.size_push]
  cases hbk : tokens.back? with
  | none =>
    rw [Array.back?_eq_none_iff] at hbk
    subst hbk
    rfl
  | some t2 =>
    have hne : tokens ≠ #[] := fun h => by rw [h] at hbk; cases hbk
    have hn : tokens.size + 1 ≥ 2 := Nat.succ_le_succ (Array.size_pos_iff.2 hne)
    have h2 : (tokens.push tok)[tokens.size + 1 - 2]? = some t2 := by
      rw [Array.getElem?_push, if_neg (by omega), ← hbk, Array.back?_eq_getElem?]
      rfl
    rw [if_pos hn, h2, Nat.add_sub_cancel, Array.getElem?_push_size]
    by_cases hb : t2.ttype = .begin <;> simp only [hb, Option.any_some, decide_true, decide_false, if_true, if_false] <;> rfl

theorem handleA2ml_spec (b : Bytes) (pos line : Nat) (tokens : Array Token) (tok : Token) (hpos : pos ≤ b.size)
    (htok : tok.startpos ≤ tok.endpos ∧ tok.endpos ≤ b.size) :
    ∃ bp' line' toks', handleA2ml b pos line (tokens.push tok) = .ok (bp', line', toks') ∧
      ((bp' = pos ∧ line' = line ∧ toks' = tokens.push tok) ∨
       (pos < bp' ∧ bp' ≤ b.size ∧ line ≤ line' ∧ Ahead b bp' ∧
        toks' = (tokens.push tok).push { ttype := .string, startpos := pos, endpos := bp', line := line })) := by
  rw [handleA2ml_push]
  by_cases hbeg : tokens.back?.any (fun t => t.ttype = .begin) = true
  · obtain ⟨tag, htag⟩ := slice_ok htok.1 htok.2
    rw [if_pos hbeg, htag]
    simp only
    have hbody : ∃ q, (if tag == tagA2ml then a2mlBody b pos else Out.ok pos) = .ok q ∧
        pos ≤ q ∧ q ≤ b.size ∧ (pos < q → Ahead b q) := by
      by_cases ht : (tag == tagA2ml) = true
      · obtain ⟨q, h1, h2, h3, h4⟩ := a2mlBody_spec b pos hpos
        exact ⟨q, by rw [if_pos ht, h1], h2, h3, fun _ => h4⟩
      · exact ⟨pos, if_neg ht, Nat.le_refl _, hpos, fun h => absurd h (Nat.lt_irrefl _)⟩
    obtain ⟨q, h1, h2, h3, h4⟩ := hbody
    rw [h1]
    simp only
    by_cases hq : q > pos
    · rw [if_pos hq]
      obtain ⟨n, hn⟩ := countNewlines_ok h2 h3
      rw [hn]
      exact ⟨_, _, _, rfl, Or.inr ⟨hq, h3, Nat.le_add_right _ _, h4 hq, rfl⟩⟩
    · rw [if_neg hq]
      have : q = pos := Nat.le_antisymm (Nat.le_of_not_lt hq) h2
      subst this
      exact ⟨_, _, _, rfl, Or.inl ⟨rfl, rfl, rfl⟩⟩
  · rw [if_neg hbeg]; exact ⟨_, _, _, rfl, Or.inl ⟨rfl, rfl, rfl⟩⟩

/-- a continuation byte never follows an ASCII byte and is never the first byte (consequence of UTF-8 validity) -/
def Utf8Ok (b : Bytes) : Prop :=
  ∀ p (h : p < b.size), 0x80 ≤ b[p] ∧ b[p] < 0xC0 → 0 < p ∧ 0x80 ≤ b[p - 1]

/-- `str::is_char_boundary` -/
def IsCharBoundary (b : Bytes) (p : Nat) : Prop :=
  p ≤ b.size ∧ ∀ h : p < b.size, ¬ (0x80 ≤ b[p] ∧ b[p] < 0xC0)

/-- `IsCharBoundary` stated with `b[p]?`, the form in which the invariant carries it -/
def Bnd (b : Bytes) (p : Nat) : Prop := p = b.size ∨ ∃ c, b[p]? = some c ∧ ¬ (0x80 ≤ c ∧ c < 0xC0)

theorem Bnd.isCharBoundary {p : Nat} (h : Bnd b p) : IsCharBoundary b p := by
  rcases h with h | ⟨c, hc, hcont⟩
  · exact ⟨Nat.le_of_eq h, fun h' => absurd h (Nat.ne_of_lt h')⟩
  · have hlt := getElem?_some_lt hc
    refine ⟨Nat.le_of_lt hlt, fun h' => ?_⟩
    rw [Array.getElem?_eq_getElem hlt] at hc; cases hc; exact hcont

theorem not_cont_of_ascii {c : UInt8} (h : c < 128) : ¬ (0x80 ≤ c ∧ c < 0xC0) :=
  fun hc => absurd h (UInt8.not_lt.2 hc.1)

theorem Bnd.of_ascii {p : Nat} {c : UInt8} (h : b[p]? = some c) (hc : c < 128) : Bnd b p :=
  Or.inr ⟨c, h, not_cont_of_ascii hc⟩

theorem Bnd.after_ascii {p : Nat} {c : UInt8} (hu : Utf8Ok b) (hp : p ≤ b.size)
    (h : b[p - 1]? = some c) (hc : c < 128) : Bnd b p := by
  by_cases hps : p = b.size
  · exact Or.inl hps
  · have hlt : p < b.size := Nat.lt_of_le_of_ne hp hps
    refine Or.inr ⟨b[p], Array.getElem?_eq_getElem hlt, fun hcont => ?_⟩
    have hprev := (hu p hlt hcont).2
    rw [Array.getElem?_eq_getElem (Nat.lt_of_le_of_lt (Nat.sub_le p 1) hlt)] at h
    cases h
    exact absurd hc (UInt8.not_lt.2 hprev)

/-- the position behind an A2ML block is a char boundary: a whitespace byte, the `/` of `/end`, or the end of input -/
theorem Ahead.bnd {p : Nat} (h : Ahead b p) : Bnd b p := by
  obtain ⟨e, he1, he2, hws, hend⟩ := h
  by_cases hpe : p < e
  · obtain ⟨c, hc, hcw⟩ := hws p (Nat.le_refl _) hpe
    exact Bnd.of_ascii hc (isWs_ascii hcw)
  · have : p = e := Nat.le_antisymm he1 (Nat.le_of_not_lt hpe)
    subst this
    rcases hend with hend | hend
    · exact Or.inl hend
    · exact Bnd.of_ascii (matchAt_getElem? hend 0 (by decide)) (by decide)

/-- no comment that starts at or after `p` reaches back below `lo` -/
def OKFrom (b : Bytes) (lo p : Nat) : Prop :=
  ∀ p', p ≤ p' → b[p']? = some 47 → (b[p' + 1]? = some 42 ∨ b[p' + 1]? = some 47) →
    ∀ cs, commentStart b p' = .ok cs → lo ≤ cs

theorem OKFrom.mono {lo p p2 : Nat} (h : OKFrom b lo p) (hp : p ≤ p2) : OKFrom b lo p2 :=
  fun p' h1 h2 h3 cs h4 => h p' (Nat.le_trans hp h1) h2 h3 cs h4

theorem OKFrom.of_stop {lo p : Nat} (hlo : lo ≤ p)
    (h : p = b.size ∨ ∃ c, b[p]? = some c ∧ c ≠ 47 ∧ c ≠ 32) : OKFrom b lo p := by
  intro p' h1 h2 h3 cs h4
  have hp' := getElem?_some_lt h2
  rcases h with h | ⟨c, hc, hc1, hc2⟩
  · exact absurd hp' (Nat.not_lt.2 (h ▸ h1))
  · by_cases hpp : p' = p
    · subst hpp; rw [hc] at h2; cases h2; exact absurd rfl hc1
    · have := commentStart_barrier h4 (Nat.le_of_lt hp') (Nat.lt_of_le_of_ne h1 (Ne.symm hpp)) hc hc2
      exact Nat.le_trans hlo (Nat.le_of_lt this)

theorem OKFrom.of_ahead {lo p : Nat} (hlo : lo ≤ p) (h : Ahead b p) : OKFrom b lo p := by
  intro p' h1 h2 h3 cs h4
  have hp' := getElem?_some_lt h2
  obtain ⟨e, he1, he2, hws, hend⟩ := h
  by_cases hlt : p' < e
  · obtain ⟨c, hc, hcw⟩ := hws p' h1 hlt
    rw [hc] at h2; cases h2; exact absurd hcw (by decide)
  · have hle := Nat.le_of_not_lt hlt
    rcases hend with hend | hend
    · exact absurd hp' (Nat.not_lt.2 (hend ▸ hle))
    · -- `/end` follows: its `/` is no comment start, and it bars later ones
      have h0 : b[e]? = some 47 := matchAt_getElem? hend 0 (by decide)
      have h1' : b[e + 1]? = some 101 := matchAt_getElem? hend 1 (by decide)
      by_cases hpe : p' = e
      · subst hpe
        rcases h3 with h3 | h3 <;> exact absurd (h1'.symm.trans h3) (by decide)
      · have := commentStart_barrier h4 (Nat.le_of_lt hp') (Nat.lt_of_le_of_ne hle (Ne.symm hpe)) h0 (by decide)
        exact Nat.le_trans hlo (Nat.le_trans he1 (Nat.le_of_lt this))

/-- Loop invariant of `tokenize_core`.  `hi` is the end of the last token; `safe` keeps the next comment, whose start is
    moved back over the blanks in front of it, from reaching below `hi` into that token. -/
structure Inv (b : Bytes) (s : State) (hi : Nat) : Prop where
  pos_le : s.bytepos ≤ b.size
  line_pos : 1 ≤ s.line
  hi_le : hi ≤ s.bytepos
  toks : ∀ t ∈ s.tokens.toList, t.startpos < t.endpos ∧ t.endpos ≤ hi ∧ t.line ≤ s.line ∧ 1 ≤ t.line
  cl : ∀ t ∈ s.tokens.toList, t.ttype = .comment → t.line + nlCount b t.startpos t.endpos ≤ s.line
  clp : s.tokens.toList.Pairwise (fun a c => a.ttype = .comment → a.line + nlCount b a.startpos a.endpos ≤ c.line)
  lines : s.tokens.toList.Pairwise (fun a c => a.line ≤ c.line)
  disj : s.tokens.toList.Pairwise (fun a c => a.endpos ≤ c.startpos)
  safe : OKFrom b hi s.bytepos
  bnd : Utf8Ok b → ∀ t ∈ s.tokens.toList, Bnd b t.startpos ∧ Bnd b t.endpos

section
variable {s : State} {hi : Nat}

theorem Inv.move (inv : Inv b s hi) {p' line' : Nat} {sep : Bool}
    (h1 : s.bytepos ≤ p') (h2 : p' ≤ b.size) (h3 : s.line ≤ line') :
    Inv b { tokens := s.tokens, bytepos := p', separated := sep, line := line' } hi where
  pos_le := h2
  line_pos := Nat.le_trans inv.line_pos h3
  hi_le := Nat.le_trans inv.hi_le h1
  toks := fun t ht => have h := inv.toks t ht; ⟨h.1, h.2.1, Nat.le_trans h.2.2.1 h3, h.2.2.2⟩
  cl := fun t ht hc => Nat.le_trans (inv.cl t ht hc) h3
  clp := inv.clp
  lines := inv.lines
  disj := inv.disj
  safe := inv.safe.mono h1
  bnd := inv.bnd

theorem mem_push_toList {α} {a : Array α} {x t : α} (h : t ∈ (a.push x).toList) : t ∈ a.toList ∨ t = x := by
  rw [Array.toList_push, List.mem_append, List.mem_singleton] at h; exact h

theorem pairwise_push_toList {α} {R : α → α → Prop} {a : Array α} {x : α} (h1 : a.toList.Pairwise R)
    (h2 : ∀ t ∈ a.toList, R t x) : (a.push x).toList.Pairwise R := by
  rw [Array.toList_push, List.pairwise_append]
  exact ⟨h1, List.pairwise_singleton _ _, fun t ht c hc => List.mem_singleton.1 hc ▸ h2 t ht⟩

theorem Inv.push (inv : Inv b s hi) {tt : TokType} {st en ln p' line' : Nat}
    {sep : Bool} (h1 : hi ≤ st) (h2 : st < en) (h3 : en ≤ p') (h4 : p' ≤ b.size) (h5 : s.line ≤ ln)
    (h6 : ln ≤ line') (h7 : OKFrom b en p') (h8 : Utf8Ok b → Bnd b st ∧ Bnd b en)
    (h9 : tt = .comment → ln + nlCount b st en ≤ line') :
    Inv b { tokens := s.tokens.push { ttype := tt, startpos := st, endpos := en, line := ln },
            bytepos := p', separated := sep, line := line' } en :=
  have hln : s.line ≤ line' := Nat.le_trans h5 h6
  have hpos : 1 ≤ ln := Nat.le_trans inv.line_pos h5
  -- an old token ends at or before `hi`, hence before the start of the new one, and is not below its line
  have hold : ∀ t ∈ s.tokens.toList, t.endpos ≤ st ∧ t.line ≤ ln := fun t ht =>
    have h := inv.toks t ht; ⟨Nat.le_trans h.2.1 h1, Nat.le_trans h.2.2.1 h5⟩
  { pos_le := h4
    line_pos := Nat.le_trans inv.line_pos hln
    hi_le := h3
    toks := fun t ht => by
      rcases mem_push_toList ht with ht | rfl
      · have h := inv.toks t ht
        exact ⟨h.1, Nat.le_trans (hold t ht).1 (Nat.le_of_lt h2), Nat.le_trans h.2.2.1 hln, h.2.2.2⟩
      · exact ⟨h2, Nat.le_refl _, h6, hpos⟩
    cl := fun t ht hc => by
      rcases mem_push_toList ht with ht | rfl
      · exact Nat.le_trans (inv.cl t ht hc) hln
      · exact h9 hc
    clp := pairwise_push_toList inv.clp fun a ha hcm => Nat.le_trans (inv.cl a ha hcm) h5
    lines := pairwise_push_toList inv.lines fun a ha => (hold a ha).2
    disj := pairwise_push_toList inv.disj fun a ha => (hold a ha).1
    safe := h7
    bnd := fun hu t ht => by
      rcases mem_push_toList ht with ht | rfl
      · exact inv.bnd hu t ht
      · exact h8 hu }

/-- `Inv.push` with the scan position at the end of the token: a last byte that is ASCII and no blank stops the
    blanks of every later comment (`commentStart_barrier`) and is followed by a char boundary -/
theorem Inv.push_simple (inv : Inv b s hi) {tt : TokType}
    {st en ln line' : Nat} {sep : Bool} (h1 : hi ≤ st) (h2 : st < en) (h4 : en ≤ b.size) (h5 : s.line ≤ ln)
    (h6 : ln ≤ line') (hfirst : ∃ c, b[st]? = some c ∧ c < 128)
    (hlast : ∃ c, b[en - 1]? = some c ∧ c < 128 ∧ c ≠ 32)
    (h9 : tt = .comment → ln + nlCount b st en ≤ line') :
    Inv b { tokens := s.tokens.push { ttype := tt, startpos := st, endpos := en, line := ln },
            bytepos := en, separated := sep, line := line' } en := by
  obtain ⟨c0, hc0, hc0a⟩ := hfirst
  obtain ⟨c1, hc1, hc1a, hc1b⟩ := hlast
  have hen : 0 < en := Nat.zero_lt_of_lt h2
  exact inv.push h1 h2 (Nat.le_refl _) h4 h5 h6
    (fun p' hp hs _ cs hcs => Nat.le_of_pred_lt
      (commentStart_barrier hcs (Nat.le_of_lt (getElem?_some_lt hs))
        (Nat.lt_of_lt_of_le (Nat.sub_lt hen Nat.one_pos) hp) hc1 hc1b))
    (fun hu => ⟨Bnd.of_ascii hc0 hc0a, Bnd.after_ascii hu h4 hc1 hc1a⟩) h9

def Good (b : Bytes) (s : State) : StepRes → Prop
  | .cont s' => s.bytepos < s'.bytepos ∧ ∃ hi', Inv b s' hi'
  | .err _ l => 1 ≤ l
  | .panic => False

/-- A token `[s.bytepos, e)` of type `tt` that starts at the scan position, with the byte `c`, and is no comment (a keyword, a
    string, a path, an identifier, a number): what the invariants need to know of it. `quote` is for the token behind
    `/include`; `ident`: an identifier token is a path, or starts with a byte that no identifier starts with (`1z`), or consists of
    identifier characters. -/
structure Plain (b : Bytes) (s : State) (tt : TokType) (e : Nat) (c : UInt8) : Prop where
  first : b[s.bytepos]? = some c
  nws : isWs c = false
  ascii : c < 128
  lt : s.bytepos < e
  le : e ≤ b.size
  last : ∃ d, b[e - 1]? = some d ∧ d < 128 ∧ d ≠ 32
  quote : c = 34 → s.bytepos + 2 ≤ e
  noCmt : tt ≠ .comment
  ident : tt = .identifier → (∃ t, s.tokens.back? = some t ∧ t.ttype = .include) ∨ (isAlpha c || c == 95) = false ∨
    AllIn b isIdentChar s.bytepos e

/-- A comment starts at the scan position with `/`; its token starts at `cs`, behind the blanks in front of the `/`: what the two
    comment arms have in common. -/
structure CmtStart (b : Bytes) (s : State) (cs : Nat) : Prop where
  slash : b[s.bytepos]? = some 47
  start : commentStart b s.bytepos = .ok cs
  le : cs ≤ s.bytepos
  blanks : ∀ r, cs ≤ r → r < s.bytepos → b[r]? = some 32

/-- What `step` can return at a position inside the input (`step_rel`): one constructor per kind of outcome, with what is known
    of the positions in it. The arms that push one token that starts at the scan position (`Plain`) are one constructor (`tok`); the
    two comment arms share `CmtStart`. The
    relation is wider than the graph of `step`: an error needs no reason, and the ends of the scans are described only as far as
    an invariant needs them. -/
inductive Step (b : Bytes) (s : State) : StepRes → Prop
  | err (k : ErrKind) : Step b s (.err k s.line)
  | ws (e : Nat) (hgt : s.bytepos < e) (hle : e ≤ b.size) :
      Step b s (.cont { s with bytepos := e, separated := true, line := s.line + nlCount b s.bytepos e })
  | blockComment (cs m : Nat) (hcm : CmtStart b s cs) (hnext : b[s.bytepos + 1]? = some 42)
      (hm : s.bytepos + 2 ≤ m) (hlt : m + 1 < b.size) (h42 : b[m]? = some 42) (h47 : b[m + 1]? = some 47)
      (hfirst : ∀ r, s.bytepos + 2 ≤ r → r < m → ¬ (b[r]? = some 42 ∧ b[r + 1]? = some 47)) :
      Step b s (.cont { tokens := s.tokens.push { ttype := .comment, startpos := cs, endpos := m + 2, line := s.line },
                        bytepos := m + 2, separated := true, line := s.line + nlCount b s.bytepos (m + 2) })
  | lineComment (cs e : Nat) (hcm : CmtStart b s cs) (hnext : b[s.bytepos + 1]? = some 47)
      (hgt : s.bytepos + 1 < e) (hle : e ≤ b.size)
      (hall : AllIn b notNewline (s.bytepos + 1) e)
      (hstop : e = b.size ∨ b[e]? = some 10) :
      Step b s (.cont { tokens := s.tokens.push { ttype := .comment, startpos := cs, endpos := e, line := s.line },
                        bytepos := e, separated := true, line := s.line })
  | tok (tt : TokType) (e : Nat) (c : UInt8) (n : Nat) (h : Plain b s tt e c) :
      Step b s (.cont { tokens := s.tokens.push { ttype := tt, startpos := s.bytepos, endpos := e, line := s.line + n },
                        bytepos := e, separated := false, line := s.line + n })
  | identA2ml (e : Nat) (c : UInt8) (h : Plain b s .identifier e c) (bp' line' : Nat) (hgt : e < bp') (hle : bp' ≤ b.size)
      (hline : s.line ≤ line') (ha : Ahead b bp') :
      Step b s (.cont {
        tokens := (s.tokens.push { ttype := .identifier, startpos := s.bytepos, endpos := e, line := s.line }).push
          { ttype := .string, startpos := e, endpos := bp', line := s.line },
        bytepos := bp', separated := true, line := line' })

/-- the `separator_check` in front of an arm -/
theorem Step.sep {s : State} {r : StepRes} (h : Step b s r) :
    Step b s (if s.separated = false then .err .MissingWhitespace s.line else r) := by
  by_cases hsep : s.separated = false
  · rw [if_pos hsep]; exact .err _
  · rw [if_neg hsep]; exact h

theorem invalidToken_rel (s : State) (hle : s.bytepos ≤ b.size) : Step b s (invalidToken b s.bytepos s.line) := by
  unfold invalidToken
  simp only
  obtain ⟨x, hx⟩ := slice_ok (b := b) (a := s.bytepos)
    (e := if s.bytepos + 10 < b.size then s.bytepos + 10 else b.size) (by split <;> omega) (by split <;> omega)
  rw [hx]; exact .err _

theorem Plain.scan {s : State} {c : UInt8} (p : UInt8 → Bool) (hasc : ∀ {x}, p x = true → x < 128 ∧ x ≠ 32) (tt : TokType)
    (hc : b[s.bytepos]? = some c) (hp : p c = true) (hnws : isWs c = false) (hne : c ≠ 34) (hnc : tt ≠ .comment)
    (hid : tt = .identifier → (∃ t, s.tokens.back? = some t ∧ t.ttype = .include) ∨ (isAlpha c || c == 95) = false ∨
      AllIn b isIdentChar s.bytepos (skipWhile b p s.bytepos)) :
    Plain b s tt (skipWhile b p s.bytepos) c := by
  have hgt := skipWhile_gt b p s.bytepos hc hp
  obtain ⟨d, hd1, hd2⟩ := skipWhile_last b p s.bytepos hgt
  exact ⟨hc, hnws, (hasc hp).1, hgt, skipWhile_le b p s.bytepos (Nat.le_of_lt (getElem?_some_lt hc)), ⟨d, hd1, hasc hd2⟩,
    fun h => absurd h hne, hnc, hid⟩

/-- a keyword token: `/` and the bytes of `pat`, of which `d` is the last -/
theorem Plain.keyword {s : State} {pat : List UInt8} (tt : TokType) (d : UInt8) (hc : b[s.bytepos]? = some 47)
    (hm : matchAt b (s.bytepos + 1) pat = true) (hd : pat[pat.length - 1]? = some d)
    (hda : d < 128 ∧ d ≠ 32) (htt : tt ≠ .comment ∧ tt ≠ .identifier) : Plain b s tt (s.bytepos + 1 + pat.length) 47 := by
  obtain ⟨hi, hd⟩ := List.getElem?_eq_some_iff.1 hd
  refine ⟨hc, by decide, by decide, Nat.lt_of_lt_of_le (Nat.lt_succ_self _) (Nat.le_add_right _ _),
    matchAt_len b _ pat (getElem?_some_lt hc) hm, ?_, fun h => absurd h (by decide), htt.1, fun h => absurd h htt.2⟩
  rw [Nat.add_sub_assoc (Nat.zero_lt_of_lt hi)]
  exact ⟨d, hd ▸ matchAt_getElem? hm _ hi, hda⟩

theorem stepSlash_rel (s : State) (hc : b[s.bytepos]? = some 47) (h1 : s.bytepos + 1 < b.size) :
    Step b s (stepSlash b s) := by
  have hc1 := Array.getElem?_eq_getElem h1
  have hle := Nat.le_of_lt (Nat.lt_of_succ_lt h1)
  obtain ⟨cs, hcs, hcs1, hbl⟩ := commentStart_spec b s.bytepos hle
  unfold stepSlash
  simp only
  rw [hc1]
  simp only
  by_cases hstar : (b[s.bytepos + 1] == 42) = true
  · rw [if_pos hstar]
    rw [beq_iff_eq.1 hstar] at hc1
    have hend := findBlockCommentEnd_spec b (s.bytepos + 1 + 1)
    cases hq : findBlockCommentEnd b (s.bytepos + 1 + 1) with
    | panic => rw [hq] at hend; exact hend.elim
    | err => exact .err _
    | ok q =>
      rw [hq] at hend
      obtain ⟨m, rfl, hm, hlt', h42, h47, hfirst⟩ := hend
      simp only
      rw [hcs]
      simp only
      rw [countNewlines_eq (b := b) (by omega) hlt']
      exact .blockComment cs m ⟨hc, hcs, hcs1, hbl⟩ hc1 hm hlt' h42 h47 hfirst
  rw [if_neg hstar]
  by_cases hsl : (b[s.bytepos + 1] == 47) = true
  · rw [if_pos hsl, hcs]
    rw [beq_iff_eq.1 hsl] at hc1
    have hle' := skipWhile_le b notNewline _ (Nat.le_of_lt h1)
    exact .lineComment cs _ ⟨hc, hcs, hcs1, hbl⟩ hc1 (skipWhile_gt b notNewline _ hc1 rfl) hle' (skipWhile_scan b notNewline _).all
      ((skipWhile_scan b notNewline _).stop.imp (Nat.le_antisymm hle') fun ⟨c, h, hc'⟩ => by
        rwa [← show c = 10 by simpa [notNewline] using hc'])
  rw [if_neg hsl]
  simp only [startsWith_eq (Nat.le_of_lt h1)]
  cases hb : matchAt b (s.bytepos + 1) kwBegin with
  | true => exact (Step.tok .begin _ _ 0 (.keyword _ 110 hc hb rfl (by decide) (by decide))).sep
  | false =>
    cases he : matchAt b (s.bytepos + 1) kwEnd with
    | true => exact (Step.tok .end_ _ _ 0 (.keyword _ 100 hc he rfl (by decide) (by decide))).sep
    | false =>
      cases hinc : matchAt b (s.bytepos + 1) kwInclude with
      | true => exact (Step.tok .include _ _ 0 (.keyword _ 101 hc hinc rfl (by decide) (by decide))).sep
      | false => exact invalidToken_rel s hle

theorem stepString_rel (s : State) (hc : b[s.bytepos]? = some 34) :
    Step b s (stepString b s) := by
  unfold stepString
  simp only
  apply Step.sep
  have hend := findStringEnd_spec b (s.bytepos + 1) (getElem?_some_lt hc)
  cases hq : findStringEnd b (s.bytepos + 1) with
  | panic => rw [hq] at hend; exact hend.elim
  | err => exact .err _
  | ok q =>
    rw [hq] at hend
    simp only
    rw [countNewlines_eq (b := b) (Nat.le_of_lt (Nat.lt_of_succ_lt hend.1)) hend.2.1]
    exact .tok .string q 34 _ ⟨hc, by decide, by decide, Nat.lt_of_succ_lt hend.1, hend.2.1,
      ⟨34, hend.2.2, by decide, by decide⟩, fun _ => hend.1, nofun, nofun⟩

theorem stepIdent_rel (s : State) (c : UInt8) (hc : b[s.bytepos]? = some c)
    (hnws : isWs c = false) (hne : c ≠ 34) (hal : (isAlpha c || c == 95) = true) : Step b s (stepIdent b s) := by
  have hp : Plain b s .identifier (skipWhile b isIdentChar s.bytepos) c :=
    .scan isIdentChar isIdentChar_ascii _ hc (isAlpha_identChar hal) hnws hne nofun
      fun _ => .inr (.inr (skipWhile_scan b isIdentChar s.bytepos).all)
  unfold stepIdent
  simp only
  apply Step.sep
  obtain ⟨bp', line', toks', h1, h2⟩ := handleA2ml_spec b (skipWhile b isIdentChar s.bytepos) s.line s.tokens
    { ttype := .identifier, startpos := s.bytepos, endpos := skipWhile b isIdentChar s.bytepos, line := s.line }
    hp.le ⟨Nat.le_of_lt hp.lt, hp.le⟩
  rw [h1]
  rcases h2 with ⟨rfl, rfl, rfl⟩ | ⟨h3, h4, h5, h6, rfl⟩
  · simp only [ne_eq, not_true_eq_false, if_false]
    exact .tok _ _ c 0 hp
  · simp only [if_pos (Nat.ne_of_lt h3)]
    exact .identA2ml _ c hp bp' line' h3 h4 h5 h6

theorem stepNumber_rel (s : State) (c : UInt8) (hc : b[s.bytepos]? = some c)
    (hnws : isWs c = false) (hne : c ≠ 34) (hnal : (isAlpha c || c == 95) = false) (hnum : isNumChar c = true) :
    Step b s (stepNumber b s) := by
  unfold stepNumber
  simp only
  apply Step.sep
  -- the first byte is a number character, so the scan may as well start there
  rw [← skipWhile_of_pos b isNumChar s.bytepos hc hnum]
  have hp : Plain b s .number (skipWhile b isNumChar s.bytepos) c :=
    .scan isNumChar isNumChar_ascii _ hc hnum hnws hne nofun nofun
  have htok : Step b s (stepNumberTok b s (skipWhile b isNumChar s.bytepos)) := by
    unfold stepNumberTok
    simp only
    obtain ⟨number, hn⟩ := slice_ok (b := b) (Nat.le_of_lt hp.lt) hp.le
    rw [hn]
    simp only
    by_cases hbad : (number == #[45] || number == #[46] || number == #[48, 120]) = true
    · rw [if_pos hbad]; exact .err _
    · rw [if_neg hbad]; exact .tok _ _ c 0 hp
  by_cases hq : skipWhile b isNumChar s.bytepos = b.size
  · rw [if_pos hq]; exact htok
  · rw [if_neg hq]
    have hq' := Nat.lt_of_le_of_ne hp.le hq
    obtain ⟨d, hd⟩ : ∃ d, b[skipWhile b isNumChar s.bytepos]? = some d := ⟨_, Array.getElem?_eq_getElem hq'⟩
    have hd' := hd
    rw [Array.getElem?_eq_getElem hq'] at hd'
    rw [hd]
    simp only
    cases hid : isIdentChar d with
    | false => exact htok
    | true =>
      simp only [Bool.not_true, dif_pos hq', Option.some.inj hd', hid, if_true]
      have hgt := skipWhile_gt b isIdentChar _ hd hid
      obtain ⟨x, hx1, hx2⟩ := skipWhile_last b isIdentChar _ hgt
      exact .tok .identifier _ c 0 ⟨hc, hnws, (isNumChar_ascii hnum).1, Nat.lt_trans hp.lt hgt,
        skipWhile_le b isIdentChar _ hp.le, ⟨x, hx1, isIdentChar_ascii hx2⟩, fun h => absurd h hne, nofun,
        fun _ => .inr (.inl hnal)⟩

/-- the test for a file path: the last token is `/include` and the byte starts a path -/
def pathStart (s : State) (c : UInt8) : Bool :=
  s.tokens.back?.any (fun t => t.ttype = .include) && !isDigit c && isIdentChar c

/-- `step` at a byte `c`: the chain of tests, with the (impossible) failure of `tokens.last().unwrap()` removed -/
theorem step_eq {s : State} {c : UInt8} (hc : b[s.bytepos]? = some c) :
    step b s =
      if isWs c then
        (match countNewlines b s.bytepos (skipWhile b isWs s.bytepos) with
          | .panic => .panic
          | .ok n => .cont { s with bytepos := skipWhile b isWs s.bytepos, separated := true, line := s.line + n })
      else if c == 47 && s.bytepos + 1 < b.size then stepSlash b s
      else if c == 34 then stepString b s
      else if pathStart s c then stepPath b s
      else if isAlpha c || c == 95 then stepIdent b s
      else if c == 45 || isNumChar c then stepNumber b s
      else invalidToken b s.bytepos s.line := by
  unfold step pathStart
  simp only [hc]
  by_cases he : s.tokens.isEmpty = true
  · rw [if_pos he, Array.isEmpty_iff.1 he]; rfl
  · rw [if_neg he]
    cases hb : s.tokens.back? with
    | none => rw [Array.back?_eq_none_iff] at hb; rw [hb] at he; exact absurd rfl he
    | some t =>
      cases hx : decide (t.ttype = TokType.include) && !isDigit c && isIdentChar c <;>
        simp only [Option.any_some, hx] <;> rfl

/-- `step` inside the input never panics, and its result is one of the arms -/
theorem step_rel (s : State) (hlt : s.bytepos < b.size) : Step b s (step b s) := by
  have hc := Array.getElem?_eq_getElem hlt
  rw [step_eq hc]
  by_cases hws : isWs b[s.bytepos] = true
  · have hgt := skipWhile_gt b isWs s.bytepos hc hws
    have hle := skipWhile_le b isWs s.bytepos (Nat.le_of_lt hlt)
    rw [if_pos hws, countNewlines_eq (Nat.le_of_lt hgt) hle]
    exact .ws _ hgt hle
  rw [if_neg hws]
  have hnws := Bool.eq_false_iff.2 hws
  by_cases hsl : (b[s.bytepos] == 47 && decide (s.bytepos + 1 < b.size)) = true
  · rw [if_pos hsl]
    simp only [Bool.and_eq_true, beq_iff_eq, decide_eq_true_eq] at hsl
    exact stepSlash_rel s (hsl.1 ▸ hc) hsl.2
  rw [if_neg hsl]
  by_cases hq : (b[s.bytepos] == 34) = true
  · rw [if_pos hq]
    exact stepString_rel s (beq_iff_eq.1 hq ▸ hc)
  rw [if_neg hq]
  have hne : b[s.bytepos] ≠ 34 := fun h => hq (beq_iff_eq.2 h)
  by_cases hp : pathStart s b[s.bytepos] = true
  · rw [if_pos hp]
    simp only [pathStart, Bool.and_eq_true, Option.any_eq_true, decide_eq_true_eq] at hp
    exact (Step.tok .identifier _ _ 0 (.scan isPathChar isPathChar_ascii _ hc (by simp [isPathChar, hp.2]) hnws hne
      nofun fun _ => .inl hp.1.1)).sep
  rw [if_neg hp]
  by_cases hal : (isAlpha b[s.bytepos] || b[s.bytepos] == 95) = true
  · rw [if_pos hal]; exact stepIdent_rel s _ hc hnws hne hal
  rw [if_neg hal]
  by_cases hnum : (b[s.bytepos] == 45 || isNumChar b[s.bytepos]) = true
  · rw [if_pos hnum]; exact stepNumber_rel s _ hc hnws hne (Bool.eq_false_iff.2 hal) (minus_numChar hnum)
  · rw [if_neg hnum]; exact invalidToken_rel s (Nat.le_of_lt hlt)

theorem Inv.comment_start (inv : Inv b s hi) {cs : Nat} (hcm : CmtStart b s cs)
    (hnext : b[s.bytepos + 1]? = some 42 ∨ b[s.bytepos + 1]? = some 47) : hi ≤ cs ∧ ∃ c, b[cs]? = some c ∧ c < 128 := by
  refine ⟨inv.safe s.bytepos (Nat.le_refl _) hcm.slash hnext cs hcm.start, ?_⟩
  by_cases h : cs = s.bytepos
  · rw [h]; exact ⟨47, hcm.slash, by decide⟩
  · exact ⟨32, hcm.blanks cs (Nat.le_refl _) (Nat.lt_of_le_of_ne hcm.le h), by decide⟩

theorem Inv.push_plain (inv : Inv b s hi) {tt : TokType} {e : Nat} {c : UInt8} (h : Plain b s tt e c) (n : Nat) :
    Inv b { tokens := s.tokens.push { ttype := tt, startpos := s.bytepos, endpos := e, line := s.line + n },
            bytepos := e, separated := false, line := s.line + n } e :=
  inv.push_simple inv.hi_le h.lt h.le (Nat.le_add_right _ _) (Nat.le_refl _)
    ⟨c, h.first, h.ascii⟩ h.last fun hc => absurd hc h.noCmt

theorem step_good (inv : Inv b s hi) (hlt : s.bytepos < b.size) : Good b s (step b s) := by
  have hrel := step_rel s hlt
  generalize step b s = r at hrel
  cases hrel with
  | err k => exact inv.line_pos
  | ws e hgt hle => exact ⟨hgt, _, inv.move (Nat.le_of_lt hgt) hle (Nat.le_add_right _ _)⟩
  | blockComment cs m hcm hnext hm hlt' _ h47 =>
    obtain ⟨hcs3, hfirst⟩ := inv.comment_start hcm (.inl hnext)
    have hsq : s.bytepos < m + 2 := by omega
    exact ⟨hsq, _, inv.push_simple hcs3 (Nat.lt_of_le_of_lt hcm.le hsq) hlt'
      (Nat.le_refl _) (Nat.le_add_right _ _) hfirst ⟨47, h47, by decide, by decide⟩ fun _ => by
        rw [nlCount_add b cs s.bytepos (m + 2) hcm.le (Nat.le_of_lt hsq),
          nlCount_zero b cs s.bytepos fun r h1 h2 => ⟨32, hcm.blanks r h1 h2, by decide⟩, Nat.zero_add]
        exact Nat.le_refl _⟩
  | lineComment cs e hcm hnext hgt hle hall hstop =>
    obtain ⟨hcs3, c0, h0, h0a⟩ := inv.comment_start hcm (.inr hnext)
    have hge := Nat.lt_of_succ_lt hgt
    refine ⟨hge, _, inv.push hcs3 (Nat.lt_of_le_of_lt hcm.le hge) (Nat.le_refl _)
      hle (Nat.le_refl _) (Nat.le_refl _)
      (OKFrom.of_stop (Nat.le_refl _) (hstop.imp id fun h => ⟨10, h, by decide, by decide⟩))
      (fun _ => ⟨Bnd.of_ascii h0 h0a, hstop.elim Or.inl fun h => Bnd.of_ascii h (by decide)⟩) fun _ => ?_⟩
    -- no newline in the blanks, at the `/`, or behind it
    rw [nlCount_zero b cs e fun r hr1 hr2 => ?_]
    · exact Nat.le_refl _
    · rcases Nat.lt_or_ge r s.bytepos with h | h
      · exact ⟨32, hcm.blanks r hr1 h, by decide⟩
      · rcases Nat.eq_or_lt_of_le h with rfl | h
        · exact ⟨47, hcm.slash, by decide⟩
        · exact (hall r h hr2).imp fun x hx => ⟨hx.1, by simpa [notNewline] using hx.2⟩
  | tok tt e c n h => exact ⟨h.lt, _, inv.push_plain h n⟩
  | identA2ml e c h bp' line' h3 h4 h5 h6 =>
    have inv1 := inv.push_plain h 0
    exact ⟨Nat.lt_trans h.lt h3, _, inv1.push (Nat.le_refl _) h3 (Nat.le_refl _) h4
      (Nat.le_refl _) h5 (OKFrom.of_ahead (Nat.le_refl _) h6)
      (fun hu => ⟨(inv1.bnd hu _ (Array.mem_toList_iff.2 Array.mem_push_self)).2, h6.bnd⟩) nofun⟩

end

/-- numeric code of a token type, as in the line protocol (`Driver/Lex.lean`) and in `Tree.PTok.ty` -/
def tokCode : TokType → Nat
  | .identifier => 0 | .begin => 1 | .end_ => 2 | .include => 3 | .string => 4 | .number => 5 | .comment => 6

theorem tokCode_eq_six {tt : TokType} : tokCode tt = 6 ↔ tt = .comment := by cases tt <;> simp [tokCode]

/-- postcondition of `tokenize_core` -/
def Post (b : Bytes) : Res → Prop
  | .ok ts =>
    (∀ t ∈ ts, t.startpos < t.endpos ∧ t.endpos ≤ b.size) ∧
    ts.Pairwise (fun a c => a.line ≤ c.line) ∧
    ts.Pairwise (fun a c => a.endpos ≤ c.startpos) ∧
    (Utf8Ok b → ∀ t ∈ ts, Bnd b t.startpos ∧ Bnd b t.endpos) ∧
    (∀ t ∈ ts, 1 ≤ t.line) ∧
    ts.Pairwise (fun a c => a.ttype = .comment → a.line + nlCount b a.startpos a.endpos ≤ c.line)
  | .err _ l => 1 ≤ l
  | .panic => False
  | .hang => False

theorem initState_inv (b : Bytes) : Inv b initState 0 where
  pos_le := Nat.zero_le _
  line_pos := Nat.le_refl _
  hi_le := Nat.le_refl _
  toks := fun _ ht => absurd ht List.not_mem_nil
  cl := fun _ ht => absurd ht List.not_mem_nil
  clp := .nil
  lines := .nil
  disj := .nil
  safe := fun _ _ _ _ _ _ => Nat.zero_le _
  bnd := fun _ _ ht => absurd ht List.not_mem_nil

/-- The states the main loop goes through. Its recursor is the loop rule: a property of `initState` that every
    iteration preserves holds of all of them. -/
inductive Reach (b : Bytes) : State → Prop
  | init : Reach b initState
  | next {s s' : State} : Reach b s → step b s = .cont s' → Reach b s'

theorem lt_of_step_cont {s s' : State} (h : step b s = .cont s') : s.bytepos < b.size := by
  cases hc : b[s.bytepos]? with
  | none => simp only [step, hc] at h; cases h
  | some c => exact getElem?_some_lt hc

/-- an iteration that goes on, as a `Step`: the case analysis of an invariant has no case for an error -/
theorem Step.of_cont {s s' : State} (h : step b s = .cont s') : Step b s (.cont s') :=
  h ▸ step_rel s (lt_of_step_cont h)

/-- A state the loop goes through satisfies the invariant, and the loop gets there with enough fuel left for the rest of
    the input (every iteration consumes a byte). Together with `Reach.outcome` the only place where the fuel is counted. -/
theorem Reach.run {s : State} (h : Reach b s) :
    ∃ hi fuel, Inv b s hi ∧ b.size - s.bytepos < fuel ∧ tokenize b = loop b fuel s := by
  induction h with
  | init => exact ⟨0, b.size + 1, initState_inv b, Nat.lt_succ_self _, rfl⟩
  | @next s s' _ hs ih =>
    have hlt := lt_of_step_cont hs
    obtain ⟨hi, fuel, inv, hf, he⟩ := ih
    obtain ⟨fuel, rfl⟩ := Nat.exists_eq_succ_of_ne_zero (Nat.ne_of_gt (Nat.zero_lt_of_lt hf))
    have hg := step_good inv hlt
    rw [hs] at hg
    obtain ⟨hlt', hi', inv'⟩ := hg
    refine ⟨hi', fuel, inv', Nat.lt_of_lt_of_le (Nat.sub_lt_sub_left hlt hlt') (Nat.le_of_lt_succ hf), ?_⟩
    rw [he, loop, if_pos hlt, hs]

theorem Reach.inv {s : State} (h : Reach b s) : ∃ hi, Inv b s hi :=
  let ⟨hi, _, inv, _⟩ := h.run; ⟨hi, inv⟩

theorem Reach.tokenize_eq {e : State} (h : Reach b e) (he : ¬ e.bytepos < b.size) : tokenize b = .ok e.tokens.toList := by
  obtain ⟨_, fuel, _, hf, h⟩ := h.run
  obtain ⟨fuel, rfl⟩ := Nat.exists_eq_succ_of_ne_zero (Nat.ne_of_gt (Nat.zero_lt_of_lt hf))
  rw [h, loop, if_neg he]

/-- what the loop, run from a state it goes through, returns: the tokens of such a state at the end of the input, or an
    error on a line `≥ 1` -/
def Outcome (b : Bytes) : Res → Prop
  | .ok ts => ∃ e, Reach b e ∧ ¬ e.bytepos < b.size ∧ e.tokens.toList = ts
  | .err _ l => 1 ≤ l
  | .panic => False
  | .hang => False

theorem Reach.outcome : ∀ (fuel : Nat) {s : State}, Reach b s → b.size - s.bytepos < fuel → Outcome b (loop b fuel s)
  | 0, _, _, h => absurd h (Nat.not_lt_zero _)
  | fuel + 1, s, hr, hfuel => by
    unfold loop
    by_cases hlt : s.bytepos < b.size
    · rw [if_pos hlt]
      obtain ⟨hi, inv⟩ := hr.inv
      have hg := step_good inv hlt
      cases hs : step b s with
      | panic => rw [hs] at hg; exact hg
      | err k l => rw [hs] at hg; exact hg
      | cont s' =>
        rw [hs] at hg
        exact Reach.outcome fuel (hr.next hs) (Nat.lt_of_lt_of_le (Nat.sub_lt_sub_left hlt hg.1) (Nat.le_of_lt_succ hfuel))
    · rw [if_neg hlt]; exact ⟨s, hr, hlt, rfl⟩

theorem tokenize_outcome (b : Bytes) : Outcome b (tokenize b) :=
  Reach.outcome _ .init (Nat.lt_succ_self _)

theorem tokenize_post (b : Bytes) : Post b (tokenize b) := by
  have h := tokenize_outcome b
  generalize tokenize b = r at h
  cases r with
  | err | panic | hang => exact h
  | ok ts =>
    obtain ⟨e, hre, -, rfl⟩ := h
    obtain ⟨hi, inv⟩ := hre.inv
    refine ⟨fun t ht => ?_, inv.lines, inv.disj, inv.bnd, fun t ht => (inv.toks t ht).2.2.2, inv.clp⟩
    have h := inv.toks t ht
    exact ⟨h.1, Nat.le_trans h.2.1 (Nat.le_trans inv.hi_le inv.pos_le)⟩

/-- the form its users have it in: the outcome is known by an equation -/
theorem tokenize_post_of {r : Res} (h : tokenize b = r) : Post b r := h ▸ tokenize_post b

/-- what the splice needs of the token behind `/include`: a name token that starts with `"` spans at least two bytes -/
def NameCond (b : Bytes) (t : Token) : Prop :=
  (t.ttype = .string ∨ t.ttype = .identifier) → b[t.startpos]? = some 34 → t.startpos + 2 ≤ t.endpos

/-- how one iteration changes the token vector -/
inductive Pushed (b : Bytes) (s : State) : Array Token → Prop
  | same : Pushed b s s.tokens
  | one (t : Token) : NameCond b t → Pushed b s (s.tokens.push t)
  | two (t u : Token) : NameCond b t → t.ttype ≠ .include → Pushed b s ((s.tokens.push t).push u)

theorem Plain.nameCond {s : State} {tt : TokType} {e : Nat} {c : UInt8} (h : Plain b s tt e c) (n : Nat) :
    NameCond b ⟨tt, s.bytepos, e, n⟩ :=
  fun _ h2 => h.quote (Option.some.inj (h.first.symm.trans h2))

theorem step_pushed {s s' : State} (hs : step b s = .cont s') : Pushed b s s'.tokens := by
  cases Step.of_cont hs with
  | ws => exact .same
  | blockComment | lineComment => exact .one _ fun h => h.elim nofun nofun
  | tok tt e c n h => exact .one _ (h.nameCond _)
  | identA2ml e c h => exact .two _ _ (h.nameCond _) nofun

def QuoteOkL (b : Bytes) (l : List Token) : Prop :=
  ∀ i a c, l[i]? = some a → l[i + 1]? = some c → a.ttype = .include → NameCond b c

theorem QuoteOkL.push {l : List Token} {t : Token} (h : QuoteOkL b l)
    (ht : NameCond b t ∨ ∀ a, l.getLast? = some a → a.ttype ≠ .include) : QuoteOkL b (l ++ [t]) := by
  intro i a c ha hc hinc
  rcases Nat.lt_trichotomy (i + 1) l.length with hi | hi | hi
  · rw [List.getElem?_append_left (Nat.lt_of_succ_lt hi)] at ha
    rw [List.getElem?_append_left hi] at hc
    exact h i a c ha hc hinc
  · -- `c` is the new token, `a` the last one of `l`
    rw [List.getElem?_append_right (Nat.le_of_eq hi.symm), hi, Nat.sub_self] at hc
    cases hc
    rcases ht with ht | ht
    · exact ht
    · rw [List.getElem?_append_left (hi ▸ Nat.lt_succ_self i)] at ha
      exact absurd hinc (ht a (by rw [List.getLast?_eq_getElem?, ← hi]; exact ha))
  · rw [List.getElem?_eq_none (by rw [List.length_append, List.length_singleton]; exact hi)] at hc
    cases hc

theorem Pushed.quoteOk {s : State} {toks : Array Token} (h : Pushed b s toks)
    (hq : QuoteOkL b s.tokens.toList) : QuoteOkL b toks.toList := by
  cases h with
  | same => exact hq
  | one t ht => rw [Array.toList_push]; exact hq.push (.inl ht)
  | two t u ht hne =>
    rw [Array.toList_push, Array.toList_push]
    refine (hq.push (.inl ht)).push (.inr ?_)
    intro a ha; simp at ha; subst ha; exact hne

theorem Reach.quoteOk {s : State} (h : Reach b s) : QuoteOkL b s.tokens.toList := by
  induction h with
  | init => intro i a c ha; cases ha
  | @next s s' _ hs ih =>
    exact (step_pushed hs).quoteOk ih

/-- **the token behind `/include`**: if it is a String or Identifier token whose first byte is `"`, it spans at
    least two bytes (an A2ML block token, which may consist of a single `"`, always follows an Identifier) -/
theorem lex_quoteOk (b : Bytes) (ts : List Token) (h : tokenize b = .ok ts) : QuoteOkL b ts := by
  have ho := tokenize_outcome b
  rw [h] at ho
  obtain ⟨e, hre, -, rfl⟩ := ho
  exact hre.quoteOk

end A2l.Lex
