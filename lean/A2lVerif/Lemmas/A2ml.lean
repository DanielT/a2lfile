import A2lVerif.Model.A2ml
/-!
# the A2ML definition parser (Model/A2ml.lean): the recursion budgets are sufficient; one induction over the parser

`tokAux` consumes at least one character per iteration. The six mutually recursive parser functions are treated once
(`walk`): a function that is called with the budget `f` on `n` tokens runs out of budget only if `f < 4 * n + rank` (at most
four calls happen between two consumed tokens), and a successful result leaves fewer tokens and is a type that the relation
`Made` lists (what the functions can build at a depth, given what holds of the stored named types). The budget part gives
`parseToks_ne_fuel`; a property of every returned type is an induction over `Made` (Lemmas/A2mlDepth.lean: the nesting
limit; Lemmas/TypedParsed.lean: distinct tags).
-/
namespace A2l.Aml

theorem skipBlock_length (cs r : List Char) (h : skipBlock cs = some r) : r.length < cs.length := by
  fun_induction skipBlock cs with
  | case1 => cases h
  | case2 => cases h
  | case3 => cases h; exact Nat.lt_succ_of_lt (Nat.lt_succ_self _)
  | case4 _ _ _ _ ih => exact Nat.lt_succ_of_lt (ih h)

theorem skipLine_length (cs : List Char) : (skipLine cs).length ≤ cs.length := by
  fun_induction skipLine cs with
  | case1 => exact Nat.le_refl _
  | case2 => exact Nat.le_succ _
  | case3 _ _ _ ih => exact Nat.le_succ_of_le ih

theorem takeTag_length (cs t r : List Char) (h : takeTag cs = some (t, r)) : r.length < cs.length := by
  fun_induction takeTag cs generalizing t with
  | case1 => cases h
  | case2 => cases h; exact Nat.lt_succ_self _
  | case3 _ _ _ t' r' heq ih => cases h; exact Nat.lt_succ_of_lt (ih t' heq)
  | case4 => cases h

theorem spanWord_length (cs : List Char) : (spanWord cs).2.length ≤ cs.length := by
  fun_induction spanWord cs with
  | case1 => exact Nat.le_refl _
  | case2 _ _ _ w r heq ih => rw [heq] at ih; exact Nat.le_succ_of_le ih
  | case3 => exact Nat.le_refl _

/-- Every iteration goes on with a text that is at most as long as `rest`, so shorter than `c :: rest`.
    (An `if` is decided by `by_cases` and `rw [if_pos _]`, a `match` by `cases` on the scrutinee: on a term of this size
    `split` is slow to check.) -/
theorem tokAux_ne_fuel : ∀ (fuel : Nat) (cs : List Char) (acc : List ATok),
    cs.length < fuel → tokAux fuel cs acc ≠ .fuel
  | 0, _, _, h => by omega
  | fuel + 1, [], acc, _ => by rw [tokAux]; nofun
  | fuel + 1, c :: rest, acc, h => by
    have ih : ∀ r acc', r.length ≤ rest.length → tokAux fuel r acc' ≠ .fuel := fun r acc' hr =>
      tokAux_ne_fuel fuel r acc' (Nat.lt_of_le_of_lt hr (Nat.lt_of_succ_lt_succ h))
    have hw := spanWord_length rest
    rw [tokAux]
    by_cases h1 : isWs c = true
    · rw [if_pos h1]; exact ih _ _ (Nat.le_refl _)
    rw [if_neg h1]
    by_cases h2 : c = '/' ∧ rest.head? = some '*'
    · rw [if_pos h2]
      cases hb : skipBlock (rest.drop 1) with
      | none => nofun
      | some r =>
        have := skipBlock_length _ _ hb
        rw [List.length_drop] at this
        exact ih r acc (by omega)
    rw [if_neg h2]
    by_cases h3 : c = '/' ∧ rest.head? = some '/'
    · rw [if_pos h3]; exact ih _ _ (skipLine_length rest)
    rw [if_neg h3]
    by_cases h4 : startsWith "/include".toList (c :: rest) = true
    · rw [if_pos h4]; nofun
    rw [if_neg h4]
    by_cases h5 : c = '"'
    · rw [if_pos h5]
      cases ht : takeTag rest with
      | none => nofun
      | some tr => exact ih tr.2 _ (Nat.le_of_lt (takeTag_length _ _ _ ht))
    rw [if_neg h5]
    cases single c with
    | some t => exact ih _ _ (Nat.le_refl _)
    | none =>
      generalize spanWord rest = wr at hw
      obtain ⟨w, r⟩ := wr
      dsimp only
      by_cases h6 : c.isDigit = true
      · rw [if_pos h6]
        cases number (c :: w) with
        | none => nofun
        | some n => exact ih r _ hw
      rw [if_neg h6]
      by_cases h7 : (c.isAlpha || c = '_') = true
      · rw [if_pos h7]; exact ih r _ hw
      rw [if_neg h7]
      nofun

theorem tokenize_ne_fuel (cs : List Char) : tokenize cs ≠ .fuel :=
  tokAux_ne_fuel _ cs [] (Nat.lt_succ_self _)

/-- What a caller needs of the result `r` of a parser function that ran with the budget `f` on `n` tokens: it ran
    out of budget only if `f < 4 * n + k` (`k` ranks the function: a call made before a token is consumed goes to a
    function of lower rank, so at most four calls happen between two consumed tokens); a successful result leaves `s` tokens fewer than `n` at least, and its value satisfies `Q`. -/
def Good {α} (f k s n : Nat) (Q : α → Prop) (r : R α) : Prop :=
  (r = .fuel → f < 4 * n + k) ∧ ∀ a rest, r = .ok a rest → rest.length + s ≤ n ∧ Q a

theorem Good.err {α : Type} {f k s n : Nat} {Q : α → Prop} : Good f k s n Q .err := ⟨nofun, nofun⟩
theorem Good.fuel {α : Type} {f k s n : Nat} {Q : α → Prop} (h : f < 4 * n + k) : Good f k s n Q .fuel :=
  ⟨fun _ => h, nofun⟩
theorem Good.ok {α : Type} {f k s n : Nat} {Q : α → Prop} {rest : List ATok} {a : α} (hl : rest.length + s ≤ n)
    (hq : Q a) : Good f k s n Q (.ok a rest) :=
  ⟨nofun, fun _ _ h => by cases h; exact ⟨hl, hq⟩⟩
theorem Good.mono {α : Type} {f k s n : Nat} {Q : α → Prop} {f' k' s' n' : Nat} {r : R α} (h : Good f' k' s' n' Q r)
    (hf : f' < 4 * n' + k' → f < 4 * n + k := by omega) (hl : ∀ m, m + s' ≤ n' → m + s ≤ n := by intros; omega) :
    Good f k s n Q r :=
  ⟨fun hr => hf (h.1 hr), fun a rest hr => ⟨hl _ (h.2 a rest hr).1, (h.2 a rest hr).2⟩⟩

theorem Good.post {α : Type} {f k s n : Nat} {Q : α → Prop} {r : R α} {a : α} {rest : List ATok} (h : Good f k s n Q r)
    (hr : r = .ok a rest) : Q a :=
  (h.2 a rest hr).2

/-- `Made S d sp`: a parser function that is called inside `d` enclosing levels can return the type `sp`, when the named types
    stored so far satisfy `S` (a reference returns a stored type as it is). One constructor for each way in which the functions
    build a type; `d + 1 ≤ 100` and `d + specDepth _ ≤ 100` are the nesting checks that have passed at that point. The members of
    a tagged type have pairwise different tags (`insertTagged` replaces), and a tag without member has the type `none`. -/
inductive Made (S : Spec → Prop) : Nat → Spec → Prop
  | int {d : Nat} (w : Nat) : d + 1 ≤ 100 → Made S d (.int w)
  | float {d : Nat} : d + 1 ≤ 100 → Made S d .float
  | double {d : Nat} : d + 1 ≤ 100 → Made S d .double
  | enum {d : Nat} (items : List (List Char × Option Int)) : d + 1 ≤ 100 → Made S d (.enum items)
  | array {d : Nat} {base : Spec} (dim : Nat) : Made S d base → d + (specDepth base + 1) ≤ 100 → Made S d (.array base dim)
  | seq {d : Nat} {m : Spec} : Made S (d + 1) m → Made S d (.seq m)
  | struct {d : Nat} {items : List Spec} : d + 1 ≤ 100 → (∀ m ∈ items, Made S (d + 1) m) → Made S d (.struct items)
  | taggedStruct {d : Nat} {items : List (Tagged Spec)} : d + 1 ≤ 100 → (items.map (·.tag)).Nodup →
      (∀ t ∈ items, t.item ≠ .none → Made S (d + 1) t.item) → Made S d (.taggedStruct items)
  | taggedUnion {d : Nat} {items : List (Tagged Spec)} : d + 1 ≤ 100 → (items.map (·.tag)).Nodup →
      (∀ t ∈ items, t.item ≠ .none → Made S (d + 1) t.item) → Made S d (.taggedUnion items)
  | ref {d : Nat} {sp : Spec} : S sp → d + specDepth sp ≤ 100 → Made S d sp

/-- the members that the loop of a tagged type has collected -/
def Members (S : Spec → Prop) (d : Nat) (l : List (Tagged Spec)) : Prop :=
  (l.map (·.tag)).Nodup ∧ ∀ t ∈ l, t.item ≠ .none → Made S d t.item

theorem Members.insert {S : Spec → Prop} {d : Nat} {t : Tagged Spec} {acc : List (Tagged Spec)}
    (ht : t.item ≠ .none → Made S d t.item) (h : Members S d acc) : Members S d (insertTagged t acc) := by
  refine ⟨List.nodup_cons.2 ⟨?_, (List.filter_sublist.map _).nodup h.1⟩, ?_⟩
  · intro hm
    obtain ⟨x, hx, he⟩ := List.mem_map.1 hm
    exact of_decide_eq_true (List.mem_filter.1 hx).2 he
  · intro x hx
    rcases List.mem_cons.1 hx with rfl | hx
    · exact ht
    · exact h.2 x (List.mem_filter.1 hx).1

def Stored (S : Spec → Prop) (types : TypeSet) : Prop :=
  (∀ kv ∈ types.enums, S kv.2) ∧ (∀ kv ∈ types.structs, S kv.2) ∧ (∀ kv ∈ types.taggedstructs, S kv.2) ∧
    ∀ kv ∈ types.taggedunions, S kv.2

theorem Stored.trivial (types : TypeSet) : Stored (fun _ => True) types :=
  ⟨fun _ _ => True.intro, fun _ _ => True.intro, fun _ _ => True.intro, fun _ _ => True.intro⟩

theorem lookupKV_forall {β : Type} {P : β → Prop} {m : List (List Char × β)} (hm : ∀ kv ∈ m, P kv.2) {k : List Char} {v : β}
    (h : lookupKV m k = some v) : P v := by
  obtain ⟨kv, hf, rfl⟩ := Option.map_eq_some_iff.1 h
  exact hm kv (List.mem_of_find?_eq_some hf)

theorem forall_mem_insertKV {β : Type} {P : β → Prop} {m : List (List Char × β)} (hm : ∀ kv ∈ m, P kv.2) (k : List Char) {v : β}
    (hv : P v) : ∀ kv ∈ insertKV k v m, P kv.2 := by
  intro kv hkv
  rcases List.mem_cons.1 hkv with rfl | h
  · exact hv
  · exact hm kv (List.mem_filter.1 h).1

theorem checkNesting_iff (d i : Nat) : checkNesting d i = true ↔ d + i ≤ 100 := by
  unfold checkNesting maxNestingDepth
  exact decide_eq_true_iff

theorem arrayDims_good (S : Spec → Prop) {f k : Nat} (d levels : Nat) (base : Spec) (toks : List ATok) (hl : levels = specDepth base)
    (hb : Made S d base) : Good f k 0 toks.length (Made S d) (arrayDims d levels base toks) := by
  fun_induction arrayDims d levels base toks with
  | case1 levels base hc c rest ih =>
    simp only [List.length_cons]
    exact (ih (by rw [hl]; rfl) (.array _ hb (by rw [← hl]; exact (checkNesting_iff _ _).1 hc))).mono
  | case2 => exact .err
  | case3 => exact .err
  | case4 => exact .err
  | case5 => exact .ok (Nat.le_refl _) hb

theorem enumLoop_good {f k : Nat} (acc : List (List Char × Option Int)) (toks : List ATok) :
    Good f k 1 toks.length (fun _ => True) (enumLoop acc toks) := by
  fun_induction enumLoop acc toks with
  | case1 _ _ _ _ ih => simp only [List.length_cons]; exact ih.mono
  | case2 => exact .ok (by simp only [List.length_cons]; omega) trivial
  | case3 => exact .err
  | case4 => exact .err
  | case5 _ _ _ ih => simp only [List.length_cons]; exact ih.mono
  | case6 => exact .ok (by simp only [List.length_cons]; omega) trivial
  | case7 => exact .err
  | case8 => exact .err

theorem optionalName_le (toks : List ATok) : (optionalName toks).2.length ≤ toks.length := by
  unfold optionalName
  split
  · simp
  · simp

theorem typeEnum_good (S : Spec → Prop) {f k d : Nat} (types : TypeSet) (toks : List ATok) (hd : d + 1 ≤ 100) :
    Good f k 0 toks.length (fun r => Made S d r.2) (typeEnum types toks) := by
  unfold typeEnum
  have hn := optionalName_le toks
  generalize optionalName toks = nt at hn ⊢
  obtain ⟨name, toks'⟩ := nt
  dsimp only at hn ⊢
  split
  · rename_i rest
    rw [List.length_cons] at hn
    have h1 := enumLoop_good (f := f) (k := k) [] rest
    cases heq : enumLoop [] rest with
    | err => exact .err
    | fuel => exact .fuel (by have := h1.1 heq; omega)
    | ok items rest' => exact .ok (by have := (h1.2 _ _ heq).1; omega) (.enum _ hd)
  · split
    · split
      · exact .ok hn (.enum _ hd)
      · exact .err
    · exact .err

def GType (S : Spec → Prop) (f : Nat) : Prop := ∀ types d tok toks, Stored S types →
  Good f 4 0 toks.length (fun r => Made S d r.2) (type_ f types d tok toks)
def GSLoop (S : Spec → Prop) (f : Nat) : Prop := ∀ types d acc toks, Stored S types → (∀ m ∈ acc, Made S d m) →
  Good f 3 1 toks.length (fun l => ∀ m ∈ l, Made S d m) (structLoop f types d acc toks)
def GTLoop (S : Spec → Prop) (f : Nat) : Prop := ∀ types d ar acc toks, Stored S types → Members S d acc →
  Good f 4 1 toks.length (Members S d) (taggedLoop f types d ar acc toks)
def GTMem (S : Spec → Prop) (f : Nat) : Prop := ∀ types d ar toks, Stored S types →
  Good f 3 1 toks.length (fun t => t.item ≠ .none → Made S d t.item) (taggedMember f types d ar toks)
def GTDef (S : Spec → Prop) (f : Nat) : Prop := ∀ types d toks, Stored S types →
  Good f 2 1 toks.length (Made S d) (taggedDef f types d toks)
def GMem (S : Spec → Prop) (f : Nat) : Prop := ∀ types d toks, Stored S types →
  Good f 1 1 toks.length (Made S d) (member f types d toks)

theorem member_step (S : Spec → Prop) (f : Nat) (ih : GType S f) : GMem S (f + 1) := by
  intro types d toks hT
  rw [member.eq_def]
  cases toks with
  | nil => exact .err
  | cons tok rest =>
    have h1 := ih types d tok rest hT
    rw [List.length_cons]
    dsimp only
    cases heq : type_ f types d tok rest with
    | err => exact .err
    | fuel => exact .fuel (by have := h1.1 heq; omega)
    | ok nb rest1 =>
      obtain ⟨l1, q1⟩ := h1.2 _ _ heq
      exact (arrayDims_good S (f := f + 1) (k := 1) d _ nb.2 rest1 rfl q1).mono

theorem taggedDef_step (S : Spec → Prop) (f : Nat) (ih : GMem S f) : GTDef S (f + 1) := by
  intro types d toks hT
  rw [taggedDef.eq_def]
  dsimp only
  split
  · rename_i rest
    have h1 := ih types (d + 1) rest hT
    rw [List.length_cons]
    cases heq : member f types (d + 1) rest with
    | err => exact .err
    | fuel => exact .fuel (by have := h1.1 heq; omega)
    | ok m rest1 =>
      obtain ⟨l1, q1⟩ := h1.2 _ _ heq
      dsimp only
      split
      · split
        · exact .ok (by simp only [List.length_cons] at l1 ⊢; omega) (.seq q1)
        · exact .err
      · exact .err
  · exact (ih types d toks hT).mono

theorem skipIf_le (b : Bool) (tok : ATok) (rest : List ATok) (r : Bool) (tok' : ATok) (rest' : List ATok)
    (h : skipIf b tok rest = some (r, tok', rest')) : rest'.length ≤ rest.length := by
  unfold skipIf at h
  split at h
  · split at h
    · cases h
    · cases h; simp
  · cases h; exact Nat.le_refl _

theorem tagClose_good {f k : Nat} (rep : Bool) (t : Tagged Spec) (rest : List ATok) (Q : Tagged Spec → Prop) (h : Q t) :
    Good f k 0 rest.length Q (tagClose rep t rest) := by
  unfold tagClose
  split
  · split
    · split
      · exact .ok (by simp only [List.length_cons]; omega) h
      · exact .err
    · exact .err
  · exact .ok (Nat.le_refl _) h

theorem taggedMember_step (S : Spec → Prop) (f : Nat) (ih : GTDef S f) : GTMem S (f + 1) := by
  intro types d ar toks hT
  rw [taggedMember.eq_def]
  cases toks with
  | nil => exact .err
  | cons tok rest =>
    rw [List.length_cons]
    dsimp only
    split
    · exact .err
    · rename_i rep tok1 rest1 hs1
      have l1 := skipIf_le _ _ _ _ _ _ hs1
      split
      · exact .err
      · rename_i isB tok2 rest2 hs2
        have l2 := skipIf_le _ _ _ _ _ _ hs2
        split
        · rename_i tg
          have hinner : Good (f + 1) 3 0 rest2.length (fun sp => sp ≠ .none → Made S d sp)
              (tagInner (taggedDef f types d) rest2) := by
            unfold tagInner
            split
            · exact .ok (Nat.le_refl _) (absurd rfl)
            · exact .ok (Nat.le_refl _) (absurd rfl)
            · have h := ih types d rest2 hT
              exact ⟨fun hr => by have := h.1 hr; omega, fun a r hr => ⟨by have := (h.2 a r hr).1; omega,
                fun _ => h.post hr⟩⟩
          cases heq : tagInner (taggedDef f types d) rest2 with
          | err => exact .err
          | fuel => exact .fuel (by have := hinner.1 heq; omega)
          | ok item rest3 =>
            obtain ⟨l3, q3⟩ := hinner.2 _ _ heq
            exact (tagClose_good (f := f + 1) (k := 3) rep ⟨tg, item, isB, rep⟩ rest3 (fun t => t.item ≠ .none → Made S d t.item) q3).mono
        · exact .err

theorem taggedLoop_step (S : Spec → Prop) (f : Nat) (ih1 : GTMem S f) (ih2 : GTLoop S f) : GTLoop S (f + 1) := by
  intro types d ar acc toks hT hacc
  rw [taggedLoop.eq_def]
  dsimp only
  have h1 := ih1 types d ar toks hT
  cases heq : taggedMember f types d ar toks with
  | err => exact .err
  | fuel => exact .fuel (by have := h1.1 heq; omega)
  | ok m rest =>
    obtain ⟨l1, q1⟩ := h1.2 _ _ heq
    have hacc' := Members.insert q1 hacc
    dsimp only
    split
    · rename_i rest1
      rw [List.length_cons] at l1
      split
      · exact .ok (by rw [List.length_cons] at l1; omega) hacc'
      · exact (ih2 types d ar (insertTagged m acc) rest1 hT hacc').mono
    · exact .err

theorem structLoop_step (S : Spec → Prop) (f : Nat) (ih1 : GMem S f) (ih2 : GSLoop S f) : GSLoop S (f + 1) := by
  intro types d acc toks hT hacc
  rw [structLoop.eq_def]
  dsimp only
  have h1 := ih1 types d toks hT
  cases heq : member f types d toks with
  | err => exact .err
  | fuel => exact .fuel (by have := h1.1 heq; omega)
  | ok m rest =>
    obtain ⟨l1, q1⟩ := h1.2 _ _ heq
    have hacc' := List.forall_mem_cons.2 ⟨q1, hacc⟩
    dsimp only
    split
    · rename_i rest1
      rw [List.length_cons] at l1
      split
      · exact .ok (by rw [List.length_cons] at l1; omega) fun m hm => hacc' m (List.mem_reverse.1 hm)
      · exact (ih2 types d (m :: acc) rest1 hT hacc').mono
    · exact .err

theorem type_step (S : Spec → Prop) (f : Nat) (ih1 : GSLoop S f) (ih2 : GTLoop S f) : GType S (f + 1) := by
  intro types d tok toks hT
  rw [type_.eq_def]
  dsimp only
  by_cases hc : checkNesting d 1 = true
  · have hd : d + 1 ≤ 100 := (checkNesting_iff _ _).1 hc
    rw [if_pos hc]
    have hn := optionalName_le toks
    generalize optionalName toks = nt at hn ⊢
    obtain ⟨name, toks'⟩ := nt
    cases tok with
    | kchar | kint | klong | kint64 | kuchar | kuint | kulong | kuint64 => exact .ok (Nat.le_refl _) (.int _ hd)
    | kfloat => exact .ok (Nat.le_refl _) (.float hd)
    | kdouble => exact .ok (Nat.le_refl _) (.double hd)
    | kenum => exact typeEnum_good S types toks hd
    | kstruct =>
      dsimp only at hn ⊢
      split
      · rename_i rest
        rw [List.length_cons] at hn
        have h1 := ih1 types (d + 1) [] rest hT nofun
        split
        · rename_i items rest' heq
          obtain ⟨l1, q1⟩ := h1.2 _ _ heq
          exact .ok (by omega) (.struct hd q1)
        · exact .err
        · rename_i heq
          exact .fuel (by have := h1.1 heq; omega)
      · split
        · split
          · split
            · rename_i hc2
              exact .ok hn (.ref (lookupKV_forall hT.2.1 (by assumption)) ((checkNesting_iff _ _).1 hc2))
            · exact .err
          · exact .err
        · exact .err
    | ktaggedstruct =>
      dsimp only at hn ⊢
      split
      · rename_i rest
        rw [List.length_cons] at hn
        have h1 := ih2 types (d + 1) true [] rest hT ⟨List.nodup_nil, nofun⟩
        split
        · rename_i items rest' heq
          obtain ⟨l1, q1⟩ := h1.2 _ _ heq
          exact .ok (by omega) (.taggedStruct hd q1.1 q1.2)
        · exact .err
        · rename_i heq
          exact .fuel (by have := h1.1 heq; omega)
      · split
        · split
          · split
            · rename_i hc2
              exact .ok hn (.ref (lookupKV_forall hT.2.2.1 (by assumption)) ((checkNesting_iff _ _).1 hc2))
            · exact .err
          · exact .err
        · exact .err
    | ktaggedunion =>
      dsimp only at hn ⊢
      split
      · rename_i rest
        rw [List.length_cons] at hn
        have h1 := ih2 types (d + 1) false [] rest hT ⟨List.nodup_nil, nofun⟩
        split
        · rename_i items rest' heq
          obtain ⟨l1, q1⟩ := h1.2 _ _ heq
          exact .ok (by omega) (.taggedUnion hd q1.1 q1.2)
        · exact .err
        · rename_i heq
          exact .fuel (by have := h1.1 heq; omega)
      · split
        · split
          · split
            · rename_i hc2
              exact .ok hn (.ref (lookupKV_forall hT.2.2.2 (by assumption)) ((checkNesting_iff _ _).1 hc2))
            · exact .err
          · exact .err
        · exact .err
    | _ => exact .err
  · rw [if_neg hc]; exact .err

theorem walk (S : Spec → Prop) : ∀ f, GType S f ∧ GSLoop S f ∧ GTLoop S f ∧ GTMem S f ∧ GTDef S f ∧ GMem S f
  | 0 => ⟨fun _ _ _ _ _ => .fuel (Nat.succ_le_succ (Nat.zero_le _)), fun _ _ _ _ _ _ => .fuel (Nat.succ_le_succ (Nat.zero_le _)),
          fun _ _ _ _ _ _ _ => .fuel (Nat.succ_le_succ (Nat.zero_le _)), fun _ _ _ _ _ => .fuel (Nat.succ_le_succ (Nat.zero_le _)),
          fun _ _ _ _ => .fuel (Nat.succ_le_succ (Nat.zero_le _)), fun _ _ _ _ => .fuel (Nat.succ_le_succ (Nat.zero_le _))⟩
  | f + 1 =>
    have ⟨h1, h2, h3, h4, h5, h6⟩ := walk S f
    ⟨type_step S f h2 h3, structLoop_step S f h6 h2, taggedLoop_step S f h4 h3, taggedMember_step S f h5,
     taggedDef_step S f h6, member_step S f h1⟩

/-- the invariant of the top-level loop of `parse_a2ml` -/
def State (S : Spec → Prop) (types : TypeSet) (ifdata : Option Spec) : Prop :=
  Stored S types ∧ ∀ s, ifdata = some s → Made S 0 s

/-- `hS`: a declaration stores a type that `parse_aml_type` has returned at depth 0 -/
theorem declStep_good (S : Spec → Prop) (hS : ∀ sp, Made S 0 sp → S sp) (fuel : Nat) (types : TypeSet) (ifdata : Option Spec)
    (tok : ATok) (rest : List ATok) (h : State S types ifdata) :
    Good fuel 4 0 rest.length (fun r => State S r.1 r.2) (declStep fuel types ifdata tok rest) := by
  have hty := (walk S fuel).1 types 0 tok rest h.1
  -- a named type is stored in one of the four tables
  have hstore : ∀ store : List Char → Spec → TypeSet, (∀ name typ, S typ → Stored S (store name typ)) →
      Good fuel 4 0 rest.length (fun r => State S r.1 r.2)
        (match type_ fuel types 0 tok rest with
         | .ok (some name, typ) rest1 => .ok (store name typ, ifdata) rest1
         | .ok (none, _) rest1 => .ok (types, ifdata) rest1
         | .err => .err
         | .fuel => .fuel) := by
    intro store hst
    split
    · rename_i name typ rest1 heq
      exact .ok (hty.2 _ _ heq).1 ⟨hst name typ (hS _ (hty.post heq)), h.2⟩
    · rename_i heq; exact .ok (hty.2 _ _ heq).1 h
    · exact .err
    · rename_i heq; exact .fuel (hty.1 heq)
  unfold declStep
  split
  · split
    · rename_i tg rest1
      have h1 := (walk S fuel).2.2.2.2.1 types 0 rest1 h.1
      rw [List.length_cons]
      split
      · rename_i blk rest2 heq
        obtain ⟨l1, q1⟩ := h1.2 _ _ heq
        refine .ok (by omega) ⟨h.1, ?_⟩
        dsimp only
        split
        · intro s hs; cases hs; exact q1
        · exact h.2
      · exact .err
      · rename_i heq; exact .fuel (by have := h1.1 heq; omega)
    · exact .err
  · exact hstore _ fun name _ hs => ⟨h.1.1, h.1.2.1, forall_mem_insertKV h.1.2.2.1 name hs, h.1.2.2.2⟩
  · exact hstore _ fun name _ hs => ⟨h.1.1, h.1.2.1, h.1.2.2.1, forall_mem_insertKV h.1.2.2.2 name hs⟩
  · exact hstore _ fun name _ hs => ⟨forall_mem_insertKV h.1.1 name hs, h.1.2⟩
  · exact hstore _ fun name _ hs => ⟨h.1.1, forall_mem_insertKV h.1.2.1 name hs, h.1.2.2⟩
  -- the ten scalar keywords: the type is parsed and nothing is stored
  iterate 10
    · split
      · rename_i heq; exact .ok (hty.2 _ _ heq).1 h
      · exact .err
      · rename_i heq; exact .fuel (hty.1 heq)
  · exact .err

theorem State.start (S : Spec → Prop) : State S {} none := ⟨⟨nofun, nofun, nofun, nofun⟩, nofun⟩

/-- for the budget nothing is asked of the stored types -/
theorem declLoop_ne_fuel (fuel n : Nat) (types : TypeSet) (ifdata : Option Spec) (toks : List ATok)
    (hs : State (fun _ => True) types ifdata) (hn : toks.length < n) (hf : 4 * toks.length + 4 ≤ fuel) :
    declLoop fuel n types ifdata toks ≠ .fuel := by
  fun_induction declLoop fuel n types ifdata toks with
  | case1 => omega
  | case2 => nofun
  | case3 => nofun
  | case4 n types ifdata tok rest types' ifdata' rest1 heq ih =>
    rw [List.length_cons] at hn hf
    have := (declStep_good _ (fun _ _ => trivial) fuel types ifdata tok rest hs).2 _ _ heq
    rw [List.length_cons] at this
    exact ih this.2 (by omega) (by omega)
  | case5 => nofun
  | case6 => nofun
  | case7 n types ifdata tok rest heq =>
    rw [List.length_cons] at hf
    have := (declStep_good _ (fun _ _ => trivial) fuel types ifdata tok rest hs).1 heq
    omega

theorem parseToks_ne_fuel (toks : List ATok) : parseToks toks ≠ .fuel :=
  declLoop_ne_fuel _ _ _ _ _ (.start _) (Nat.lt_succ_self _) (by unfold parseFuel; omega)

theorem parseA2ml_ne_fuel (cs : List Char) : parseA2ml cs ≠ .fuel := by
  unfold parseA2ml
  split
  · exact parseToks_ne_fuel _
  · intro h; cases h
  · rename_i heq; exact absurd heq (tokenize_ne_fuel cs)

end A2l.Aml
