import A2lVerif.Lemmas.TreeTotal
import A2lVerif.Gen.Shipped
/-! # The shape of a grammar table that C02 / C01 assume (`shapeOk`)

Every reference of a table with `shapeOk` resolves to a type of the expected kind, so `tableOk` (the hypothesis of the
panic-freedom theorems of C03) follows from it and the two types the hand-written code names. The shipped table has the
shape, by evaluation; types are looked up in the table split by `name % 8`, not by a linear search each time. -/
namespace A2l.Tree
open A2l.G

def scalarTyB (tbl : Table) : ItemTy → Bool
  | .enumRef ty => match tbl.lookup ty with | some (.enum _) => true | _ => false
  | .structRef _ => false
  | .arr _ _ => false
  | .seq _ _ => false
  | _ => true

/-- a struct: a keyword type without tagged part whose parameters are scalars (at least one) -/
def simpleStructB (tbl : Table) (ty : Nat) : Bool :=
  match tbl.lookup ty with
  | some (.block false sits [] false) => !sits.isEmpty && sits.all (scalarTyB tbl)
  | _ => false

/-- types of array / sequence elements -/
def elemTyB (tbl : Table) : ItemTy → Bool
  | .structRef ty => simpleStructB tbl ty
  | it => scalarTyB tbl it

/-- types of parameters: elements, arrays and sequences of elements; a sequence with stop tags is a sequence of
    identifiers -/
def itemTyB (tbl : Table) : ItemTy → Bool
  | .arr of _ => elemTyB tbl of
  | .seq of stop => elemTyB tbl of && (stop.isEmpty || of == .ident)
  | it => elemTyB tbl it

/-- an arm of a tagged part: its type is a block / keyword type whose block flag is the arm's, a keyword has no tagged
    part of its own; or a `special` type; its tag is a symbol -/
def armB (tbl : Table) (a : Arm) : Bool :=
  (a.tag != noSym) &&
  (match tbl.lookup a.ty with
   | some (.block isB _ _ ht) => isB == a.block && (isB || !ht)
   | some .special => true
   | _ => false)

/-- **what is assumed of the grammar table** (decidable; true of the shipped table: `shipped_shapeOk`): parameters are
    scalars, structs of scalars, arrays / sequences of these; arms as in `armB`; a type without tagged part has no arms.
    With the two types the hand-written code names it implies `tableOk` (`tableOk_of_shapeOk`). -/
def shapeOk (tbl : Table) : Bool :=
  tbl.all (fun en => match en.def_ with
    | .block _ items arms ht => items.all (itemTyB tbl) && arms.all (armB tbl) && (ht || arms.isEmpty)
    | _ => true)

theorem shapeOk_block {tbl : Table} {ty : Nat} {isB : Bool} {items : List ItemTy} {arms : List Arm} {ht : Bool}
    (h : shapeOk tbl = true) (hl : tbl.lookup ty = some (.block isB items arms ht)) :
    items.all (itemTyB tbl) = true ∧ arms.all (armB tbl) = true ∧ (ht = false → arms = []) := by
  obtain ⟨en, hmem, hd⟩ := lookup_mem hl
  have := List.all_eq_true.1 h en hmem
  rw [hd] at this
  simp only [Bool.and_eq_true, Bool.or_eq_true, List.isEmpty_iff] at this
  refine ⟨this.1.1, this.1.2, fun hf => ?_⟩
  rcases this.2 with h' | h'
  · rw [hf] at h'; cases h'
  · exact h'

theorem simpleStruct_of_B {tbl : Table} {ty : Nat} (h : simpleStructB tbl ty = true) :
    ∃ sits, tbl.lookup ty = some (.block false sits [] false) ∧ sits ≠ [] ∧ ∀ it ∈ sits, scalarTyB tbl it = true := by
  unfold simpleStructB at h
  split at h
  · rename_i sits hl
    simp only [Bool.and_eq_true, Bool.not_eq_true', List.isEmpty_eq_false_iff, List.all_eq_true] at h
    exact ⟨sits, hl, h.1, h.2⟩
  · cases h

theorem elemTyB_cases {tbl : Table} {it : ItemTy} (h : elemTyB tbl it = true) :
    (∃ ty sits, it = .structRef ty ∧ tbl.lookup ty = some (.block false sits [] false) ∧ sits ≠ [] ∧
      ∀ it ∈ sits, scalarTyB tbl it = true) ∨ scalarTyB tbl it = true := by
  cases it with
  | structRef ty => exact .inl ⟨ty, (simpleStruct_of_B h).elim fun sits hs => ⟨sits, rfl, hs⟩⟩
  | _ => exact .inr h

theorem itemOk_of_itemTyB {tbl : Table} {it : ItemTy} (h : itemTyB tbl it = true) : itemOk tbl it = true := by
  have el : ∀ it, elemTyB tbl it = true → itemOk tbl it = true := fun it h => by
    cases it with
    | structRef ty => obtain ⟨sits, hl, -⟩ := simpleStruct_of_B h; simp only [itemOk, hl]
    | _ => first | rfl | exact h | cases h
  cases it with
  | arr of n => exact el of h
  | seq of stop => exact el of (Bool.and_eq_true_iff.1 h).1
  | _ => exact el _ h

/-- `armB` and `itemTyB` are stronger than what `tableOk` asks of arms and parameters; what is left of `tableOk` are its
    two clauses about the root type and the version keyword -/
theorem tableOk_of_shapeOk {tbl : Table} {k : Known} (h : shapeOk tbl = true)
    (h1 : (match tbl.lookup k.tyA2lFile with | some (.block _ _ _ _) => true | _ => false) = true)
    (h2 : (match tbl.lookup k.tyAsap2Version with
      | some (.block false [.int _, .int _] [] false) => true | _ => false) = true) : tableOk tbl k = true := by
  unfold tableOk
  rw [Bool.and_eq_true, Bool.and_eq_true]
  refine ⟨⟨List.all_eq_true.2 fun en hen => ?_, h1⟩, h2⟩
  have := List.all_eq_true.1 h en hen
  split
  · rename_i isB items arms ht heq
    rw [heq] at this
    simp only [Bool.and_eq_true, List.all_eq_true] at this ⊢
    refine ⟨fun it hit => itemOk_of_itemTyB (this.1.1 it hit), fun a ha => ?_⟩
    have ha := this.1.2 a ha
    unfold armB at ha
    cases hl : tbl.lookup a.ty with
    | none => rw [hl] at ha; simp at ha
    | some d => cases d <;> first | rfl | (rw [hl] at ha; simp at ha)
  · rfl
  · rfl

def bucketed {α} (key : α → Nat) (m : Nat) (l : List α) : List (List α) :=
  (List.range m).map fun r => l.filter fun a => key a % m == r

theorem find?_bucketed {α} (key : α → Nat) {m : Nat} (hm : 0 < m) (l : List α) (k : Nat) :
    ((bucketed key m l)[k % m]?.getD []).find? (fun a => key a == k) = l.find? (fun a => key a == k) := by
  unfold bucketed
  rw [List.getElem?_map, List.getElem?_range (Nat.mod_lt k hm), Option.map_some, Option.getD_some, List.find?_filter]
  congr 1
  funext a
  by_cases h : key a = k <;> simp [h]

theorem lookup_bucketed (tbl : Table) {m : Nat} (hm : 0 < m) (n : Nat) :
    tbl.lookup n = (((bucketed (·.name) m tbl)[n % m]?.getD []).find? (fun e => e.name == n)).map (·.def_) := by
  rw [find?_bucketed _ hm]; rfl

/-- Nearly all of a plain evaluation would be linear searches of the table, 329 for the arms' types alone (the kernel
    pays for every step of `List.find?`); the split table is evaluated once and a search in it takes a few steps. -/
theorem shipped_shapeOk : shapeOk Shipped.table = true := by
  delta shapeOk armB itemTyB elemTyB simpleStructB scalarTyB
  simp only [lookup_bucketed Shipped.table (m := 8) (by decide)]
  decide +kernel

end A2l.Tree
