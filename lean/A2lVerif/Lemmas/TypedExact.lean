import A2lVerif.Lemmas.IfDataVals
import A2lVerif.Model.Typed
import A2lVerif.Lemmas.TypedDefs
/-!
# Typed IF_DATA access: the shape of what the interpreter of C18 stores, and the generic values that the generated code
# reads back completely

`Shape sp g`: the generic value `g` is what `parse_ifdata_item` builds for the definition `sp` (read off the code:
one variant per kind of type; an array has at most `dim` elements (the loop stops after an element that consumed
nothing) and exactly `dim` when the elements are scalars (they always consume a token); a struct has line 0 and one
item per member; the tags of the items of a tagged struct are pairwise different except for `( ... )*` members
(`InvalidMultiplicityTooMany` otherwise); a tagged item was parsed with the first member of that tag, has the
member's block-ness, and its data is `parse_ifdata_make_block` of the member's data with the item's own line).
`itemP_shape`: every value that the interpreter returns has the shape of the definition.

* `Exact t g`: the generic value `g` is exactly what the generated code for the output type `t` expects (the
  reading of `Shape`, but for `OTy`: after the fixup phase, and with a tagged struct / union described member by
  member, the way the generated code reads it; a member that is not declared `( ... )*` occurs at most once, since only
  its first item would be read).
* `Flat S`: the fixup phase and the interpreter agree on the definition `S` (no "no type" / tagged type / nested
  sequence in a position where the code generators have no case; the elements of an array are scalars or the array is
  a `char[n]` string: every array for which the generated code compiles is one of these, and for them the interpreter's
  array loop, which stops after an element that consumed nothing, always delivers `dim` elements). Every definition
  that `parseA2ml` accepts and the macro compiles satisfies it.
-/
namespace A2l.Typed
open A2l.Tree A2l.Aml A2l.IfData

section

/-- a type whose interpretation always consumes a token: the integer types, `float`, `double`, an enum -/
def isScalarS : Spec → Bool
  | .int _ => true
  | .float => true
  | .double => true
  | .enum _ => true
  | _ => false

mutual
def Shape : Spec → Gen → Prop
  | .none, g => g = .none
  | .int w, g => ∃ off v hex, g = .int w off v hex
  | .float, g => ∃ off t, g = .float off t
  | .double, g => ∃ off t, g = .double off t
  | .array of dim, g =>
    if isChar of then ∃ off s, g = .str off s
    else ∃ gs, g = .array gs ∧ gs.length ≤ dim ∧ (isScalarS of = true → gs.length = dim) ∧ ∀ x ∈ gs, Shape of x
  | .enum items, g => ∃ off s, g = .enumItem off s ∧ (lookupKV items s).isSome = true
  | .struct items, g => ∃ gs, g = .struct 0 gs ∧ ShapeL items gs
  | .seq of, g => ∃ gs, g = .seq gs ∧ ∀ x ∈ gs, Shape of x
  | .taggedStruct items, g =>
    ∃ its, g = .taggedStruct its ∧ TagsOk (repOf items) (its.map (·.tag)) ∧ ∀ it ∈ its, ShapeT items it
  | .taggedUnion items, g => ∃ its, g = .taggedUnion its ∧ its.length ≤ 1 ∧ ∀ it ∈ its, ShapeT items it
def ShapeL : List Spec → List Gen → Prop
  | [], gs => gs = []
  | s :: rest, gs => ∃ g gs', gs = g :: gs' ∧ Shape s g ∧ ShapeL rest gs'
def ShapeT : List (Tagged Spec) → TItem Gen → Prop
  | [], _ => False
  | t :: rest, it =>
    if t.tag = it.tag then t.isBlock = it.isBlock ∧ ∃ d, it.data = makeBlock d it.line ∧ Shape t.item d
    else ShapeT rest it
end

variable {e : Env}

def Post (e : Env) (p : PM Gen) (Q : Gen → Prop) : Prop := ∀ s g s', p e s = .ok g s' → Q g

def PostD (e : Env) (d : List Char → Option (Bool × (Ctx → PM Gen))) (Q : List Char → Bool → Gen → Prop) : Prop :=
  ∀ tag b p, d tag = some (b, p) → ∀ ctx, Post e (p ctx) (Q tag b)

/-- the postcondition of the parser that `dispatch` returns for a tag -/
def QT (items : List (Tagged Spec)) (tag : List Char) (b : Bool) (g : Gen) : Prop :=
  ∀ it : TItem Gen, it.tag = tag → it.isBlock = b → it.data = makeBlock g it.line → ShapeT items it

theorem isChar_eq_true {sp : Spec} (h : isChar sp = true) : sp = .int 0 := by
  unfold isChar at h
  split at h
  · rfl
  · cases h

theorem shape_array {of : Spec} {dim : Nat} {vs : List Gen} (hc : isChar of = false) (hl : vs.length ≤ dim)
    (hf : isScalarS of = true → vs.length = dim) (hq : ∀ x ∈ vs, Shape of x) : Shape (.array of dim) (.array vs) := by
  show if isChar of = true then _ else _
  rw [if_neg (hc ▸ Bool.false_ne_true)]
  exact ⟨vs, rfl, hl, hf, hq⟩

variable {f32 : List Char → Option (List Char)} {ctx : Ctx} {s s' : PState}

theorem _root_.A2l.IfData.Run.consumes {sp : Spec} {g : Gen} (r : Run e f32 sp ctx s g s') (hsc : isScalarS sp = true) : s'.pos ≠ s.pos := by
  cases r with
  | int h => exact have ⟨_, o, _⟩ := Tree.getInteger_ok h; Nat.ne_of_gt o.pos
  | float h => exact have ⟨_, o, _⟩ := getFloat_tok h; Nat.ne_of_gt o.pos
  | double h => exact have ⟨_, o, _⟩ := Tree.getDouble_ok h; Nat.ne_of_gt o.pos
  | enum h _ => exact have ⟨_, o, _⟩ := Tree.getIdentifier_ok h; Nat.ne_of_gt o.pos
  | _ => cases hsc

/-- a tagged item was built by the member `t` -/
def ShapeT1 (t : Tagged Spec) (it : TItem Gen) : Prop :=
  t.isBlock = it.isBlock ∧ ∃ d, it.data = makeBlock d it.line ∧ Shape t.item d

/-- `ShapeT` is the lookup that the interpreter does (`RunTag.mk`): an item fits the tagged type iff the first member
    with its tag built it -/
theorem shapeT_iff : ∀ {l : List (Tagged Spec)} {it : TItem Gen},
    ShapeT l it ↔ ∃ t, lookupTagged l it.tag = some t ∧ ShapeT1 t it
  | [], _ => ⟨False.elim, fun ⟨_, h, _⟩ => nomatch h⟩
  | t :: rest, it => by
    show (if t.tag = it.tag then ShapeT1 t it else ShapeT rest it) ↔ _
    rw [lookupTagged_cons]
    by_cases ht : t.tag = it.tag
    · rw [if_pos ht, if_pos ht]
      exact ⟨fun h => ⟨t, rfl, h⟩, fun ⟨_, h, h1⟩ => Option.some.inj h ▸ h1⟩
    · rw [if_neg ht, if_neg ht]
      exact shapeT_iff

theorem _root_.A2l.IfData.Run.shape {sp : Spec} {g : Gen} (h : Run e f32 sp ctx s g s') : Shape sp g :=
  Run.rec
    (motive_1 := fun sp _ _ g _ _ => Shape sp g)
    (motive_2 := fun l _ _ vs _ _ => ShapeL l vs)
    (motive_3 := fun of _ n _ vs _ _ => vs.length ≤ n ∧ (isScalarS of = true → vs.length = n) ∧ ∀ x ∈ vs, Shape of x)
    (motive_4 := fun of _ _ vs _ _ => ∀ x ∈ vs, Shape of x)
    (motive_5 := fun items _ _ it _ _ => ShapeT items it)
    (motive_6 := fun items _ _ its _ _ => ∀ it ∈ its, ShapeT items it)
    (none := rfl)
    (int := fun _ => ⟨_, _, _, rfl⟩)
    (float := fun _ => ⟨_, _, rfl⟩)
    (double := fun _ => ⟨_, _, rfl⟩)
    (str := fun _ => (if_pos rfl).mpr ⟨_, _, rfl⟩)
    (array := fun hne _ ⟨hl, hf, hq⟩ => shape_array (Bool.eq_false_iff.2 fun h => hne (isChar_eq_true h)) hl hf hq)
    (enum := fun _ hk => ⟨_, _, rfl, hk⟩)
    (struct := fun _ ih => ⟨_, rfl, ih⟩)
    (seq := fun _ ih => ⟨_, rfl, ih⟩)
    (taggedStruct := fun _ hok ih => ⟨_, rfl, hok, ih⟩)
    (taggedUnionNone := fun _ => ⟨[], rfl, Nat.zero_le 1, nofun⟩)
    (taggedUnion := fun _ ih => ⟨[_], rfl, Nat.le_refl 1, fun _ hx => List.mem_singleton.1 hx ▸ ih⟩)
    (nil := rfl)
    (cons := fun _ _ ih1 ih2 => ⟨_, _, rfl, ih1, ih2⟩)
    (zero := ⟨Nat.le_refl _, fun _ => rfl, nofun⟩)
    (last := fun r hp ih =>
      ⟨Nat.le_add_left 1 _, fun hsc => absurd hp (r.consumes hsc), fun _ hx => List.mem_singleton.1 hx ▸ ih⟩)
    (more := fun _ _ _ ih ⟨hl, hf, hq⟩ =>
      ⟨Nat.succ_le_succ hl, fun hsc => congrArg Nat.succ (hf hsc), List.forall_mem_cons.2 ⟨ih, hq⟩⟩)
    (stop := fun _ => nofun)
    (elem := fun _ _ _ ih1 ih2 => List.forall_mem_cons.2 ⟨ih1, ih2⟩)
    (mk := fun _ _ hlk hblk _ _ ih => shapeT_iff.2 ⟨_, hlk, hblk, _, rfl, ih⟩)
    (done := fun _ => nofun)
    (item := fun _ _ ih1 ih2 => List.forall_mem_cons.2 ⟨ih1, ih2⟩)
    h

theorem itemP_shape (f32 : List Char → Option (List Char)) (sp : Spec) (ctx : Ctx) : Post e (itemP f32 sp ctx) (Shape sp) :=
  fun s g s' h => (itemP_run f32 sp ctx s g s' h).shape

theorem itemsP_shape (f32 : List Char → Option (List Char)) : ∀ (l : List Spec) (ctx : Ctx) (s : PState) (vs : List Gen)
    (s' : PState), itemsP f32 l ctx e s = .ok vs s' → ShapeL l vs :=
  fun l ctx s vs s' h => have ⟨_, hg, hl⟩ := (Run.struct (itemsP_run f32 l ctx s vs s' h)).shape; (Gen.struct.inj hg).2 ▸ hl

theorem dispatch_shape (f32 : List Char → Option (List Char)) : ∀ (l : List (Tagged Spec)), PostD e (dispatch f32 l) (QT l) :=
  fun _ _ _ _ h ctx s g s' hp it h1 h2 h3 => by
    obtain ⟨tg, hlk, hb, rfl⟩ := dispatch_some h
    exact shapeT_iff.2 ⟨tg, h1 ▸ hlk, hb.trans h2.symm, g, h3, itemP_shape f32 tg.item ctx s g s' hp⟩

end

section induct
variable {P : Spec → Prop} {PL : List Spec → Prop} {PT : List (Tagged Spec) → Prop}
  (hnone : P .none) (hint : ∀ w, P (.int w)) (hfloat : P .float) (hdouble : P .double)
  (harray : ∀ of dim, P of → P (.array of dim)) (henum : ∀ items, P (.enum items))
  (hstruct : ∀ items, PL items → P (.struct items)) (hseq : ∀ of, P of → P (.seq of))
  (hts : ∀ items, PT items → P (.taggedStruct items)) (htu : ∀ items, PT items → P (.taggedUnion items))
  (hnil : PL []) (hcons : ∀ s rest, P s → PL rest → PL (s :: rest))
  (htnil : PT []) (htcons : ∀ t rest, P t.item → PT rest → PT (t :: rest))
include hnone hint hfloat hdouble harray henum hstruct hseq hts htu hnil hcons htnil htcons

theorem Spec.induct : (∀ s, P s) ∧ (∀ l, PL l) ∧ (∀ l, PT l) :=
  ⟨Spec.rec (motive_4 := fun t => P t.item) hnone hint hfloat hdouble harray henum hstruct hseq hts htu hnil hcons htnil htcons
      fun _ _ _ _ h => h,
    Spec.rec_1 (motive_4 := fun t => P t.item) hnone hint hfloat hdouble harray henum hstruct hseq hts htu hnil hcons htnil htcons
      fun _ _ _ _ h => h,
    Spec.rec_2 (motive_4 := fun t => P t.item) hnone hint hfloat hdouble harray henum hstruct hseq hts htu hnil hcons htnil htcons
      fun _ _ _ _ h => h⟩
end induct

mutual
def Exact : OTy → Gen → Prop
  | .none, _ => False
  | .int w, g => ∃ off v hex, g = .int w off v hex
  | .float, g => ∃ off t, g = .float off t
  | .double, g => ∃ off t, g = .double off t
  | .str, g => ∃ off s, g = .str off s
  | .array of dim, g => isTagged of = false ∧ ∃ gs, g = .array gs ∧ gs.length = dim ∧ ∀ x ∈ gs, Exact of x
  | .enum names, g => ∃ off s, g = .enumItem off s ∧ names.contains s = true
  | .struct items, g => ∃ line gs, g = .struct line gs ∧ ExactL items gs
  | .seq of, g => isTagged of = false ∧ ∃ gs, g = .seq gs ∧ ∀ x ∈ gs, Exact of x
  | .tagged union ms, g =>
    ∃ its, g = (if union then Gen.taggedUnion its else Gen.taggedStruct its) ∧ (∀ it ∈ its, it.tag ∈ tagsOfM ms) ∧ ExactM ms its
def ExactL : List OTy → List Gen → Prop
  | [], gs => gs = []
  | t :: rest, gs => ∃ g gs', gs = g :: gs' ∧ Exact t g ∧ ExactL rest gs'
/-- member by member, as `loadMembers` reads them: a member that is not declared `( ... )*` has at most one item under
    its tag (`get_single_optitem` reads the first only), and every item found under the member's tag is one of its
    blocks, with the item's line; the items of the block are `ExactB` (written out, since `ExactB` needs `ExactL`) -/
def ExactM : List (OTag OTy) → List (TItem Gen) → Prop
  | [], _ => True
  | m :: rest, its =>
    (m.rep = false → (itemsOf its m.tag).length ≤ 1) ∧
    (∀ it ∈ itemsOf its m.tag, m.isBlock = it.isBlock ∧
      ∃ gs, it.data = .block it.line gs ∧ (ExactL m.items gs ∨ (m.items = [] ∧ gs = [.none]))) ∧ ExactM rest its
end

/-- the items of a block that `parse_ifdata_make_block` built for a block type with the fields `ts`: exactly the fields,
    or, for a member without data, the single placeholder `None` -/
def ExactB (ts : List OTy) (gs : List Gen) : Prop := ExactL ts gs ∨ (ts = [] ∧ gs = [.none])

def isTaggedS : Spec → Bool
  | .taggedStruct _ => true
  | .taggedUnion _ => true
  | _ => false

def isSeq : Spec → Bool
  | .seq _ => true
  | _ => false

def isStruct : Spec → Bool
  | .struct _ => true
  | _ => false

mutual
/-- `fixup_data_type` and the code generators have a case for every node, and the result reads the generic data
    the way the interpreter builds it -/
def flat : Spec → Bool
  | .none => false
  | .int _ => true
  | .float => true
  | .double => true
  | .array of _ => isChar of || isScalarS of
  | .enum _ => true
  | .struct items => flatL items
  | .seq of => !isSeq of && !isNone of && !isTaggedS of && flat of
  | .taggedStruct items => flatT items
  | .taggedUnion items => flatT items
def flatL : List Spec → Bool
  | [] => true
  | s :: rest => flat s && flatL rest
def flatT : List (Tagged Spec) → Bool
  | [] => true
  | t :: rest => (isNone t.item || flat t.item) && flatT rest
end

/-- the definition is one for which the macro generates code that reads the data the way the interpreter builds it -/
def Flat (S : Spec) : Prop := flat S = true

instance (S : Spec) : Decidable (Flat S) := by unfold Flat; infer_instance

theorem blockItems_eq (s : Spec) : blockItems s =
    match s with
    | .struct items => fixItems items
    | .none => []
    | s => [fixItem s] := by
  cases s with
  | seq of => cases of <;> rfl
  | _ => rfl

theorem scalar_flat {s : Spec} (h : isScalarS s = true) : flat s = true ∧ isTaggedS s = false := by
  cases s with
  | int w => exact ⟨rfl, rfl⟩
  | float => exact ⟨rfl, rfl⟩
  | double => exact ⟨rfl, rfl⟩
  | enum items => exact ⟨rfl, rfl⟩
  | _ => cases h

theorem flat_not_none {s : Spec} (h : flat s = true) : isNone s = false := by
  cases s with
  | none => cases h
  | _ => rfl

theorem structItems_flat : ∀ (items : List Spec), flatL items = true → structItems items = fixItems items
  | [], _ => rfl
  | s :: rest, h => by
    have h : flat s = true ∧ flatL rest = true := Bool.and_eq_true _ _ ▸ h
    show (if isNone s then structItems rest else fixItem s :: structItems rest) = fixItem s :: fixItems rest
    rw [flat_not_none h.1, structItems_flat rest h.2]
    rfl

theorem fixItem_seq {of : Spec} (h : isSeq of = false) : fixItem (.seq of) = .seq (fixItem of) := by
  cases of with
  | seq inner => cases h
  | _ => rfl

theorem fixItem_array {of : Spec} (dim : Nat) : fixItem (.array of dim) = if isChar of then .str else .array (fixItem of) dim :=
  rfl

theorem isTagged_fixItem {s : Spec} (h : isTaggedS s = false) : isTagged (fixItem s) = false := by
  cases s with
  | array of dim => rw [fixItem_array]; split <;> rfl
  | seq of => cases of <;> rfl
  | taggedStruct items => cases h
  | taggedUnion items => cases h
  | _ => rfl

/-- the items of `parse_ifdata_make_block(d, ..)` -/
def dataItems : Gen → List Gen
  | .struct _ items => items
  | d => [d]

theorem makeBlock_eq (d : Gen) (line : Nat) : makeBlock d line = .block line (dataItems d) := by
  cases d <;> rfl

theorem makeBlock_struct (l : Nat) (items : List Gen) (line : Nat) : makeBlock (.struct l items) line = .block line items := rfl

theorem dataItems_of_shape {s : Spec} {d : Gen} (hs : isStruct s = false) (h : Shape s d) : dataItems d = [d] := by
  cases s with
  | none => obtain rfl := h; rfl
  | int w => obtain ⟨_, _, _, rfl⟩ := h; rfl
  | float => obtain ⟨_, _, rfl⟩ := h; rfl
  | double => obtain ⟨_, _, rfl⟩ := h; rfl
  | array of dim =>
    rw [Shape] at h
    split at h
    · obtain ⟨_, _, rfl⟩ := h; rfl
    · obtain ⟨_, rfl, _⟩ := h; rfl
  | enum items => obtain ⟨_, _, rfl, _⟩ := h; rfl
  | struct items => cases hs
  | seq of => obtain ⟨_, rfl, _⟩ := h; rfl
  | taggedStruct items => obtain ⟨_, rfl, _⟩ := h; rfl
  | taggedUnion items => obtain ⟨_, rfl, _⟩ := h; rfl

theorem lookupKV_contains (items : List (List Char × Option Int)) (s : List Char) (h : (lookupKV items s).isSome = true) :
    (items.map (·.1)).contains s = true := by
  unfold lookupKV at h
  rw [Option.isSome_map, List.find?_isSome] at h
  obtain ⟨x, hx, hp⟩ := h
  rw [List.contains_iff_mem]
  exact List.mem_map.2 ⟨x, hx, by simpa using hp⟩

end A2l.Typed
