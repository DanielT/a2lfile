import A2lVerif.Lemmas.IfDataVals
import A2lVerif.Lemmas.IfData
/-!
# IF_DATA: the interpreter looks at the cursor position only

Whether a definition accepts the content, and where it stops, does not depend on the rest of the parser state
(`last_token_position`, `sequential_id`, the log): two runs from states with the same cursor position end in the same
kind of outcome at the same position. Used for `valid_iff_interp`: the attempts that `parse_ifdata` makes one after
the other start from states that differ in exactly these components.

The values of the two runs differ (tagged items get different ids), so the judgement that composes relates TWO programs
(`Alike`, with the usual rule for `>>=`); `PosOnly` is its diagonal.
-/
namespace A2l.IfData
open A2l.Tree A2l.Aml A2l.G A2l.Sc

variable {e : Env}

/-- same kind of outcome, same cursor position, related values -/
def Sim {α : Type} (R : α → α → Prop) : PRes α → PRes α → Prop
  | .ok a s1, .ok b t1 => R a b ∧ s1.pos = t1.pos
  | .err _ s1, .err _ t1 => s1.pos = t1.pos
  | .panic, .panic => True
  | .fuel, .fuel => True
  | _, _ => False

def Any {α : Type} : α → α → Prop := fun _ _ => True

/-- a function of the parser monad whose control flow and results (up to `R`) depend on the cursor only -/
def PosOnly {α : Type} (R : α → α → Prop) (m : PM α) (e : Env) : Prop :=
  ∀ s t : PState, s.pos = t.pos → Sim R (m e s) (m e t)

/-- the relational form of `PosOnly`: two programs, started at the same cursor position, end alike. It has the rule for
    `>>=` that `PosOnly` lacks (the continuations may get different values in the two runs, e.g. the ids of tagged items),
    so the walk over the interpreter is an application of rules; `PosOnly R m e` is `Alike R m m e`. -/
def Alike {α : Type} (R : α → α → Prop) (m m' : PM α) (e : Env) : Prop :=
  ∀ s t : PState, s.pos = t.pos → Sim R (m e s) (m' e t)

theorem Sim.weaken {α} {R R' : α → α → Prop} {r1 r2 : PRes α} (h : Sim R r1 r2) (hr : ∀ a b, R a b → R' a b) :
    Sim R' r1 r2 := by
  cases r1 <;> cases r2 <;> first | exact h.elim | skip
  · exact ⟨hr _ _ h.1, h.2⟩
  · exact h
  · trivial
  · trivial

theorem getLineOffset_sim : PosOnly Eq getLineOffset e := fun s t hp => by
  rw [getLineOffset_eq, getLineOffset_eq, hp]
  cases lineOffset? e.toks t.pos with
  | none => trivial
  | some n => exact ⟨rfl, hp⟩

section
variable {α β : Type} {R : β → β → Prop}

theorem Alike.pure {a b : β} (h : R a b) : Alike R (Pure.pure a : PM β) (Pure.pure b) e := fun _ _ hp => ⟨h, hp⟩

theorem Alike.fail (k k' : DK) : Alike R (A2l.Tree.fail k : PM β) (A2l.Tree.fail k') e := fun _ _ hp => hp

theorem Alike.panic : Alike R (A2l.Tree.panic : PM β) A2l.Tree.panic e := fun _ _ _ => trivial

/-- the two runs may fail with different diagnostics -/
theorem Alike.attempt {R1 : α → α → Prop} {m m' : PM α} {f g : Except Diag α → PM β} (h1 : Alike R1 m m' e)
    (hok : ∀ a b, R1 a b → Alike R (f (.ok a)) (g (.ok b)) e) (herr : ∀ d d', Alike R (f (.error d)) (g (.error d')) e) :
    Alike R (attempt m >>= f) (attempt m' >>= g) e := by
  intro s t hp
  have h1 := h1 s t hp
  rw [bind_def, bind_def]
  unfold A2l.Tree.attempt
  cases hs : m e s <;> cases ht : m' e t <;> rw [hs, ht] at h1 <;> first | exact h1.elim | skip
  · exact hok _ _ h1.1 _ _ h1.2
  · exact herr _ _ _ _ h1
  · trivial
  · trivial

theorem Alike.bind {R1 : α → α → Prop} {m m' : PM α} {f g : α → PM β} (h1 : Alike R1 m m' e)
    (h2 : ∀ a b, R1 a b → Alike R (f a) (g b) e) : Alike R (m >>= f) (m' >>= g) e := by
  rw [bind_eq_attempt m f, bind_eq_attempt m' g]
  exact .attempt h1 h2 fun _ _ _ _ hp => hp

/-- the continuations see the same value in both runs -/
theorem Alike.bindEq {m : PM α} {f g : α → PM β} (h1 : PosOnly Eq m e) (h2 : ∀ a, Alike R (f a) (g a) e) :
    Alike R (m >>= f) (m >>= g) e :=
  .bind h1 fun a _ hab => hab ▸ h2 a

theorem Alike.lineOffset {f g : Nat → PM β} (h : ∀ n, Alike R (f n) (g n) e) :
    Alike R (getLineOffset >>= f) (getLineOffset >>= g) e :=
  .bindEq getLineOffset_sim h

theorem Alike.ite {p : Prop} [Decidable p] {a a' b b' : PM β} (ha : Alike R a a' e) (hb : Alike R b b' e) :
    Alike R (if p then a else b) (if p then a' else b') e := by
  split
  · exact ha
  · exact hb

theorem Alike.getEnv {f g : Env → PM β} (h : Alike R (f e) (g e) e) : Alike R (getEnv >>= f) (getEnv >>= g) e := h

theorem Alike.peekToken {f g : Option PTok → PM β} (h : ∀ o, Alike R (f o) (g o) e) :
    Alike R (peekToken >>= f) (peekToken >>= g) e := by
  intro s t hp
  simp only [peekToken_bind]
  rw [← hp]
  exact h _ s t hp

theorem Alike.getTokenpos {f g : Nat → PM β} (h : ∀ n, Alike R (f n) (g n) e) :
    Alike R (getTokenpos >>= f) (getTokenpos >>= g) e := by
  intro s t hp
  simp only [getTokenpos_bind]
  rw [← hp]
  exact h _ s t hp

theorem Alike.setTokenpos {p : Nat} {f g : Unit → PM β} (h : Alike R (f ()) (g ()) e) :
    Alike R (setTokenpos p >>= f) (setTokenpos p >>= g) e :=
  fun s t _ => h { s with pos := p } { t with pos := p } rfl

/-- the two runs get different ids -/
theorem Alike.getNextId {f g : Nat → PM β} (h : ∀ n n', Alike R (f n) (g n') e) :
    Alike R (getNextId >>= f) (getNextId >>= g) e :=
  fun s t hp => h _ _ { s with seqId := s.seqId + 1 } { t with seqId := t.seqId + 1 } hp

end

theorem getToken_sim (ctx : Ctx) : PosOnly Eq (getToken ctx) e := by
  intro s t hp
  rw [getToken_eval, getToken_eval, ← hp]
  cases e.toks[s.pos]? with
  | none => exact hp
  | some t0 => exact ⟨rfl, rfl⟩

theorem posOnlyRules : PMRulesLog e (fun m => PosOnly Eq m e) where
  pure := fun _ => Alike.pure rfl
  fail := fun k => Alike.fail k k
  panic := Alike.panic
  outOfFuel := fun _ _ _ => trivial
  bind := fun h1 h2 => Alike.bindEq h1 h2
  getEnv_bind := fun _ => Alike.getEnv
  getTokenpos_bind := fun h => Alike.getTokenpos h
  peekToken_bind := fun h => Alike.peekToken h
  getToken := getToken_sim
  getLineOffset := getLineOffset_sim
  setTokenpos := fun _ _ _ _ => ⟨rfl, rfl⟩
  errorOrLog := fun _ => Alike.getEnv (.ite (.fail _ _) fun _ _ hp => ⟨rfl, hp⟩)

theorem getNextTagOrComment_sim (ctx : Ctx) : PosOnly Eq (getNextTagOrComment ctx) e := by
  unfold getNextTagOrComment
  refine Alike.getTokenpos fun pos => .peekToken fun o => ?_
  split
  · intro s t hp
    simp only [modifyState_bind]
    exact Alike.lineOffset (fun _ => .pure rfl) _ _ (by show s.pos + 1 = t.pos + 1; rw [hp])
  · exact .bindEq (getToken_sim ctx) fun _ => .lineOffset fun _ =>
      .attempt (posOnlyRules.expectToken ctx 0) (fun _ _ h => h ▸ .pure rfl) fun _ _ => .setTokenpos fun _ _ hp => hp
  · exact .attempt (posOnlyRules.expectToken ctx 0) (fun _ _ h => h ▸ .lineOffset fun _ => .pure rfl)
      fun _ _ => .lineOffset fun _ => .setTokenpos (.pure rfl)

/-- both absent, or both present with the same tag -/
def SameSome : Option (TItem Gen) → Option (TItem Gen) → Prop := fun a b => a.map (·.tag) = b.map (·.tag)

def PosOnlyD (d : List Char → Option (Bool × (Ctx → PM Gen))) (e : Env) : Prop :=
  ∀ tag b p, d tag = some (b, p) → ∀ ctx, PosOnly Any (p ctx) e

theorem arrayLoop_sim {p : PM Gen} (hp' : PosOnly Any p e) : ∀ n, PosOnly Any (arrayLoop p n) e
  | 0 => Alike.pure trivial
  | n + 1 => by
    rw [arrayLoop]
    exact Alike.getTokenpos fun _ => .bind hp' fun _ _ _ => .getTokenpos fun _ =>
      .ite (.pure trivial) (.bind (arrayLoop_sim hp' n) fun _ _ _ => .pure trivial)

theorem seqLoop_sim {p : PM Gen} (hp' : PosOnly Any p e) : ∀ fuel acc acc',
    Alike Any (seqLoop p fuel acc) (seqLoop p fuel acc') e
  | 0, _, _ => fun _ _ _ => trivial
  | fuel + 1, acc, acc' => by
    rw [seqLoop, seqLoop]
    exact .getTokenpos fun _ => .attempt hp'
      (fun _ _ _ => .getTokenpos fun _ => .ite (.setTokenpos (.pure trivial)) (seqLoop_sim hp' fuel _ _))
      fun _ _ => .setTokenpos (.pure trivial)

theorem taggedItem_sim {d : List Char → Option (Bool × (Ctx → PM Gen))} (hd : PosOnlyD d e) (ctx : Ctx) :
    PosOnly SameSome (taggedItem d ctx) e := by
  unfold taggedItem
  refine Alike.getTokenpos fun cp => .getEnv (.bindEq (posOnlyRules.skipComments ctx _) fun _ => ?_)
  have hreset : Alike SameSome (do setTokenpos cp; pure (none : Option (TItem Gen)) : PM _)
      (do setTokenpos cp; pure none) e := .setTokenpos (.pure rfl)
  refine .attempt (getNextTagOrComment_sim ctx) (fun bc _ h => h ▸ ?_) fun _ _ => hreset
  cases bc with
  | comment tok off => exact hreset
  | none => exact hreset
  | block tok isBlock startOff =>
    dsimp only
    cases hdt : d tok.text with
    | none => exact hreset
    | some bp =>
      obtain ⟨b, p⟩ := bp
      exact .ite hreset (.getNextId fun _ _ => .bind (hd _ _ _ hdt _) fun _ _ _ =>
        .bindEq (posOnlyRules.endOfTagged _ _ _) fun _ => .pure rfl)

theorem any_tag_eq (acc : List (TItem Gen)) (tag : List Char) :
    acc.any (fun x => x.tag = tag) = (acc.map (·.tag)).any (fun x => x = tag) :=
  (List.any_map (f := TItem.tag) (p := fun x => decide (x = tag))).symm

theorem tsLoop_sim {d : List Char → Option (Bool × (Ctx → PM Gen))} (hd : PosOnlyD d e) (rep : List Char → Bool)
    (ctx : Ctx) : ∀ fuel acc acc', acc.map (·.tag) = acc'.map (·.tag) →
    Alike Any (tsLoop d rep ctx fuel acc) (tsLoop d rep ctx fuel acc') e
  | 0, _, _, _ => fun _ _ _ => trivial
  | fuel + 1, acc, acc', hacc => by
    rw [tsLoop, tsLoop]
    refine .bind (taggedItem_sim hd ctx) fun a b hab => ?_
    cases a <;> cases b <;> first | cases hab | skip
    · exact .pure trivial
    · rename_i ita itb
      have htag : ita.tag = itb.tag := by simpa [SameSome] using hab
      dsimp only
      rw [any_tag_eq acc, any_tag_eq acc', hacc, htag]
      exact .ite (.fail _ _) (tsLoop_sim hd rep ctx fuel _ _ (by simp [hacc, htag]))

mutual
theorem itemP_sim (f32 : List Char → Option (List Char)) : ∀ (sp : Spec) (ctx : Ctx), PosOnly Any (itemP f32 sp ctx) e
  | .none, ctx =>
    Alike.pure trivial
  | .int w, ctx =>
    Alike.bindEq (posOnlyRules.getInteger ctx w) fun ⟨_, _⟩ => .lineOffset fun _ => .pure trivial
  | .float, ctx =>
    Alike.bindEq (posOnlyRules.getFloat f32 ctx) fun _ => .lineOffset fun _ => .pure trivial
  | .double, ctx =>
    Alike.bindEq (posOnlyRules.getDouble ctx) fun _ => .lineOffset fun _ => .pure trivial
  | .array of dim, ctx => by
    rw [itemP.eq_def]
    dsimp only
    split
    · exact Alike.bindEq (posOnlyRules.getStringMaxlen ctx dim) fun _ => .lineOffset fun _ => .pure trivial
    · exact Alike.bind (arrayLoop_sim (itemP_sim f32 of ctx) dim) fun _ _ _ => .pure trivial
  | .enum items, ctx =>
    Alike.bindEq (posOnlyRules.getIdentifier ctx) fun _ => .lineOffset fun _ => .ite (.pure trivial) (.fail _ _)
  | .struct items, ctx =>
    Alike.bind (itemsP_sim f32 items ctx) fun _ _ _ => .pure trivial
  | .seq of, ctx =>
    Alike.getEnv (.bind (seqLoop_sim (itemP_sim f32 of ctx) _ [] []) fun _ _ _ => .pure trivial)
  | .taggedStruct items, ctx =>
    Alike.getEnv (.bind (tsLoop_sim (dispatch_sim f32 items) _ ctx _ [] [] rfl) fun _ _ _ => .pure trivial)
  | .taggedUnion items, ctx => by
    rw [itemP]
    refine Alike.bind (taggedItem_sim (dispatch_sim f32 items) ctx) fun a b hab => ?_
    cases a <;> cases b <;> first | exact .pure trivial | cases hab

theorem itemsP_sim (f32 : List Char → Option (List Char)) : ∀ (l : List Spec) (ctx : Ctx), PosOnly Any (itemsP f32 l ctx) e
  | [], ctx => by
    rw [itemsP]
    exact Alike.pure trivial
  | sp :: rest, ctx => by
    rw [itemsP]
    exact Alike.bind (itemP_sim f32 sp ctx) fun _ _ _ => .bind (itemsP_sim f32 rest ctx) fun _ _ _ => .pure trivial

theorem dispatch_sim (f32 : List Char → Option (List Char)) : ∀ (l : List (Tagged Spec)), PosOnlyD (dispatch f32 l) e
  | [] => by
    intro tag b p h; rw [dispatch] at h; cases h
  | t :: rest => by
    intro tag b p h
    rw [dispatch] at h
    split at h
    · cases h
      intro ctx
      exact itemP_sim f32 t.item ctx
    · exact dispatch_sim f32 rest tag b p h
end

/-- behind cursor position `p` there are only comments up to a `/end` token -/
def EndBehindComments (e : Env) (p : Nat) : Prop :=
  ∃ q, p ≤ q ∧ (∀ i, p ≤ i → i < q → ∃ t, e.toks[i]? = some t ∧ t.ty = 6) ∧ ∃ t, e.toks[q]? = some t ∧ t.ty = 2

/-- the definition `sp` describes the content that starts at cursor position `p`: its interpreter, started there,
    succeeds and stops in front of a `/end`, possibly with comments in between -/
def Accepts (e : Env) (f32 : List Char → Option (List Char)) (ctx : Ctx) (sp : Spec) (p : Nat) : Prop :=
  ∃ s0 g s1, s0.pos = p ∧ itemP f32 sp ctx e s0 = .ok g s1 ∧ EndBehindComments e s1.pos

theorem AtEnd.samePos {s t : PState} (h : AtEnd e s) (hp : t.pos = s.pos) : AtEnd e t := by
  unfold AtEnd at *; rw [hp]; exact h

/-- behind comments there is a `/end` exactly when `skipComments` stops at one -/
theorem _root_.A2l.Tree.SkipTo.atEnd {s s2 : PState} (h : SkipTo e s s2) : EndBehindComments e s.pos ↔ AtEnd e s2 := by
  induction h with
  | @stop s hn =>
    refine ⟨?_, fun ⟨t, ht, h2⟩ =>
      ⟨s.pos, Nat.le_refl _, fun i h1 h2 => absurd (Nat.lt_of_le_of_lt h1 h2) (Nat.lt_irrefl _), t, ht, h2⟩⟩
    rintro ⟨q, hq, hc, t, ht, h2⟩
    rcases Nat.eq_or_lt_of_le hq with rfl | hlt
    · exact ⟨t, ht, h2⟩
    · obtain ⟨t', ht', h6⟩ := hc s.pos (Nat.le_refl _) hlt
      exact absurd h6 (hn t' ht')
  | @cmt s s2 t ht h6 _ ih =>
    rw [← ih]
    constructor
    · rintro ⟨q, hq, hc, t', ht', h2⟩
      rcases Nat.eq_or_lt_of_le hq with rfl | hlt
      · rw [ht] at ht'; cases ht'; omega
      · exact ⟨q, hlt, fun i h1 h2 => hc i (Nat.le_of_succ_le h1) h2, t', ht', h2⟩
    · rintro ⟨q, hq, hc, t', ht', h2⟩
      refine ⟨q, Nat.le_of_succ_le hq, fun i h1 h2 => ?_, t', ht', h2⟩
      rcases Nat.eq_or_lt_of_le h1 with rfl | hlt
      · exact ⟨t, ht, h6⟩
      · exact hc i hlt h2

theorem fromSpec_iff {f32 : List Char → Option (List Char)} {ctx : Ctx} {sp : Spec} {s : PState} {r : Option Gen}
    {s' : PState} (h : fromSpec f32 ctx sp e s = .ok r s') : r.isSome ↔ Accepts e f32 ctx sp s.pos := by
  -- a run from another state with the same cursor ends like the run from `s`
  have hsim : ∀ s0 g s1, s0.pos = s.pos → itemP f32 sp ctx e s0 = .ok g s1 →
      ∃ g' t1, itemP f32 sp ctx e s = .ok g' t1 ∧ t1.pos = s1.pos := by
    intro s0 g s1 hp0 h0
    have := itemP_sim (e := e) f32 sp ctx s0 s hp0
    rw [h0] at this
    cases hr : itemP f32 sp ctx e s with
    | ok g' t1 => rw [hr] at this; exact ⟨g', t1, rfl, this.2.symm⟩
    | err d t1 => rw [hr] at this; exact this.elim
    | panic => rw [hr] at this; exact this.elim
    | fuel => rw [hr] at this; exact this.elim
  -- behind a successful run: acceptance is `/end` at the state that `skipComments` reaches
  have hacc : ∀ g s1 s2, itemP f32 sp ctx e s = .ok g s1 → skipComments ctx (e.toks.size + 1) e s1 = .ok () s2 →
      (Accepts e f32 ctx sp s.pos ↔ AtEnd e s2) := by
    intro g s1 s2 h1 h3
    rcases skipComments_run (e := e) ctx (e.toks.size + 1) s1 with hf | ⟨s2', hsk, hk⟩
    · rw [h3] at hf; cases hf
    rw [h3] at hsk
    cases hsk
    rw [← hk.atEnd]
    constructor
    · rintro ⟨s0, g0, s3, hp0, h0, hend⟩
      obtain ⟨g', t1, hr, hp1⟩ := hsim s0 g0 s3 hp0 h0
      rw [h1] at hr; cases hr
      rw [hp1]; exact hend
    · intro hend; exact ⟨s, g, s1, rfl, h1, hend⟩
  rcases fromSpec_inv h with ⟨rfl, _, ⟨d, s1, h1⟩ | ⟨g, s1, s2, h1, h3, hne⟩⟩ | ⟨g, s1, h1, h3, hend, rfl⟩
  · refine ⟨fun h => (by cases h), ?_⟩
    rintro ⟨s0, g0, s2, hp0, h0, _⟩
    obtain ⟨g', t1, hr, _⟩ := hsim s0 g0 s2 hp0 h0
    rw [h1] at hr; cases hr
  · exact ⟨fun h => (by cases h), fun ha => absurd ((hacc g s1 s2 h1 h3).1 ha) hne⟩
  · exact ⟨fun _ => (hacc g s1 s' h1 h3).2 hend, fun _ => rfl⟩

theorem trySpecs_iff {f32 : List Char → Option (List Char)} {ctx : Ctx} : ∀ (specs : List Spec) (s : PState)
    (r : Option Gen) (s' : PState), trySpecs f32 ctx specs e s = .ok r s' →
    (r.isSome ↔ ∃ sp ∈ specs, Accepts e f32 ctx sp s.pos) := by
  intro specs s r s' h
  rcases trySpecs_inv specs s r s' h with ⟨rfl, _, hall⟩ | ⟨sp, hm, s0, g, hp0, hf, rfl⟩
  · refine ⟨fun h => (by cases h), ?_⟩
    rintro ⟨sp, hm, ha⟩
    obtain ⟨s0, s0', hp0, hf⟩ := hall sp hm
    rw [← hp0] at ha
    cases (fromSpec_iff hf).2 ha
  · refine ⟨fun _ => ⟨sp, hm, ?_⟩, fun _ => rfl⟩
    rw [← hp0]
    exact (fromSpec_iff hf).1 rfl

end A2l.IfData
