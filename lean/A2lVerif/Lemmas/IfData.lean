import A2lVerif.Lemmas.A2ml
import A2lVerif.Lemmas.TreeTotal
import A2lVerif.Model.IfData
import A2lVerif.Lemmas.PMLogic
/-!
# IF_DATA: the interpreter (Model/IfData.lean) stays inside the token array and within its budget

The judgement `Good` = `Safe` of Lemmas/TreeTotal.lean (cursor range, log relation, no panic) plus "the budget is
sufficient" (`≠ .fuel` when the cursor is tracked and the token array has no Include token). One lemma per function.

For the fallback (`parse_unknown_ifdata`, `parse_unknown_taggedstruct` and its loop) what one call does is stated once,
for an arbitrary property of the outcome (`unknownIfdata_step`, `unknownTaggedstruct_succ`, `unknownTsLoop_succ`); every
invariant of the fallback that speaks of one run (range and budget here, result in Lemmas/IfDataUid.lean, verdict in
Lemmas/IfDataUnknown.lean) is an induction on the budget that instantiates these. (Lemmas/IfDataDepth.lean relates two runs with
different budgets and unfolds the definition itself.)

The cursor functions of Model/IfData.lean keep every property of programs that has the rules of `PMRules`
(Lemmas/PMLogic.lean).
-/
namespace A2l.IfData
open A2l.Tree A2l.Aml A2l.G A2l.Sc

variable {e : Env} {F : Prop}

/-- no Include token reaches the parser (the tokenizer replaces them by the tokens of the included file) -/
def NoInc (e : Env) : Prop := ∀ (i : Nat) (t : PTok), e.toks[i]? = some t → t.ty ≠ 3

def Good {α} (F : Prop) (c : Cfg e) (lo : Nat) (lg : List Diag) (r : PRes α) (Q : α → PState → Prop) : Prop :=
  Safe c lo lg r Q ∧ (c.PB → F → r ≠ .fuel)

variable (c : Cfg e)

section
variable {c : Cfg e} {lo : Nat} {lg : List Diag} {s : PState}

/-- a callee specified from its own start state -/
theorem Good.call {α} {r : PRes α} {Q : α → PState → Prop} (hi : At c lo lg s) (h : Good F c s.pos s.log r Q) :
    Good F c lo lg r Q :=
  ⟨Safe.call hi h.1, h.2⟩

/-- `attempt`: after an error only the upper bound of the cursor is known; both continuations may use the outcome of `m` -/
theorem Good.stepAttempt {α β} {m : PM α} {f : Except Diag α → PM β} {Q1 : α → PState → Prop} {Q2 : β → PState → Prop}
    (hi : At c lo lg s) (h1 : Good F c s.pos s.log (m e s) Q1)
    (hok : ∀ a s1, m e s = .ok a s1 → At c lo lg s1 → Q1 a s1 → Good F c lo lg (f (.ok a) e s1) Q2)
    (herr : ∀ d s1, m e s = .err d s1 → c.Pre s1 → c.L lg s1.log → Good F c lo lg (f (.error d) e s1) Q2) :
    Good F c lo lg ((attempt m >>= f) e s) Q2 := by
  have h := Good.call hi h1
  rw [bind_def]
  unfold attempt
  cases hm : m e s with
  | ok a s1 => rw [hm] at h; exact hok a s1 hm ⟨h.1.1, h.1.2.1⟩ h.1.2.2
  | err d s1 => rw [hm] at h; exact herr d s1 hm h.1.1 h.1.2
  | panic => rw [hm] at h; exact ⟨h.1, fun _ _ h' => by cases h'⟩
  | fuel => rw [hm] at h; exact ⟨trivial, fun hpb hF _ => h.2 hpb hF rfl⟩

theorem Good.step {α β} {m : PM α} {f : α → PM β} {Q1 : α → PState → Prop} {Q2 : β → PState → Prop}
    (hi : At c lo lg s) (h1 : Good F c s.pos s.log (m e s) Q1)
    (h2 : ∀ a s1, At c lo lg s1 → Q1 a s1 → Good F c lo lg (f a e s1) Q2) : Good F c lo lg ((m >>= f) e s) Q2 := by
  rw [bind_eq_attempt]
  exact Good.stepAttempt hi h1 (fun a s1 _ => h2 a s1) fun _ _ _ hp hl => ⟨⟨hp, hl⟩, fun _ _ h => by cases h⟩

theorem Good.done {α} {a : α} {Q : α → PState → Prop} (hi : At c lo lg s) (hq : Q a s) :
    Good F c lo lg ((Pure.pure a : PM α) e s) Q := ⟨Safe.done hi hq, fun _ _ h => by cases h⟩

theorem Good.failed {α} {k : DK} {Q : α → PState → Prop} (hi : At c lo lg s) :
    Good F c lo lg ((A2l.Tree.fail k : PM α) e s) Q := ⟨Safe.failed hi, fun _ _ h => by cases h⟩

/-- what the range says relative to the start state, as a postcondition -/
theorem Good.rel {α} {r : PRes α} {Q : α → PState → Prop} (h : Good F c s.pos s.log r Q) :
    Good F c s.pos s.log r (fun a s' => Q a s' ∧ (c.PB → s.pos ≤ s'.pos)) := by
  cases r with
  | ok a s' => exact ⟨⟨h.1.1, h.1.2.1, h.1.2.2, fun hpb => (h.1.1 hpb).1⟩, h.2⟩
  | err d s' => exact h
  | panic => exact h
  | fuel => exact h

end

theorem Good.bind_lineOffset {β} {c : Cfg e} {lo : Nat} {lg : List Diag} {f : Nat → PM β} {s : PState}
    {Q : β → PState → Prop} (h : ∀ n, Good F c lo lg (f n e s) Q) :
    Good F c lo lg ((getLineOffset >>= f) e s) Q := by
  refine ⟨Safe.bind_lineOffset (fun n => (h n).1), ?_⟩
  intro hpb hF
  rw [bind_def]
  rcases getLineOffset_cases e s with h1 | ⟨n, h1⟩
  · rw [h1]; intro h'; cases h'
  · rw [h1]; exact (h n).2 hpb hF

theorem errorOrLog_nf (k : DK) (s : PState) : errorOrLog k e s ≠ .fuel := by
  unfold errorOrLog
  simp only [getEnv_bind]
  split <;> (intro h; cases h)

theorem errorOrLog_good (k : DK) (s : PState) (hp : c.Pre s) :
    Good F c s.pos s.log (errorOrLog k e s) (fun _ s' => s'.pos = s.pos) :=
  ⟨errorOrLog_safe c k s hp, fun _ _ => errorOrLog_nf k s⟩

/-- a loop with a budget of `size - pos + 1` rounds that consumed a token has one round less to go -/
theorem budget_step {PB : Prop} {n p q fuel : Nat} (hf : PB → n - p < fuel + 1) (hpos : PB → p ≤ q ∧ q ≤ n)
    (hne : PB → p ≠ q) : PB → n - q < fuel := fun hpb => by have := hf hpb; have := hpos hpb; have := hne hpb; omega

/-- the fallback spends at most three calls per token: behind a token the budget is smaller by three -/
theorem budget3_step {n p q k k' fuel : Nat} (hf : 3 * (n - p) + k ≤ fuel + 1) (hpq : p + 1 ≤ q) (hq : q ≤ n)
    (hk : k' ≤ k + 2) : 3 * (n - q) + k' ≤ fuel := by omega

theorem budget3_mono {n p q k fuel : Nat} (hf : 3 * (n - p) + (k + 1) ≤ fuel + 1) (hpq : p ≤ q) :
    3 * (n - q) + k ≤ fuel := by omega

theorem NTQ.block_lt {s s' : PState} {tok : PTok} {isB : Bool} {off : Nat} (h : NTQ s (.block tok isB off) s') :
    s.pos + 1 ≤ s'.pos := by
  have : s.pos + (if isB = true then 2 else 1) ≤ s'.pos := h
  split at this <;> omega

theorem getToken_nf (ctx : Ctx) (s : PState) : getToken ctx e s ≠ .fuel := by
  rw [getToken_eval]
  split <;> (intro h; cases h)

theorem getToken_good (ctx : Ctx) (s : PState) (hp : c.Pre s) :
    Good F c s.pos s.log (getToken ctx e s) (fun t s' => s'.pos = s.pos + 1 ∧ e.toks[s.pos]? = some t) :=
  ⟨getToken_safe c ctx s hp, fun _ _ => getToken_nf ctx s⟩

theorem expectToken_good (ctx : Ctx) (ty : Nat) (s : PState) (hp : c.Pre s) :
    Good F c s.pos s.log (expectToken ctx ty e s)
      (fun t s' => s.pos + 1 ≤ s'.pos ∧ e.toks[s'.pos - 1]? = some t ∧ t.ty = ty) :=
  ⟨expectToken_safe c ctx ty s hp, fun _ _ => expectToken_ne_fuel ctx ty e s⟩

/-- lifting a `_safe` lemma of a composite primitive: the fuel part is proved separately -/
theorem nf_bind {α β} {m : PM α} {f : α → PM β} {s : PState} (h1 : m e s ≠ .fuel)
    (h2 : ∀ a s1, m e s = .ok a s1 → f a e s1 ≠ .fuel) : (m >>= f) e s ≠ .fuel := by
  rw [bind_def]
  cases h : m e s with
  | ok a s1 => exact h2 a s1 h
  | err d s1 => intro h'; cases h'
  | panic => intro h'; cases h'
  | fuel => exact absurd h h1

theorem getIdentifier_good (ctx : Ctx) (s : PState) (hp : c.Pre s) :
    Good F c s.pos s.log (getIdentifier ctx e s) (fun _ s' => s.pos + 1 ≤ s'.pos) := by
  refine ⟨getIdentifier_safe c ctx s hp, fun hpb hF => ?_⟩
  unfold getIdentifier
  refine nf_bind (expectToken_ne_fuel ctx 0 e s) ?_
  intro t s1 _
  cases t.text with
  | nil => intro h; cases h
  | cons ch tl =>
    dsimp only
    split
    · refine nf_bind (errorOrLog_nf _ _) ?_
      intro _ s2 _ h; cases h
    · intro h; cases h

theorem getString_good (ctx : Ctx) (s : PState) (hp : c.Pre s) :
    Good F c s.pos s.log (getString ctx e s) (fun _ s' => s.pos + 1 ≤ s'.pos) := by
  refine ⟨getString_safe c ctx s hp, fun hpb hF => ?_⟩
  unfold getString
  simp only [peekToken_bind]
  generalize e.toks[s.pos]? = o
  split
  · refine nf_bind ((getIdentifier_good c ctx s hp).2 hpb hF) ?_
    intro text s1 _
    refine nf_bind (errorOrLog_nf _ _) ?_
    intro _ s2 _ h; cases h
  · refine nf_bind (expectToken_ne_fuel ctx 4 e s) ?_
    intro t s1 _
    rw [unescape_ok]
    intro h; cases h

theorem getStringMaxlen_good (ctx : Ctx) (n : Nat) (s : PState) (hp : c.Pre s) :
    Good F c s.pos s.log (getStringMaxlen ctx n e s) (fun _ s' => s.pos + 1 ≤ s'.pos) := by
  refine ⟨getStringMaxlen_safe c ctx n s hp, fun hpb hF => ?_⟩
  unfold getStringMaxlen
  refine nf_bind ((getString_good c ctx s hp).2 hpb hF) ?_
  intro text s1 _
  dsimp only
  split
  · refine nf_bind (errorOrLog_nf _ _) ?_
    intro _ s2 _ h; cases h
  · intro h; cases h

theorem getInteger_good (ctx : Ctx) (w : Nat) (s : PState) (hp : c.Pre s) :
    Good F c s.pos s.log (getInteger ctx w e s) (fun _ s' => s.pos + 1 ≤ s'.pos) := by
  refine ⟨getInteger_safe c ctx w s hp, fun hpb hF => ?_⟩
  unfold getInteger
  refine nf_bind (expectToken_ne_fuel ctx 5 e s) ?_
  intro t s1 _
  cases parseInt (intTyOf w) t.text <;> (intro h; cases h)

theorem getDouble_good (ctx : Ctx) (s : PState) (hp : c.Pre s) :
    Good F c s.pos s.log (getDouble ctx e s) (fun _ s' => s.pos + 1 ≤ s'.pos) := by
  refine ⟨getDouble_safe c ctx s hp, fun hpb hF => ?_⟩
  unfold getDouble
  refine nf_bind (expectToken_ne_fuel ctx 5 e s) ?_
  intro t s1 _
  cases t.fl <;> (intro h; cases h)

/-- no constructor of the graph is "budget exhausted" -/
theorem getNextTagOrComment_ne_fuel (ctx : Ctx) (s : PState) : getNextTagOrComment ctx e s ≠ .fuel := fun h => by
  have hr := nextTag_rel ctx e s
  rw [h] at hr
  cases hr

theorem getNextTagOrComment_good (ctx : Ctx) (s : PState) (hp : c.Pre s) :
    Good F c s.pos s.log (getNextTagOrComment ctx e s) (NTQ s) :=
  ⟨getNextTagOrComment_safe c ctx s hp, fun _ _ => getNextTagOrComment_ne_fuel ctx s⟩

def T {α : Type} : α → PState → Prop := fun _ _ => True

theorem getFloat_good (f32 : List Char → Option (List Char)) (ctx : Ctx) (s : PState) (hp : c.Pre s) :
    Good F c s.pos s.log (getFloat f32 ctx e s) (fun _ s' => s.pos + 1 ≤ s'.pos) := by
  unfold getFloat
  refine Good.step (At.start hp) (expectToken_good c ctx 5 s hp) fun t s1 i1 hq => ?_
  cases f32 t.text with
  | none => exact Good.failed i1
  | some r => exact Good.done i1 hq.1

/-! ### functions whose result does not matter

Where nothing is claimed about the result, `Good` relative to the start state composes without any bookkeeping of
positions: the rules below are those of a Hoare logic with the fixed assertion "the cursor is inside the token array". -/

/-- `m` stays inside the token array and within its budget, from every start state -/
def GoodM {α} (F : Prop) (c : Cfg e) (m : PM α) : Prop := ∀ s, c.Pre s → Good F c s.pos s.log (m e s) T

section
variable {α β : Type} {c}

theorem GoodM.of {m : PM α} {Q : PState → α → PState → Prop}
    (h : ∀ s, c.Pre s → Good F c s.pos s.log (m e s) (Q s)) : GoodM F c m :=
  fun s hp => ⟨Safe.weaken (fun _ => Nat.le_refl _) (c.L_refl _) (h s hp).1 (fun _ _ _ => trivial), (h s hp).2⟩

theorem GoodM.pure (a : α) : GoodM F c (Pure.pure a : PM α) :=
  fun _ hp => Good.done (At.start hp) trivial

theorem GoodM.fail (k : DK) : GoodM F c (A2l.Tree.fail k : PM α) :=
  fun _ hp => Good.failed (At.start hp)

theorem GoodM.bind {m : PM α} {f : α → PM β} (h1 : GoodM F c m) (h2 : ∀ a, GoodM F c (f a)) :
    GoodM F c (m >>= f) :=
  fun s hp => Good.step (At.start hp) (h1 s hp) fun a s1 i1 _ => Good.call i1 (h2 a s1 i1.pre)

theorem GoodM.lineOffset {f : Nat → PM β} (h : ∀ n, GoodM F c (f n)) : GoodM F c (getLineOffset >>= f) :=
  fun s hp => Good.bind_lineOffset fun n => h n s hp

theorem GoodM.getEnv {f : Env → PM β} (h : GoodM F c (f e)) : GoodM F c (getEnv >>= f) := h

theorem GoodM.getTokenpos {f : Nat → PM β} (h : ∀ n, GoodM F c (f n)) : GoodM F c (getTokenpos >>= f) :=
  fun s hp => h s.pos s hp

theorem GoodM.peekToken {f : Option PTok → PM β} (h : ∀ o, GoodM F c (f o)) :
    GoodM F c (peekToken >>= f) :=
  fun s hp => h _ s hp

theorem GoodM.getNextId {f : Nat → PM β} (h : ∀ n, GoodM F c (f n)) : GoodM F c (getNextId >>= f) :=
  fun s hp => h _ { s with seqId := s.seqId + 1 } hp

theorem GoodM.ite {p : Prop} [Decidable p] {a b : PM α} (ha : GoodM F c a) (hb : GoodM F c b) :
    GoodM F c (if p then a else b) :=
  of_ite ha hb

end

/-- what the loops need to know about the parser of an element -/
def GoodP (F : Prop) (c : Cfg e) (p : PM Gen) : Prop := ∀ s, c.Pre s → Good F c s.pos s.log (p e s) T

theorem arrayLoop_good (c : Cfg e) {p : PM Gen} (hp' : GoodP F c p) : ∀ n : Nat, GoodM F c (arrayLoop p n)
  | 0 => by
    rw [arrayLoop]
    exact .pure _
  | n + 1 => by
    rw [arrayLoop]
    exact .getTokenpos fun _ => .bind hp' fun _ => .getTokenpos fun _ =>
      .ite (.pure _) (.bind (arrayLoop_good c hp' n) fun _ => .pure _)

theorem seqLoop_good (c : Cfg e) {p : PM Gen} (hp' : GoodP F c p) : ∀ (fuel : Nat) (acc : List Gen) (s : PState),
    c.Pre s → (c.PB → e.toks.size - s.pos < fuel) → Good F c s.pos s.log (seqLoop p fuel acc e s) T
  | 0, _, s, _, hf => ⟨trivial, fun hpb _ => absurd (hf hpb) (Nat.not_lt_zero _)⟩
  | fuel + 1, acc, s, hp, hf => by
    rw [seqLoop]
    simp only [getTokenpos_bind]
    have i0 := At.start hp
    refine Good.stepAttempt i0 (hp' s hp) ?_ ?_
    · intro v s1 _ i1 _
      simp only [getTokenpos_bind]
      split
      · simp only [setTokenpos_bind]
        exact Good.done (i0.same rfl i1.log) trivial
      · rename_i hne
        exact Good.call i1 (seqLoop_good c hp' fuel (v :: acc) s1 i1.pre (budget_step hf i1.range fun _ h => hne h.symm))
    · intro d s1 _ _ hl1
      simp only [setTokenpos_bind]
      exact Good.done (i0.same rfl hl1) trivial

theorem skipComments_good (c : Cfg e) (ctx : Ctx) : ∀ (fuel : Nat) (s : PState), c.Pre s →
    (c.PB → e.toks.size - s.pos < fuel) → Good F c s.pos s.log (skipComments ctx fuel e s) T
  | 0, s, _, hf => ⟨trivial, fun hpb _ => absurd (hf hpb) (Nat.not_lt_zero _)⟩
  | fuel + 1, s, hp, hf => by
    rw [skipComments]
    simp only [peekToken_bind]
    cases e.toks[s.pos]? with
    | none => exact Good.done (At.start hp) trivial
    | some t =>
      dsimp only
      split
      · refine Good.step (At.start hp) (getToken_good c ctx s hp) fun t1 s1 i1 hq => ?_
        exact Good.call i1 (skipComments_good c ctx fuel s1 i1.pre
          (budget_step hf i1.range fun _ h => Nat.ne_of_lt (Nat.lt_succ_self _) (h.trans hq.1)))
      · exact Good.done (At.start hp) trivial

/-- `skipComments` with the budget it is called with -/
theorem skipComments_goodM (ctx : Ctx) : GoodM F c (skipComments ctx (e.toks.size + 1)) :=
  fun s hp => skipComments_good c ctx _ s hp fun _ => Nat.lt_succ_of_le (Nat.sub_le _ _)

theorem endOfTagged_good (newctx : Ctx) (tag : List Char) (isBlock : Bool) :
    GoodM F c (endOfTagged newctx tag isBlock) := by
  unfold endOfTagged
  exact .ite (.bind (.of (expectToken_good c newctx 2)) fun _ => .lineOffset fun _ =>
    .bind (.of (expectToken_good c newctx 0)) fun _ => .ite (.bind (.fail _) fun _ => .pure _) (.pure _)) (.pure _)

def GoodD (F : Prop) (c : Cfg e) (d : List Char → Option (Bool × (Ctx → PM Gen))) : Prop :=
  ∀ tag b p, d tag = some (b, p) → ∀ ctx, GoodP F c (p ctx)

theorem taggedItem_good {d : List Char → Option (Bool × (Ctx → PM Gen))} (hd : GoodD F c d) (ctx : Ctx)
    (s : PState) (hp : c.Pre s) :
    Good F c s.pos s.log (taggedItem d ctx e s) (fun r s' => c.PB → r.isSome → s.pos + 1 ≤ s'.pos) := by
  unfold taggedItem
  simp only [getTokenpos_bind, getEnv_bind]
  have i0 := At.start hp
  refine Good.step i0 (skipComments_goodM c ctx s hp) fun _ s1 i1 _ => ?_
  have hreset : ∀ s2 : PState, c.L s.log s2.log →
      Good F c s.pos s.log ((do setTokenpos s.pos; pure (none : Option (TItem Gen)) : PM _) e s2)
        (fun r s' => c.PB → r.isSome = true → s.pos + 1 ≤ s'.pos) := by
    intro s2 hl2
    simp only [setTokenpos_bind]
    exact Good.done (i0.same rfl hl2) (fun _ h => by cases h)
  refine Good.stepAttempt i1 (getNextTagOrComment_good c ctx s1 i1.pre) ?_ fun _ s2 _ _ hl2 => hreset s2 hl2
  intro bc s2 _ i2 hq2
  cases bc with
  | comment tok off => exact hreset s2 i2.log
  | none => exact hreset s2 i2.log
  | block tok isBlock startOff =>
    dsimp only
    cases hdt : d tok.text with
    | none => exact hreset s2 i2.log
    | some bp =>
      obtain ⟨b, p⟩ := bp
      dsimp only
      split
      · exact hreset s2 i2.log
      · simp only [getNextId_bind]
        -- from here the cursor is counted from `s2`, which is behind the tag
        refine Good.call i2 ?_
        have j2 := At.start (s := { s2 with seqId := s2.seqId + 1 }) i2.pre
        refine Good.step j2 (hd _ _ _ hdt _ _ i2.pre) fun data s3 j3 _ => ?_
        refine Good.step j3 (endOfTagged_good c _ _ _ s3 j3.pre) fun endOff s4 j4 _ => ?_
        exact Good.done j4 fun hpb _ =>
          Nat.le_trans (Nat.succ_le_succ (i1.range hpb).1) (Nat.le_trans (NTQ.block_lt hq2) (j4.range hpb).1)

theorem tsLoop_good (c : Cfg e) {d : List Char → Option (Bool × (Ctx → PM Gen))} (hd : GoodD F c d)
    (rep : List Char → Bool) (ctx : Ctx) : ∀ (fuel : Nat) (acc : List (TItem Gen)) (s : PState), c.Pre s →
    (c.PB → e.toks.size - s.pos < fuel) → Good F c s.pos s.log (tsLoop d rep ctx fuel acc e s) T
  | 0, _, s, _, hf => ⟨trivial, fun hpb _ => absurd (hf hpb) (Nat.not_lt_zero _)⟩
  | fuel + 1, acc, s, hp, hf => by
    rw [tsLoop]
    refine Good.step (At.start hp) (taggedItem_good c hd ctx s hp) fun r s1 i1 hq => ?_
    cases r with
    | none => exact Good.done i1 trivial
    | some it =>
      dsimp only
      split
      · exact Good.failed i1
      · exact Good.call i1 (tsLoop_good c hd rep ctx fuel (it :: acc) s1 i1.pre
          (budget_step hf i1.range fun hpb => Nat.ne_of_lt (hq hpb rfl)))

mutual
theorem itemP_good (c : Cfg e) (f32 : List Char → Option (List Char)) : ∀ (sp : Spec) (ctx : Ctx), GoodP F c (itemP f32 sp ctx)
  | .none, ctx =>
    GoodM.pure _
  | .int w, ctx =>
    GoodM.bind (.of (getInteger_good c ctx w)) fun ⟨_, _⟩ => .lineOffset fun _ => .pure _
  | .float, ctx =>
    GoodM.bind (.of (getFloat_good c f32 ctx)) fun _ => .lineOffset fun _ => .pure _
  | .double, ctx =>
    GoodM.bind (.of (getDouble_good c ctx)) fun _ => .lineOffset fun _ => .pure _
  | .array of dim, ctx => by
    rw [itemP.eq_def]
    dsimp only
    split
    · exact GoodM.bind (.of (getStringMaxlen_good c ctx dim)) fun _ => .lineOffset fun _ => .pure _
    · exact GoodM.bind (arrayLoop_good c (itemP_good c f32 of ctx) dim) fun _ => .pure _
  | .enum items, ctx =>
    GoodM.bind (.of (getIdentifier_good c ctx)) fun _ => .lineOffset fun _ => .ite (.pure _) (.fail _)
  | .struct items, ctx =>
    GoodM.bind (fun s hp => itemsP_good c f32 items ctx s hp) fun _ => .pure _
  | .seq of, ctx =>
    GoodM.getEnv (.bind (fun s hp => seqLoop_good c (itemP_good c f32 of ctx) _ [] s hp fun _ =>
      Nat.lt_succ_of_le (Nat.sub_le _ _)) fun _ => .pure _)
  | .taggedStruct items, ctx =>
    GoodM.getEnv (.bind (fun s hp => tsLoop_good c (dispatch_good c f32 items) _ ctx _ [] s hp fun _ =>
      Nat.lt_succ_of_le (Nat.sub_le _ _)) fun _ => .pure _)
  | .taggedUnion items, ctx => by
    rw [itemP]
    refine GoodM.bind (.of (taggedItem_good c (dispatch_good c f32 items) ctx)) fun r => ?_
    cases r with
    | none => exact .pure _
    | some it => exact .pure _

theorem itemsP_good (c : Cfg e) (f32 : List Char → Option (List Char)) : ∀ (l : List Spec) (ctx : Ctx) (s : PState),
    c.Pre s → Good F c s.pos s.log (itemsP f32 l ctx e s) T
  | [], ctx, s, hp => by
    rw [itemsP]
    exact GoodM.pure _ s hp
  | sp :: rest, ctx, s, hp => by
    rw [itemsP]
    exact GoodM.bind (itemP_good c f32 sp ctx) (fun _ => .bind (fun s hp => itemsP_good c f32 rest ctx s hp) fun _ => .pure _) s hp

theorem dispatch_good (c : Cfg e) (f32 : List Char → Option (List Char)) : ∀ (l : List (Tagged Spec)), GoodD F c (dispatch f32 l)
  | [] => by
    intro tag b p h
    rw [dispatch] at h
    cases h
  | t :: rest => by
    intro tag b p h
    rw [dispatch] at h
    split at h
    · cases h
      intro ctx
      exact itemP_good c f32 t.item ctx
    · exact dispatch_good c f32 rest tag b p h
end

theorem fromSpec_good (f32 : List Char → Option (List Char)) (ctx : Ctx) (sp : Spec) (s : PState)
    (hp : c.Pre s) :
    Good F c s.pos s.log (fromSpec f32 ctx sp e s) T := by
  unfold fromSpec
  simp only [getTokenpos_bind]
  have i0 := At.start hp
  have hreset : ∀ s1, c.L s.log s1.log →
      Good F c s.pos s.log ((do setTokenpos s.pos; pure (none : Option Gen) : PM _) e s1) T := by
    intro s1 hl1
    simp only [setTokenpos_bind]
    exact Good.done (i0.same rfl hl1) trivial
  refine Good.stepAttempt i0 (itemP_good c f32 sp ctx s hp) ?_ fun _ s1 _ _ hl1 => hreset s1 hl1
  intro g s1 _ i1 _
  dsimp only
  simp only [getEnv_bind]
  refine Good.step i1 (skipComments_goodM c ctx s1 i1.pre) fun _ s2 i2 _ => ?_
  simp only [peekToken_bind]
  cases e.toks[s2.pos]? with
  | none => exact hreset s2 i2.log
  | some t =>
    dsimp only
    split
    · exact Good.done i2 trivial
    · exact hreset s2 i2.log

theorem trySpecs_good (c : Cfg e) (f32 : List Char → Option (List Char)) (ctx : Ctx) : ∀ specs : List Spec,
    GoodM F c (trySpecs f32 ctx specs)
  | [] => by
    rw [trySpecs]
    exact .pure _
  | sp :: rest => by
    rw [trySpecs]
    refine .bind (fromSpec_good c f32 ctx sp) fun r => ?_
    cases r with
    | none => exact trySpecs_good c f32 ctx rest
    | some g => exact .pure _

theorem getInteger_eval (ctx : Ctx) (w : Nat) (s : PState) (t : PTok) (h : e.toks[s.pos]? = some t) (h5 : t.ty = 5) :
    getInteger ctx w e s =
      match parseInt (intTyOf w) t.text with
      | some r => .ok r (s.step t)
      | none => .err ⟨.malformedNumber, t.line⟩ (s.step t) := by
  unfold getInteger
  rw [bind_def, expectToken_eval ctx 5 s t h (by omega), if_neg (by simp [h5])]
  dsimp only
  cases parseInt (intTyOf w) t.text <;> rfl

theorem getDouble_eval (ctx : Ctx) (s : PState) (t : PTok) (h : e.toks[s.pos]? = some t) (h5 : t.ty = 5) :
    getDouble ctx e s =
      match t.fl with
      | some r => .ok r (s.step t)
      | none => .err ⟨.malformedNumber, t.line⟩ (s.step t) := by
  unfold getDouble
  rw [bind_def, expectToken_eval ctx 5 s t h (by omega), if_neg (by simp [h5])]
  dsimp only
  cases t.fl <;> rfl

/-! ### the fallback: what one call does, for an arbitrary property `P` of the outcome -/

theorem unknownIfdata_zero (ctx : Ctx) (isB : Bool) (dp : Nat) (acc : List Gen) (s : PState) :
    unknownIfdata 0 ctx isB dp acc e s = .fuel := by
  rfl

theorem unknownTaggedstruct_zero (ctx : Ctx) (dp : Nat) (s : PState) : unknownTaggedstruct 0 ctx dp e s = .fuel := by
  rfl

theorem unknownTsLoop_zero (ctx : Ctx) (dp : Nat) (acc : List (TItem Gen)) (s : PState) :
    unknownTsLoop 0 ctx dp acc e s = .fuel := by
  rfl

theorem unknownIfdata_deep (fuel : Nat) (ctx : Ctx) (isB : Bool) (dp : Nat) (acc : List Gen) (s : PState)
    (h : maxNestingDepth < dp) :
    unknownIfdata (fuel + 1) ctx isB dp acc e s = .err ⟨.nestingTooDeep, s.lastLine⟩ s := by
  rw [unknownIfdata.eq_def]
  dsimp only
  rw [if_pos h]
  rfl

theorem unknownTaggedstruct_succ (fuel : Nat) (ctx : Ctx) (dp : Nat) :
    unknownTaggedstruct (fuel + 1) ctx dp = (do
      let e ← getEnv
      skipComments ctx (e.toks.size + 1)
      let items ← unknownTsLoop fuel ctx dp []
      match (← peekToken) with
      | some t => if t.ty = 1 then fail .invalidBegin else pure (.taggedStruct items)
      | none => pure (.taggedStruct items)) := by
  rfl

theorem unknownTsLoop_succ (fuel : Nat) (ctx : Ctx) (dp : Nat) (acc : List (TItem Gen)) :
    unknownTsLoop (fuel + 1) ctx dp acc = (do
      match (← attempt (getNextTagOrComment ctx)) with
      | .ok (.block tok isBlock startOff) => do
        let uid ← getNextId
        let newctx : Ctx := ⟨tok.text, tok.fileid, tok.line⟩
        let result ← unknownIfdata fuel newctx isBlock (dp + 1) []
        let endOff ← endOfTagged newctx tok.text isBlock
        unknownTsLoop fuel ctx dp (⟨newctx.line, uid, startOff, endOff, tok.text, result, isBlock⟩ :: acc)
      | .ok (.comment _ _) => unknownTsLoop fuel ctx dp acc
      | _ => pure acc.reverse) := by
  rfl

theorem adv_back (s : PState) (t : PTok) : ({ s.step t with pos := (s.step t).pos - 1 } : PState) = { s with lastLine := t.line } :=
  rfl

/-- after a failed read of the token `t` at `s` the token is put back: the state differs from `s` in `lastLine` only -/
theorem undo_adv {β} (G : PM β) (s : PState) (t : PTok) :
    (undoGetToken >>= fun _ => G) e (s.step t) = G e { s with lastLine := t.line } := by
  rw [undo_bind, if_neg (by show s.pos + 1 ≠ 0; omega), adv_back]

theorem attempt_getInteger_at {β} {P : PRes β → Prop} {ctx : Ctx} {w : Nat} {s : PState} {t : PTok}
    (ht : e.toks[s.pos]? = some t) (h5 : t.ty = 5) (K : Except Diag (Int × Bool) → PM β)
    (hok : ∀ v hex, parseInt (intTyOf w) t.text = some (v, hex) → P (K (.ok (v, hex)) e (s.step t)))
    (herr : parseInt (intTyOf w) t.text = none → P (K (.error ⟨.malformedNumber, t.line⟩) e (s.step t))) :
    P ((attempt (getInteger ctx w) >>= K) e s) := by
  rw [bind_def]
  unfold attempt
  rw [getInteger_eval ctx w s t ht h5]
  cases hp : parseInt (intTyOf w) t.text with
  | none => exact herr hp
  | some r => exact hok r.1 r.2 hp

/-- the items that `parse_unknown_ifdata` makes of a Number token `t` (the line offset is read afterwards) -/
inductive NumberLeaf (t : PTok) : (Nat → Gen) → Prop where
  | int (w : Nat) (v : Int) (hex : Bool) : parseInt (intTyOf w) t.text = some (v, hex) →
      NumberLeaf t (fun off => .int w off v hex)
  | double (r : List Char) : t.fl = some r → NumberLeaf t (fun off => .double off r)

/-- **one call of `parse_unknown_ifdata`**, by the depth and the type of the next token. A Number token is tried as
    i32, i64, u64 and f64; every failed try puts the token back, so each try starts at `s` and ends at `s.step t`. -/
theorem unknownIfdata_step {P : PRes Gen → Prop} {fuel : Nat} {ctx : Ctx} {isB : Bool} {dp : Nat} {acc : List Gen}
    {s : PState}
    (hdeep : maxNestingDepth < dp → P ((fail .nestingTooDeep : PM Gen) e s))
    (heof : e.toks[s.pos]? = none → P ((fail .unexpectedEOF : PM Gen) e s))
    (hident : ∀ t, e.toks[s.pos]? = some t → t.ty = 0 → P ((getIdentifier ctx >>= fun v => getLineOffset >>= fun off =>
      unknownIfdata fuel ctx isB dp (.enumItem off v :: acc)) e s))
    (hstr : ∀ t, e.toks[s.pos]? = some t → t.ty = 4 → P ((getString ctx >>= fun v => getLineOffset >>= fun off =>
      unknownIfdata fuel ctx isB dp (.str off v :: acc)) e s))
    (hnum : ∀ t, e.toks[s.pos]? = some t → t.ty = 5 → ∀ g, NumberLeaf t g →
      P ((getLineOffset >>= fun off => unknownIfdata fuel ctx isB dp (g off :: acc)) e (s.step t)))
    (hbad : ∀ t, e.toks[s.pos]? = some t → t.ty = 5 → parseInt (intTyOf 2) t.text = none →
      parseInt (intTyOf 3) t.text = none → parseInt (intTyOf 7) t.text = none → t.fl = none →
      P (.err ⟨.malformedNumber, t.line⟩ (s.step t)))
    (hblock : ∀ t, e.toks[s.pos]? = some t → t.ty = 1 → isB = true →
      P ((unknownTaggedstruct fuel ctx dp >>= fun ts => unknownIfdata fuel ctx isB dp (ts :: acc)) e s))
    (hend : ∀ t, e.toks[s.pos]? = some t → t.ty = 2 ∨ (t.ty = 1 ∧ isB = false) →
      P ((pure (.struct 0 acc.reverse) : PM Gen) e s))
    (hinc : ∀ t, e.toks[s.pos]? = some t → t.ty = 3 → P (unknownIfdata fuel ctx isB dp acc e s))
    (hskip : ∀ t, e.toks[s.pos]? = some t → 5 < t.ty → P (unknownIfdata fuel ctx isB dp acc e (s.step t))) :
    P (unknownIfdata (fuel + 1) ctx isB dp acc e s) := by
  rw [unknownIfdata.eq_def]
  dsimp only
  by_cases hdp : dp > maxNestingDepth
  · rw [if_pos hdp]; exact hdeep hdp
  rw [if_neg hdp]
  simp only [peekToken_bind]
  cases ht : e.toks[s.pos]? with
  | none => exact heof ht
  | some t =>
    dsimp only
    by_cases h0 : t.ty = 0
    · rw [if_pos h0]; exact hident t ht h0
    rw [if_neg h0]
    by_cases h4 : t.ty = 4
    · rw [if_pos h4]; exact hstr t ht h4
    rw [if_neg h4]
    by_cases h5 : t.ty = 5
    · rw [if_pos h5]
      have ht' : e.toks[({ s with lastLine := t.line } : PState).pos]? = some t := ht
      refine attempt_getInteger_at ht h5 _ (fun v hex hp => hnum t ht h5 _ (.int 2 v hex hp)) ?_
      intro hn2
      show P ((undoGetToken >>= fun _ => _) e (s.step t))
      rw [undo_adv]
      refine attempt_getInteger_at ht' h5 _ (fun v hex hp => hnum t ht h5 _ (.int 3 v hex hp)) ?_
      intro hn3
      show P ((undoGetToken >>= fun _ => _) e (s.step t))
      rw [undo_adv]
      refine attempt_getInteger_at ht' h5 _ (fun v hex hp => hnum t ht h5 _ (.int 7 v hex hp)) ?_
      intro hn7
      show P ((undoGetToken >>= fun _ => _) e (s.step t))
      rw [undo_adv, bind_def, getDouble_eval ctx _ t ht' h5]
      cases hfl : t.fl with
      | none => exact hbad t ht h5 hn2 hn3 hn7 hfl
      | some r => exact hnum t ht h5 _ (.double r hfl)
    rw [if_neg h5]
    by_cases h1 : t.ty = 1
    · rw [if_pos h1]
      by_cases hb : isB = true
      · rw [if_pos hb]; exact hblock t ht h1 hb
      · rw [if_neg hb]; exact hend t ht (.inr ⟨h1, by simpa using hb⟩)
    rw [if_neg h1]
    by_cases h2 : t.ty = 2
    · rw [if_pos h2]; exact hend t ht (.inl h2)
    rw [if_neg h2]
    by_cases h3 : t.ty = 3
    · rw [if_pos h3]; exact hinc t ht h3
    rw [if_neg h3, bind_def, getToken_eval, ht]
    exact hskip t ht (by omega)

structure AllU (F : Prop) (c : Cfg e) (fuel : Nat) : Prop where
  u : ∀ ctx isB dp acc s, c.Pre s → (c.PB → F → 3 * (e.toks.size - s.pos) + 3 ≤ fuel) →
    Good F c s.pos s.log (unknownIfdata fuel ctx isB dp acc e s) T
  ts : ∀ ctx dp s, c.Pre s → (c.PB → F → 3 * (e.toks.size - s.pos) + 2 ≤ fuel) →
    Good F c s.pos s.log (unknownTaggedstruct fuel ctx dp e s)
      (fun _ s' => c.PB → ∀ t, e.toks[s'.pos]? = some t → t.ty ≠ 1)
  l : ∀ ctx dp acc s, c.Pre s → (c.PB → F → 3 * (e.toks.size - s.pos) + 1 ≤ fuel) →
    Good F c s.pos s.log (unknownTsLoop fuel ctx dp acc e s) T

theorem allU_zero : AllU F c 0 := by
  constructor
  · intro ctx isB dp acc s _ hf
    rw [unknownIfdata_zero]
    exact ⟨trivial, fun hpb hF => absurd (hf hpb hF) (Nat.not_succ_le_zero _)⟩
  · intro ctx dp s _ hf
    rw [unknownTaggedstruct_zero]
    exact ⟨trivial, fun hpb hF => absurd (hf hpb hF) (Nat.not_succ_le_zero _)⟩
  · intro ctx dp acc s _ hf
    rw [unknownTsLoop_zero]
    exact ⟨trivial, fun hpb hF => absurd (hf hpb hF) (Nat.not_succ_le_zero _)⟩

theorem u_step (hni : c.PB → F → NoInc e) {fuel : Nat} (ih : AllU F c fuel) (ctx : Ctx) (isB : Bool) (dp : Nat)
    (acc : List Gen) (s : PState) (hs : c.Pre s) (hf : c.PB → F → 3 * (e.toks.size - s.pos) + 3 ≤ fuel + 1) :
    Good F c s.pos s.log (unknownIfdata (fuel + 1) ctx isB dp acc e s) T := by
  have i0 := At.start hs
  -- behind the token at `s` three units of the budget are free
  have hnext : ∀ (acc' : List Gen) (s1 : PState), At c s.pos s.log s1 → (c.PB → s.pos + 1 ≤ s1.pos) →
      Good F c s.pos s.log (unknownIfdata fuel ctx isB dp acc' e s1) T :=
    fun acc' s1 i1 hq => Good.call i1 (ih.u ctx isB dp acc' s1 i1.pre
      fun hpb hF => budget3_step (hf hpb hF) (hq hpb) (i1.pre hpb) (Nat.le_add_right 3 2))
  have hscalar : ∀ {α} {m : PM α} (g : α → Nat → Gen), Good F c s.pos s.log (m e s) (fun _ s' => s.pos + 1 ≤ s'.pos) →
      Good F c s.pos s.log
        ((m >>= fun v => getLineOffset >>= fun off => unknownIfdata fuel ctx isB dp (g v off :: acc)) e s) T :=
    fun g h => Good.step i0 h fun v s1 i1 hq => Good.bind_lineOffset fun off => hnext _ s1 i1 fun _ => hq
  have hadv : ∀ t, e.toks[s.pos]? = some t → At c s.pos s.log (s.step t) :=
    fun t ht => ⟨fun _ => ⟨Nat.le_succ _, getElem?_some_lt ht⟩, c.L_refl _⟩
  refine unknownIfdata_step (P := fun r => Good F c s.pos s.log r T) (fun _ => Good.failed i0)
    (fun _ => Good.failed i0) ?hident ?hstr ?hnum ?hbad ?hblock ?hend ?hinc ?hskip
  case hident => exact fun _ _ _ => hscalar _ (getIdentifier_good c ctx s hs)
  case hstr => exact fun _ _ _ => hscalar _ (getString_good c ctx s hs)
  case hnum =>
    exact fun t ht _ g _ => Good.bind_lineOffset fun off => hnext _ (s.step t) (hadv t ht) fun _ => Nat.le_refl _
  case hbad => exact fun t ht _ _ _ _ _ => ⟨⟨(hadv t ht).pre, c.L_refl _⟩, fun _ _ h => by cases h⟩
  case hblock =>
    intro t ht h1 _
    refine Good.step i0 (ih.ts ctx dp s hs fun hpb hF => Nat.le_of_succ_le_succ (hf hpb hF)) fun ts s1 i1 hq => ?_
    -- the tagged struct does not stop in front of a `/begin`, and there is one at `s`
    exact hnext _ s1 i1 fun hpb =>
      Nat.lt_of_le_of_ne (i1.range hpb).1 fun heq => hq hpb t (by rw [← heq]; exact ht) h1
  case hend => exact fun _ _ _ => Good.done i0 trivial
  case hinc => exact fun t ht h3 => ih.u ctx isB dp acc s hs fun hpb hF => absurd h3 (hni hpb hF _ _ ht)
  case hskip => exact fun t ht _ => hnext acc (s.step t) (hadv t ht) fun _ => Nat.le_refl _

theorem getNextTagOrComment_err (ctx : Ctx) (s : PState) (d : Diag) (s1 : PState)
    (h : getNextTagOrComment ctx e s = .err d s1) : s1.pos = s.pos := by
  have hr := nextTag_rel ctx e s
  rw [h] at hr
  cases hr
  rfl

theorem ts_step {fuel : Nat} (ih : AllU F c fuel) (ctx : Ctx) (dp : Nat) (s : PState) (hs : c.Pre s)
    (hf : c.PB → F → 3 * (e.toks.size - s.pos) + 2 ≤ fuel + 1) :
    Good F c s.pos s.log (unknownTaggedstruct (fuel + 1) ctx dp e s)
      (fun _ s' => c.PB → ∀ t, e.toks[s'.pos]? = some t → t.ty ≠ 1) := by
  rw [unknownTaggedstruct_succ]
  simp only [getEnv_bind]
  refine Good.step (At.start hs) (skipComments_goodM c ctx s hs) fun _ s1 i1 _ => ?_
  refine Good.step i1 (ih.l ctx dp [] s1 i1.pre fun hpb hF => budget3_mono (hf hpb hF) (i1.range hpb).1)
    fun items s2 i2 _ => ?_
  simp only [peekToken_bind]
  cases ht : e.toks[s2.pos]? with
  | none => exact Good.done i2 fun _ t h => by rw [ht] at h; cases h
  | some t =>
    dsimp only
    split
    · exact Good.failed i2
    · rename_i hne
      exact Good.done i2 fun _ t' h => by rw [ht] at h; cases h; exact hne

theorem l_step {fuel : Nat} (ih : AllU F c fuel) (ctx : Ctx) (dp : Nat) (acc : List (TItem Gen)) (s : PState)
    (hs : c.Pre s) (hf : c.PB → F → 3 * (e.toks.size - s.pos) + 1 ≤ fuel + 1) :
    Good F c s.pos s.log (unknownTsLoop (fuel + 1) ctx dp acc e s) T := by
  rw [unknownTsLoop_succ]
  have i0 := At.start hs
  refine Good.stepAttempt i0 (getNextTagOrComment_good c ctx s hs) ?_ ?_
  · intro bc s1 _ i1 hq1
    -- the loop goes on at `s3`, behind at least one token; from `s1` on the cursor is counted from there
    have hloop : ∀ acc' (s3 : PState), At c s1.pos s1.log s3 → s.pos + 1 ≤ s1.pos →
        Good F c s1.pos s1.log (unknownTsLoop fuel ctx dp acc' e s3) T :=
      fun acc' s3 j3 hq => Good.call j3 (ih.l ctx dp acc' s3 j3.pre fun hpb hF =>
        budget3_step (hf hpb hF) (Nat.le_trans hq (j3.range hpb).1) (j3.pre hpb) (Nat.le_add_right 1 2))
    cases bc with
    | comment tok off => exact Good.call i1 (hloop acc s1 (At.start i1.pre) hq1)
    | none => exact Good.done i1 trivial
    | block tok isBlock startOff =>
      dsimp only
      simp only [getNextId_bind]
      have hq1' : s.pos + 1 ≤ s1.pos := NTQ.block_lt hq1
      refine Good.call i1 ?_
      have j1 := At.start (s := { s1 with seqId := s1.seqId + 1 }) i1.pre
      refine Good.step j1 (ih.u _ isBlock (dp + 1) [] { s1 with seqId := s1.seqId + 1 } i1.pre
        fun hpb hF => budget3_step (hf hpb hF) hq1' (i1.pre hpb) (Nat.le_refl 3)) fun result s2 j2 _ => ?_
      refine Good.step j2 (endOfTagged_good c _ _ _ s2 j2.pre) fun endOff s3 j3 _ => ?_
      exact hloop _ s3 j3 hq1'
  · intro d s1 heq _ hl1
    exact Good.done (i0.same (getNextTagOrComment_err ctx s d s1 heq) hl1) trivial

theorem allU (c : Cfg e) (hni : c.PB → F → NoInc e) : ∀ fuel, AllU F c fuel
  | 0 => allU_zero c
  | fuel + 1 =>
    have ih := allU c hni fuel
    ⟨u_step c hni ih, ts_step c ih, l_step c ih⟩

theorem unknownStart_good (hni : c.PB → F → NoInc e) (ctx : Ctx) (s : PState) (hp : c.Pre s) :
    Good F c s.pos s.log (unknownStart ctx e s) T := by
  unfold unknownStart
  simp only [getEnv_bind, peekToken_bind]
  -- `unknownFuel` is enough wherever the loop starts
  have hrun : ∀ (ctx' : Ctx) (s1 : PState), c.Pre s1 →
      Good F c s1.pos s1.log (unknownIfdata (unknownFuel e.toks.size) ctx' true 0 [] e s1) T :=
    fun ctx' s1 hp1 => (allU c hni (unknownFuel e.toks.size)).u ctx' true 0 [] s1 hp1
      fun _ _ => by unfold unknownFuel; omega
  cases e.toks[s.pos]? with
  | none => exact hrun ctx s hp
  | some t =>
    dsimp only
    split
    · refine Good.step (At.start hp) (getToken_good c ctx s hp) fun token s1 i1 hq1 => ?_
      refine Good.bind_lineOffset fun startOff => ?_
      simp only [getNextId_bind]
      refine Good.step (i1.same rfl i1.log) (Good.rel (hrun _ { s1 with seqId := s1.seqId + 1 } i1.pre))
        fun result s2 i2 hq2 => ?_
      have h12 : c.PB → s.pos + 1 ≤ s2.pos := fun hpb => by
        have h : s1.pos ≤ s2.pos := hq2.2 hpb
        rwa [hq1.1] at h
      simp only [undo_bind]
      split
      · rename_i h0
        refine ⟨fun hnp => ?_, fun _ _ h => by cases h⟩
        have h := h12 (c.np_pb hnp)
        rw [h0] at h
        exact Nat.not_succ_le_zero _ h
      · refine Good.bind_lineOffset fun endOff => ?_
        -- the token that was put back is read again
        have j2 : At c s.pos s.log { s2 with pos := s2.pos - 1 } :=
          ⟨fun hpb => ⟨Nat.le_sub_one_of_lt (h12 hpb), Nat.le_trans (Nat.sub_le _ _) (i2.pre hpb)⟩, i2.log⟩
        refine Good.stepAttempt j2 (getToken_good c ctx _ j2.pre) (fun tk s3 _ i3 _ => Good.done i3 trivial) ?_
        intro d s3 heq _ _
        rw [getToken_eval] at heq
        split at heq
        · cases heq
        · cases heq
          exact Good.done j2 trivial
    · exact hrun ctx s hp

theorem parseIfdata_good (hni : c.PB → F → NoInc e) (f32 : List Char → Option (List Char)) (specs : List Spec)
    (ctx : Ctx) (s : PState) (hp : c.Pre s) :
    Good F c s.pos s.log (parseIfdata f32 specs ctx e s) T := by
  unfold parseIfdata
  refine GoodM.peekToken (fun o => ?_) s hp
  cases o with
  | none => exact .pure _
  | some t =>
    refine .ite (.bind (trySpecs_good c f32 ctx specs) fun r => ?_)
      (.pure _)
    cases r with
    | some g => exact .pure _
    | none => exact .bind (unknownStart_good c hni ctx) fun _ => .pure _

theorem ifDataBlock_good (hni : c.PB → F → NoInc e) (f32 : List Char → Option (List Char)) (builtin : List Spec)
    (ty : Nat) (ctx : Ctx) (startOff : Nat) : GoodM F c (ifDataBlock f32 builtin ty ctx startOff) := by
  unfold ifDataBlock
  exact .getEnv (.getNextId fun _ => .getTokenpos fun _ => .bind (parseIfdata_good c hni f32 _ ctx) fun ⟨_, _⟩ =>
    .bind (.of (expectToken_good c ctx 2)) fun _ => .lineOffset fun _ => .bind (.of (getIdentifier_good c ctx)) fun _ =>
      .ite (.bind (.of (errorOrLog_good c _)) fun _ => .pure _) (.pure _))

theorem a2mlBlock_good (ty : Nat) (ctx : Ctx) (startOff : Nat) : GoodM F c (a2mlBlock ty ctx startOff) := by
  unfold a2mlBlock
  refine .getNextId fun uid => .bind (.of (expectToken_good c ctx 4)) fun token => .lineOffset fun loc => ?_
  have hrest : GoodM F c (do
      let _ ← expectToken ctx 2
      let ident ← getIdentifier ctx
      if ident ≠ "A2ML".toList then errorOrLog .incorrectEndTag
      pure (Val.block ty ⟨ctx.line, uid, startOff, 1, ctx.fileid⟩ [.str token.text loc] [] []) : PM Val) :=
    .bind (.of (expectToken_good c ctx 2)) fun _ => .bind (.of (getIdentifier_good c ctx)) fun _ =>
      .ite (.bind (.of (errorOrLog_good c _)) fun _ => .pure _) (.pure _)
  cases hpa : parseA2ml token.text with
  | ok sp => exact hrest
  | err => exact .bind (.of (errorOrLog_good c _)) fun _ => hrest
  | fuel => exact absurd hpa (parseA2ml_ne_fuel _)

theorem specialEnv_specialOk (toks : Array PTok) (strict : Bool) : SpecialOk (specialEnv toks strict) := by
  intro ty ctx off s hs
  refine ⟨fun h => (by cases h), fun v s' h => (by cases h), fun d s' h => ?_⟩
  cases h
  exact ⟨hs, [], rfl⟩

theorem specialEnv_tableOk (toks : Array PTok) (strict : Bool) :
    tableOk (specialEnv toks strict).table (specialEnv toks strict).known = true := rfl

theorem special_good {toks : Array PTok} {strict : Bool} (F : Prop) (c : Cfg (specialEnv toks strict))
    (hni : c.PB → F → NoInc (specialEnv toks strict))
    (tyA2ml : Nat) (f32 : List Char → Option (List Char)) (builtin : List Spec)
    (ty : Nat) (ctx : Ctx) (off : Nat) (s : PState) (hp : c.Pre s) :
    Good F c s.pos s.log (special tyA2ml f32 builtin ty ctx off toks strict s) T := by
  unfold special
  split
  · exact a2mlBlock_good c ty ctx off s hp
  · exact ifDataBlock_good c hni f32 builtin ty ctx off s hp

end A2l.IfData

namespace A2l.Tree.PMRules
open A2l.IfData

variable {e : Env} {R : ∀ {α : Type}, PM α → Prop} (H : PMRules e R)
include H

theorem getFloat (f32 : List Char → Option (List Char)) (ctx : Ctx) : R (getFloat f32 ctx) := by
  refine H.bind (H.expectToken ctx 5) fun t => ?_
  cases f32 t.text with
  | none => exact H.fail _
  | some r => exact H.pure _

theorem skipComments (ctx : Ctx) : ∀ fuel, R (skipComments ctx fuel)
  | 0 => H.outOfFuel
  | fuel + 1 => H.peekToken_bind fun o => by
    cases o with
    | none => exact H.pure _
    | some t => exact of_ite (H.bind (H.getToken ctx) fun _ => PMRules.skipComments ctx fuel) (H.pure _)

theorem endOfTagged (newctx : Ctx) (tag : List Char) (isBlock : Bool) : R (endOfTagged newctx tag isBlock) :=
  of_ite (H.bind (H.expectToken newctx 2) fun _ => H.bind H.getLineOffset fun _ => H.bind (H.expectToken newctx 0) fun _ =>
    of_ite (H.bind (H.fail _) fun _ => H.pure _) (H.pure _)) (H.pure _)

end A2l.Tree.PMRules
