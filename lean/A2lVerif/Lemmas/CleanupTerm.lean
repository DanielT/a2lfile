import A2lVerif.Lemmas.Cleanup
/-! Termination of the work-queue loop of the cleanup model: the fuel of `Model/Cleanup.lean` is never exhausted.

Idea: order the items by their *first* pop (`ord`, a ghost list). An item `k` is pushed from `d` only if `k` lists
the name of `d` as a sub item and is empty, i.e. after the first pop of `d`: the first pop of `k` comes after the
first pop of `d`. With the weight `B ^ (n - position in ord)` (`B` larger than any `user_of` list, `n` the number
of children) every pop replaces one weight by at most `B - 1` strictly smaller ones, so the total weight of the
queue decreases. -/
namespace A2l.Cl

/-- position of `x` in `l` (`l.length` if absent) -/
def pos : List Nat → Nat → Nat
  | [], _ => 0
  | y :: ys, x => if y = x then 0 else pos ys x + 1

theorem pos_eq_idxOf (l : List Nat) (x : Nat) : pos l x = l.idxOf x := by
  induction l with
  | nil => rfl
  | cons y ys ih =>
    rw [pos, List.idxOf_cons, ih]
    by_cases h : y = x <;> simp [h, beq_eq_false_iff_ne.2]

theorem pos_le_length (l : List Nat) (x : Nat) : pos l x ≤ l.length :=
  pos_eq_idxOf l x ▸ List.idxOf_le_length

/-- the order of first pops after a pop of `d` -/
def addLast (ord : List Nat) (d : Nat) : List Nat := if d ∈ ord then ord else ord ++ [d]

theorem mem_addLast {ord : List Nat} {d x : Nat} : x ∈ addLast ord d ↔ x ∈ ord ∨ x = d := by
  unfold addLast
  split
  · rename_i hd
    exact ⟨Or.inl, fun h => h.elim id fun e => e ▸ hd⟩
  · rw [List.mem_append, List.mem_singleton]

theorem nodup_addLast {ord : List Nat} {d : Nat} (h : ord.Nodup) : (addLast ord d).Nodup := by
  unfold addLast
  split
  · exact h
  · rename_i hd
    exact List.nodup_append.2 ⟨h, List.nodup_cons.2 ⟨List.not_mem_nil, List.nodup_nil⟩,
      fun a ha b hb e => hd (List.mem_singleton.1 hb ▸ e ▸ ha)⟩

theorem idxOf_le_addLast (ord : List Nat) (d x : Nat) : ord.idxOf x ≤ (addLast ord d).idxOf x := by
  unfold addLast
  split
  · exact Nat.le_refl _
  · rw [List.idxOf_append]
    split
    · exact Nat.le_refl _
    · exact Nat.le_trans List.idxOf_le_length (Nat.le_add_left _ _)

theorem idxOf_addLast_of_mem {ord : List Nat} (d : Nat) {x : Nat} (h : x ∈ ord) : (addLast ord d).idxOf x = ord.idxOf x := by
  unfold addLast
  split
  · rfl
  · rw [List.idxOf_append, if_pos h]

theorem idxOf_addLast_self (ord : List Nat) (d : Nat) : (addLast ord d).idxOf d = ord.idxOf d := by
  by_cases hd : d ∈ ord
  · exact idxOf_addLast_of_mem d hd
  · rw [addLast, if_neg hd, List.idxOf_eq_length hd, List.idxOf_append, if_neg hd, List.idxOf_cons_self, Nat.zero_add]

/-- `ord` lists the popped indices in the order of their first pop; a user comes after the items it uses -/
structure Ghost (c : WL) (init : Module) (dels ord : List Nat) : Prop where
  nodup : ord.Nodup
  mem : ∀ x, x ∈ ord ↔ x ∈ dels
  order : ∀ k ∈ ord, ∀ d, k ∈ userOf c init d → d ∈ ord ∧ ord.idxOf d < ord.idxOf k

theorem Ghost.init (c : WL) (init : Module) : Ghost c init [] [] where
  nodup := List.nodup_nil
  mem := fun _ => Iff.rfl
  order := fun _ h => by cases h

/-- a pop of `d`, all items that `d` is a user of having been popped before (true of an empty item: `Inv.user_popped`) -/
theorem Ghost.push {c : WL} {init : Module} {dels ord : List Nat} {d : Nat} (hG : Ghost c init dels ord)
    (hd : ∀ d0, d ∈ userOf c init d0 → d0 ∈ dels) : Ghost c init (d :: dels) (addLast ord d) where
  nodup := nodup_addLast hG.nodup
  mem := fun x => by rw [mem_addLast, hG.mem, List.mem_cons, or_comm]
  order := by
    intro k hk d0 hu
    by_cases hko : k ∈ ord
    · obtain ⟨h1, h2⟩ := hG.order k hko d0 hu
      exact ⟨mem_addLast.2 (Or.inl h1), by rwa [idxOf_addLast_of_mem d h1, idxOf_addLast_of_mem d hko]⟩
    · obtain rfl : k = d := (mem_addLast.1 hk).resolve_left hko
      have hd0 : d0 ∈ ord := (hG.mem _).2 (hd d0 hu)
      refine ⟨mem_addLast.2 (Or.inl hd0), ?_⟩
      rw [idxOf_addLast_of_mem k hd0, idxOf_addLast_self, List.idxOf_eq_length hko]
      exact List.idxOf_lt_length_of_mem hd0

/-- an unused empty item has no sub reference left (`hsub`), so every item that a name of its initial sub list
    resolves to has been popped -/
theorem Inv.user_popped {c : WL} (hsub : c.subSite ∈ c.content) {used : List String} {init m : Module}
    {q dels : List Nat} (h : Inv c used init m q dels) {k d : Nat} {a : Node} (ha : m[k]? = some a)
    (hq : queueable c used a = true) (hu : k ∈ userOf c init d) : d ∈ dels := by
  obtain ⟨n, hn, ht, r, hr, hs, hidx⟩ := mem_userOf.1 hu
  rw [h.state, List.getElem?_map, hn] at ha
  simp only [Option.map_some, Option.some.injEq] at ha
  subst ha
  have hgone : r ∉ (removeSubs c (rmNames c init dels) n).refs := by
    intro hmem
    have := (queueable_iff.1 hq).2.2 r hmem
    rw [hs, List.contains_iff_mem.2 hsub] at this
    cases this
  rw [mem_removeSubs_refs] at hgone
  have : r.target ∈ rmNames c init dels := by
    apply Classical.byContradiction
    intro hn'
    exact hgone ⟨hr, fun hh => hn' hh.2.2⟩
  obtain ⟨d', hd', hidx'⟩ := mem_rmNames.1 this
  rw [hidx] at hidx'
  cases hidx'
  exact hd'

def wt (B n : Nat) (ord : List Nat) (x : Nat) : Nat := B ^ (n - ord.idxOf x)

def potential (B n : Nat) (ord : List Nat) (q : List Nat) : Nat := (q.map (wt B n ord)).sum

theorem potential_cons (B n : Nat) (ord : List Nat) (x : Nat) (q : List Nat) :
    potential B n ord (x :: q) = wt B n ord x + potential B n ord q := by
  simp [potential]

theorem wt_anti {B n : Nat} (hB : 0 < B) {ord ord' : List Nat} {x : Nat} (h : ord.idxOf x ≤ ord'.idxOf x) :
    wt B n ord' x ≤ wt B n ord x :=
  Nat.pow_le_pow_right hB (Nat.sub_le_sub_left h n)

theorem potential_anti {B n : Nat} (hB : 0 < B) {ord ord' : List Nat} (h : ∀ x, ord.idxOf x ≤ ord'.idxOf x)
    (q : List Nat) : potential B n ord' q ≤ potential B n ord q :=
  sum_map_le _ _ q fun x _ => wt_anti hB (h x)

theorem sum_map_filter_le (g : Nat → Nat) (p : Nat → Bool) (W : Nat) (users : List Nat)
    (hW : ∀ k ∈ users, p k = true → g k ≤ W) : ((users.filter p).map g).sum ≤ users.length * W := by
  have := sum_map_le g (fun _ => W) (users.filter p) fun k hk => hW k (List.mem_filter.1 hk).1 (List.mem_filter.1 hk).2
  rw [List.map_const', List.sum_replicate_nat] at this
  exact Nat.le_trans this (Nat.mul_le_mul_right W (List.length_filter_le p users))

theorem length_userOf_le (c : WL) (init : Module) (d : Nat) : (userOf c init d).length ≤ refCount init := by
  refine Nat.le_trans (length_flatMap_le_sum _ (fun p => p.1.refs.length) _ fun p _ => ?_) (Nat.le_of_eq ?_)
  · split
    · rw [List.length_map]; exact List.length_filter_le _ _
    · exact Nat.zero_le _
  · show (List.map ((fun n : Node => n.refs.length) ∘ Prod.fst) init.zipIdx).sum = _
    rw [← List.map_map, List.zipIdx_map_fst]
    rfl

theorem Inv.index_lt {c : WL} {used : List String} {init m : Module} {q dels : List Nat}
    (h : Inv c used init m q dels) {x : Nat} (hx : x ∈ q ++ dels) : x < init.length := by
  obtain ⟨n, hn, _⟩ := h.sound x hx
  rw [h.getElem?, Option.map_eq_some_iff] at hn
  obtain ⟨n0, hn0, _⟩ := hn
  exact (List.getElem?_eq_some_iff.1 hn0).1

theorem ghost_step {c : WL} (hsub : c.subSite ∈ c.content) {used : List String} {init m : Module} {d : Nat}
    {q dels ord : List Nat} (hI : Inv c used init m (d :: q) dels) (hG : Ghost c init dels ord)
    (B : Nat) (hB : (userOf c init d).length + 1 ≤ B) :
    let name := match m[d]? with
      | some n => n.name
      | none => ""
    let st := (userOf c init d).foldl (stepUser c used name) (m, q)
    Ghost c init (d :: dels) (addLast ord d) ∧
      potential B init.length (addLast ord d) st.2 + 1 ≤ potential B init.length ord (d :: q) := by
  intro name st
  obtain ⟨nd, hnd, hqd⟩ := hI.sound d (List.mem_append_left _ List.mem_cons_self)
  have hG' : Ghost c init (d :: dels) (addLast ord d) := hG.push fun d0 hu => hI.user_popped hsub hnd hqd hu
  refine ⟨hG', ?_⟩
  have hBpos : 0 < B := Nat.lt_of_lt_of_le (Nat.succ_pos _) hB
  -- `d` sits at a position below the number of children
  have hdmem : d ∈ addLast ord d := mem_addLast.2 (Or.inr rfl)
  have hlen : (addLast ord d).length ≤ init.length := by
    have := hG'.nodup.length_le_of_subset (l₂ := List.range init.length) fun x hx =>
      List.mem_range.2 (hI.index_lt (by
        rcases List.mem_cons.1 ((hG'.mem x).1 hx) with rfl | hx'
        · exact List.mem_append_left _ List.mem_cons_self
        · exact List.mem_append_right _ hx'))
    rwa [List.length_range] at this
  have hp : (addLast ord d).idxOf d < init.length := Nat.lt_of_lt_of_le (List.idxOf_lt_length_of_mem hdmem) hlen
  have hd : wt B init.length ord d = B ^ (init.length - (addLast ord d).idxOf d - 1) * B := by
    rw [wt, ← idxOf_addLast_self ord d, ← Nat.pow_succ, Nat.succ_eq_add_one,
      Nat.sub_add_cancel (Nat.sub_pos_of_lt hp)]
  -- the pushed indices are later in the order than `d`
  have hpush : ∀ k ∈ userOf c init d, pushed c used name m k = true →
      wt B init.length (addLast ord d) k ≤ B ^ (init.length - (addLast ord d).idxOf d - 1) := by
    intro k hk _
    have hlt : (addLast ord d).idxOf d < (addLast ord d).idxOf k := by
      by_cases hko : k ∈ addLast ord d
      · exact (hG'.order k hko d hk).2
      · rw [List.idxOf_eq_length hko]; exact List.idxOf_lt_length_of_mem hdmem
    rw [Nat.sub_sub]
    exact Nat.pow_le_pow_right hBpos (Nat.sub_le_sub_left hlt _)
  have hWpos : 0 < B ^ (init.length - (addLast ord d).idxOf d - 1) := Nat.pow_pos hBpos
  generalize B ^ (init.length - (addLast ord d).idxOf d - 1) = W at hd hpush hWpos
  have h1 := sum_map_filter_le (wt B init.length (addLast ord d)) _ W (userOf c init d) hpush
  have h2 := potential_anti (n := init.length) hBpos (idxOf_le_addLast ord d) q
  have h3 : (userOf c init d).length * W + W ≤ W * B := by
    rw [Nat.mul_comm W B, ← Nat.succ_mul]
    exact Nat.mul_le_mul_right _ hB
  have hst : st.2 = ((userOf c init d).filter (pushed c used name m)).reverse ++ q :=
    congrArg Prod.snd (foldl_stepUser name _ (m, q) (fun _ => rfl))
  rw [potential_cons, hd, hst]
  unfold potential at h2 ⊢
  rw [List.map_append, List.sum_append, List.map_reverse, List.sum_reverse]
  omega

theorem loop_drains {c : WL} (hsub : c.subSite ∈ c.content) (used : List String) (init : Module) (B : Nat)
    (hB : refCount init + 1 ≤ B) (fuel : Nat) (m : Module) (q dels ord : List Nat)
    (hI : Inv c used init m q dels) (hG : Ghost c init dels ord)
    (hfuel : potential B init.length ord q < fuel) : (loop c used init fuel m q dels).2.2 = true := by
  induction fuel generalizing m q dels ord with
  | zero => omega
  | succ fuel ih =>
    cases q with
    | nil => rfl
    | cons d q =>
      have hBd : (userOf c init d).length + 1 ≤ B := by
        have := length_userOf_le c init d
        omega
      obtain ⟨hG', hpot⟩ := ghost_step hsub hI hG B hBd
      exact ih _ _ _ _ hI.step hG' (Nat.lt_of_succ_le (Nat.le_trans hpot (Nat.le_of_lt_succ hfuel)))

theorem length_initQueue_le (c : WL) (used : List String) (m : Module) : (initQueue c used m).length ≤ m.length := by
  unfold initQueue
  rw [List.length_reverse, List.length_map]
  have := List.length_filter_le (fun p : Node × Nat => queueable c used p.1) m.zipIdx
  rw [List.length_zipIdx] at this
  exact this

theorem potential_nil_ord (B n : Nat) (q : List Nat) : potential B n [] q = q.length * B ^ n := by
  unfold potential wt
  simp only [List.idxOf_nil, Nat.sub_zero]
  rw [List.map_const', List.sum_replicate_nat]

/-- **the fuel of the model is never exhausted**: the work queue of a pass is always drained. `fuel m` is one more than
    the bound `m.length * B ^ m.length` on the initial potential, for `B = refCount m + 2`. -/
theorem drained_true {c : WL} (hsub : c.subSite ∈ c.content) (m : Module) : drained c m = true := by
  unfold drained runLoop
  apply loop_drains hsub _ m (refCount m + 2) (by omega) _ m _ [] [] Inv.init (Ghost.init c m)
  rw [potential_nil_ord]
  unfold fuel
  have := length_initQueue_le c (targetsOf c.usedSel m) m
  have := Nat.mul_le_mul_right ((refCount m + 2) ^ m.length) this
  omega

theorem queuesDrained_true (m : Module) : queuesDrained m = true := by
  unfold queuesDrained
  rw [drained_true List.mem_cons_self, drained_true (by simp [functionWL])]
  rfl

end A2l.Cl
