import A2lVerif.Model.Cleanup
import A2lVerif.Lemmas.Basics
/-! Lemmas about the cleanup model (`Model/Cleanup.lean`): the work-queue loop through its invariant `Inv`, the unit
closure as reachability (`UReach`), and for each of the three operations the passes are made of (`dropRefs`,
`retainNodes`, `deleteEmpty`) the relations that `Lemmas/CleanupPass.lean` carries along the passes: `only q` (which
keywords it touches), `Sub` (children and references are only removed), `Pres` (no reference starts to dangle). -/
namespace A2l.Cl

/-- identity of a module child -/
def key (n : Node) : String × String := (n.tag, n.name)

def only (q : String → Bool) (m : Module) : Module := m.filter fun n => q n.tag

theorem wellSited_iff {m : Module} :
    wellSited m = true ↔ ∀ n ∈ m, ∀ r ∈ n.refs, siteOk n.tag r.site = true := by
  simp only [wellSited, List.all_eq_true]

theorem consistent_iff {m : Module} : consistent m = true ↔ ∀ n ∈ m, ∀ r ∈ n.refs, resolves m r = true := by
  simp only [consistent, List.all_eq_true]

section
variable {tags : List String} {sel : Sel} {m : Module}

theorem mem_namesOf {x : String} :
    x ∈ namesOf tags m ↔ ∃ n ∈ m, n.tag ∈ tags ∧ n.name = x := by
  simp only [namesOf, List.mem_map, List.mem_filter, List.contains_iff_mem, and_assoc]

theorem mem_targetsOf {x : String} :
    x ∈ targetsOf sel m ↔ ∃ n ∈ m, ∃ r ∈ n.refs, (n.tag, r.site) ∈ sel ∧ r.target = x := by
  simp only [targetsOf, List.mem_flatMap, List.mem_map, List.mem_filter, List.contains_iff_mem, and_assoc]

theorem namesOf_only (tags : List String) (q : String → Bool) (m : Module) (h : ∀ t ∈ tags, q t = true) :
    namesOf tags (only q m) = namesOf tags m := by
  unfold namesOf only
  rw [List.filter_filter]
  congr 1
  apply List.filter_congr
  intro n _
  by_cases ht : tags.contains n.tag = true
  · rw [ht, h n.tag (List.contains_iff_mem.1 ht)]; rfl
  · simp only [Bool.not_eq_true] at ht; rw [ht]; rfl

theorem targetsOf_nil (sel : Sel) : targetsOf sel [] = [] := rfl
theorem targetsOf_cons (sel : Sel) (n : Node) (m : Module) :
    targetsOf sel (n :: m) = ((n.refs.filter fun r => sel.contains (n.tag, r.site)).map (·.target)) ++ targetsOf sel m := by
  simp only [targetsOf, List.flatMap_cons]

/-- sums of pointwise smaller numbers -/
theorem sum_map_le {α : Type} (f g : α → Nat) (l : List α) (h : ∀ x ∈ l, f x ≤ g x) : (l.map f).sum ≤ (l.map g).sum := by
  induction l with
  | nil => exact Nat.le_refl _
  | cons x l ih =>
    rw [List.map_cons, List.sum_cons, List.map_cons, List.sum_cons]
    exact Nat.add_le_add (h x List.mem_cons_self) (ih fun y hy => h y (List.mem_cons_of_mem _ hy))

/-- a list made of pieces, each no longer than the weight of what it is made from -/
theorem length_flatMap_le_sum {α β : Type} (f : α → List β) (w : α → Nat) (l : List α)
    (h : ∀ x ∈ l, (f x).length ≤ w x) : (l.flatMap f).length ≤ (l.map w).sum :=
  List.length_flatMap ▸ sum_map_le _ w l h

theorem length_targetsOf_le (sel : Sel) (m : Module) : (targetsOf sel m).length ≤ refCount m :=
  length_flatMap_le_sum _ _ m fun n _ => by rw [List.length_map]; exact List.length_filter_le _ _

theorem targetsOf_only (sel : Sel) (q : String → Bool) (m : Module) (h : ∀ p ∈ sel, q p.1 = true) :
    targetsOf sel (only q m) = targetsOf sel m := by
  unfold only
  induction m with
  | nil => rfl
  | cons n m ih =>
    rw [List.filter_cons]
    split
    · rw [targetsOf_cons, targetsOf_cons, ih]
    · rename_i hq
      have : (n.refs.filter fun r => sel.contains (n.tag, r.site)) = [] := by
        rw [List.filter_eq_nil_iff]
        intro r _ hc
        exact hq (h _ (List.contains_iff_mem.1 hc))
      rw [targetsOf_cons, this, ih]; rfl

theorem namesOf_eq_of_only (q : String → Bool) {m m' : Module} (h : ∀ t ∈ tags, q t = true)
    (e : only q m' = only q m) : namesOf tags m' = namesOf tags m := by
  rw [← namesOf_only tags q m h, ← namesOf_only tags q m' h, e]

theorem targetsOf_eq_of_only (q : String → Bool) {m m' : Module} (h : ∀ p ∈ sel, q p.1 = true)
    (e : only q m' = only q m) : targetsOf sel m' = targetsOf sel m := by
  rw [← targetsOf_only sel q m h, ← targetsOf_only sel q m' h, e]

theorem only_eq_weaken {q q' : String → Bool} {m m' : Module} (h : ∀ t, q' t = true → q t = true)
    (e : only q m' = only q m) : only q' m' = only q' m := by
  have : ∀ m, only q' m = only q' (only q m) := by
    intro m
    simp only [only, List.filter_filter]
    apply List.filter_congr
    intro n _
    show q' n.tag = (q' n.tag && q n.tag)
    cases hq : q' n.tag
    · rfl
    · rw [h _ hq]; rfl
  rw [this m, this m', e]

end

section
variable {sel : Sel} {keep : String → Bool} {m : Module} {n n' : Node} {r : Ref}

/-- the shape of the tests in `dropRefs` and `retainNodes`: keep unless selected and not wanted -/
theorem not_contains_or {α : Type} [BEq α] [LawfulBEq α] (l : List α) (x : α) (b : Bool) :
    (!l.contains x || b) = true ↔ (x ∈ l → b = true) := by
  rw [← List.contains_iff_mem]
  cases l.contains x <;> simp

def dropIn (sel : Sel) (keep : String → Bool) (n : Node) : Node :=
  { n with refs := n.refs.filter fun r => !sel.contains (n.tag, r.site) || keep r.target }

theorem dropRefs_eq_map : dropRefs sel keep m = m.map (dropIn sel keep) := rfl

@[simp] theorem dropIn_tag (sel : Sel) (keep : String → Bool) (n : Node) : (dropIn sel keep n).tag = n.tag := rfl
@[simp] theorem dropIn_name (sel : Sel) (keep : String → Bool) (n : Node) : (dropIn sel keep n).name = n.name := rfl

theorem keys_dropRefs : ((dropRefs sel keep m).map key).Sublist (m.map key) := by
  rw [dropRefs_eq_map, List.map_map]; exact List.Sublist.refl _

theorem only_dropRefs (q : String → Bool) :
    only q (dropRefs sel keep m) = dropRefs sel keep (only q m) := by
  simp only [only, dropRefs_eq_map, List.filter_map]; rfl

theorem dropIn_eq_self (h : ∀ r ∈ n.refs, (n.tag, r.site) ∈ sel → keep r.target = true) : dropIn sel keep n = n := by
  unfold dropIn
  rw [List.filter_eq_self.2 fun r hr => (not_contains_or ..).2 (h r hr)]

theorem dropRefs_eq_self
    (h : ∀ n ∈ m, ∀ r ∈ n.refs, (n.tag, r.site) ∈ sel → keep r.target = true) : dropRefs sel keep m = m := by
  rw [dropRefs_eq_map]
  conv => rhs; rw [← List.map_id m]
  apply List.map_congr_left
  intro n hn
  exact dropIn_eq_self (h n hn)

theorem only_dropRefs_untouched (q : String → Bool)
    (h : ∀ p ∈ sel, q p.1 = false) : only q (dropRefs sel keep m) = only q m := by
  rw [only_dropRefs]
  apply dropRefs_eq_self
  intro n hn r _ hs
  have : q n.tag = true := by simpa [only] using (List.mem_filter.1 hn).2
  rw [h _ hs] at this
  cases this

theorem mem_dropRefs : n' ∈ dropRefs sel keep m ↔ ∃ n ∈ m, n' = dropIn sel keep n := by
  simp only [dropRefs_eq_map, List.mem_map, eq_comm]

theorem mem_dropIn_refs :
    r ∈ (dropIn sel keep n).refs ↔ r ∈ n.refs ∧ ((n.tag, r.site) ∈ sel → keep r.target = true) := by
  unfold dropIn
  rw [List.mem_filter, not_contains_or]

end

section
variable {tags : List String} {keep : String → Bool} {m : Module} {n : Node}

theorem keys_retainNodes : ((retainNodes tags keep m).map key).Sublist (m.map key) := List.filter_sublist.map key

theorem mem_retainNodes : n ∈ retainNodes tags keep m ↔ n ∈ m ∧ (n.tag ∈ tags → keep n.name = true) := by
  unfold retainNodes
  rw [List.mem_filter, not_contains_or]

theorem retainNodes_eq_self (h : ∀ n ∈ m, n.tag ∈ tags → keep n.name = true) : retainNodes tags keep m = m := by
  unfold retainNodes
  rw [List.filter_eq_self.2 fun n hn => (not_contains_or ..).2 (h n hn)]

theorem only_retainNodes_untouched (q : String → Bool)
    (h : ∀ t ∈ tags, q t = false) : only q (retainNodes tags keep m) = only q m := by
  unfold only retainNodes
  rw [List.filter_filter]
  apply List.filter_congr
  intro n _
  cases hq : q n.tag
  · rfl
  · cases hc : tags.contains n.tag
    · rfl
    · rw [h _ (List.contains_iff_mem.1 hc)] at hq; cases hq

end

section
variable {c : WL} {m : Module} {n : Node}

theorem mem_idxsOf {name : String} {j : Nat} :
    j ∈ idxsOf c m name ↔ ∃ n, m[j]? = some n ∧ n.tag = c.tag ∧ n.name = name := by
  simp only [idxsOf, List.mem_map, List.mem_filter, List.mem_zipIdx_iff_getElem?, Prod.exists, Bool.and_eq_true,
    beq_iff_eq, exists_eq_right]

theorem indexOf_some {name : String} {j : Nat} (h : indexOf c m name = some j) :
    ∃ n, m[j]? = some n ∧ n.tag = c.tag ∧ n.name = name := by
  unfold indexOf at h
  split at h
  · exact mem_idxsOf.1 (List.mem_of_getLast? h)
  · exact mem_idxsOf.1 (List.mem_of_head? h)

theorem indexOf_exists {name : String} {i : Nat}
    (h : m[i]? = some n) (ht : n.tag = c.tag) (hn : n.name = name) : ∃ j, indexOf c m name = some j := by
  have hi : i ∈ idxsOf c m name := mem_idxsOf.2 ⟨n, h, ht, hn⟩
  unfold indexOf
  split
  · cases hl : (idxsOf c m name).getLast? with
    | some j => exact ⟨j, rfl⟩
    | none => rw [List.getLast?_eq_none_iff.1 hl] at hi; cases hi
  · cases hl : (idxsOf c m name).head? with
    | some j => exact ⟨j, rfl⟩
    | none => rw [List.head?_eq_none_iff.1 hl] at hi; cases hi

theorem mem_userOf {init : Module} {d k : Nat} :
    k ∈ userOf c init d ↔ ∃ n, init[k]? = some n ∧ n.tag = c.tag ∧
      ∃ r ∈ n.refs, r.site = c.subSite ∧ indexOf c init r.target = some d := by
  simp only [userOf, List.mem_flatMap, Prod.exists, List.mem_zipIdx_iff_getElem?, List.mem_ite_nil_right,
    List.mem_map, List.mem_filter, Bool.and_eq_true, beq_iff_eq]
  constructor
  · rintro ⟨n, i, h1, ht, r, hr, rfl⟩
    exact ⟨n, h1, ht, r, hr⟩
  · rintro ⟨n, h1, ht, r, hr⟩
    exact ⟨n, k, h1, ht, r, hr, rfl⟩

end

section
variable {c : WL} {used names : List String} {n : Node} {r : Ref}

def removeSubs (c : WL) (names : List String) (n : Node) : Node :=
  if n.tag == c.tag then
    { n with refs := n.refs.filter fun r => !(r.site == c.subSite && names.contains r.target) }
  else n

@[simp] theorem removeSubs_tag : (removeSubs c names n).tag = n.tag := by
  unfold removeSubs; split <;> rfl
@[simp] theorem removeSubs_name : (removeSubs c names n).name = n.name := by
  unfold removeSubs; split <;> rfl

theorem removeSub_eq (nm : String) : removeSub c nm n = removeSubs c [nm] n := by
  unfold removeSub removeSubs
  split
  · congr 1
    apply List.filter_congr
    intro r _
    by_cases h : r.target = nm <;> simp [h]
  · rfl

theorem removeSubs_append (a b : List String) :
    removeSubs c (a ++ b) n = removeSubs c a (removeSubs c b n) := by
  unfold removeSubs
  by_cases ht : (n.tag == c.tag) = true
  · simp only [ht, if_true, List.filter_filter]
    congr 1
    apply List.filter_congr
    intro r _
    rw [List.contains_append]
    cases (r.site == c.subSite) <;> cases (a.contains r.target) <;> cases (b.contains r.target) <;> rfl
  · have hf : (n.tag == c.tag) = false := by simpa using ht
    simp [hf]

theorem mem_removeSubs_refs :
    r ∈ (removeSubs c names n).refs ↔ r ∈ n.refs ∧ ¬(n.tag = c.tag ∧ r.site = c.subSite ∧ r.target ∈ names) := by
  unfold removeSubs
  by_cases ht : n.tag = c.tag
  · simp [ht, List.mem_filter]
    intro _
    by_cases hA : r.site = c.subSite <;> simp [hA]
  · simp [ht]

theorem removeSubs_refs_sublist (c : WL) (names : List String) (n : Node) :
    (removeSubs c names n).refs.Sublist n.refs := by
  unfold removeSubs
  split
  · exact List.filter_sublist
  · exact List.Sublist.refl _

theorem removeSubs_eq_self
    (h : ¬(n.tag = c.tag ∧ ∃ r ∈ n.refs, r.site = c.subSite ∧ r.target ∈ names)) : removeSubs c names n = n := by
  unfold removeSubs
  split
  · rename_i ht
    rw [List.filter_eq_self.2 fun r hr => by
      rw [Bool.not_eq_true', Bool.eq_false_iff, ne_eq, Bool.and_eq_true, beq_iff_eq, List.contains_iff_mem]
      exact fun hs => h ⟨beq_iff_eq.1 ht, r, hr, hs⟩]
  · rfl

theorem queueable_iff :
    queueable c used n = true ↔ n.tag = c.tag ∧ n.name ∉ used ∧ ∀ r ∈ n.refs, c.content.contains r.site = false := by
  simp only [queueable, isEmpty, Bool.and_eq_true, beq_iff_eq, Bool.not_eq_true', List.all_eq_true, ← Bool.not_eq_true,
    List.contains_iff_mem, and_assoc]

theorem queueable_removeSubs (h : queueable c used n = true) : queueable c used (removeSubs c names n) = true := by
  rw [queueable_iff, removeSubs_tag, removeSubs_name] at *
  exact ⟨h.1, h.2.1, fun r hr => h.2.2 r (mem_removeSubs_refs.1 hr).1⟩

end

section
variable {c : WL} {used : List String} {m : Module}

theorem removeSub_idem (c : WL) (nm : String) (n : Node) : removeSub c nm (removeSub c nm n) = removeSub c nm n := by
  rw [removeSub_eq, removeSub_eq]
  apply removeSubs_eq_self
  rintro ⟨ht, r, hr, hs, hn⟩
  exact (mem_removeSubs_refs.1 hr).2 ⟨removeSubs_tag ▸ ht, hs, hn⟩

/-- the entry `k` of `user_of[d]` is pushed: the item at `k`, its sub references to `nm` removed, is unused and empty -/
def pushed (c : WL) (used : List String) (nm : String) (m : Module) (k : Nat) : Bool :=
  m[k]?.any fun n => queueable c used (removeSub c nm n)

theorem pushed_iff {nm : String} {k : Nat} :
    pushed c used nm m k = true ↔ ∃ n, m[k]? = some n ∧ queueable c used (removeSub c nm n) = true := by
  unfold pushed
  rw [Option.any_eq_true]

theorem stepUser_eq (nm : String) (st : Module × List Nat) (k : Nat)
    (hm : st.1[k]?.map (removeSub c nm) = m[k]?.map (removeSub c nm)) :
    stepUser c used nm st k = (st.1.modify k (removeSub c nm), if pushed c used nm m k then k :: st.2 else st.2) := by
  unfold stepUser pushed
  simp only [List.getElem?_modify_eq, Option.map_eq_map, hm]
  cases m[k]? with
  | none => rfl
  | some b =>
    simp only [Option.map_some, Option.any_some]
    split <;> rfl

/-- The effect of `for refidx in &user_of[del_idx]`. `m` is the state before the loop; the current items may differ
    from it by sub references to `nm` already removed, since an index may occur twice in `user_of`. -/
theorem foldl_stepUser (nm : String) (users : List Nat)
    (st : Module × List Nat) (hm : ∀ i : Nat, st.1[i]?.map (removeSub c nm) = m[i]?.map (removeSub c nm)) :
    users.foldl (stepUser c used nm) st =
      (users.foldl (fun m k => m.modify k (removeSub c nm)) st.1,
        (users.filter (pushed c used nm m)).reverse ++ st.2) := by
  induction users generalizing st with
  | nil => rfl
  | cons k ks ih =>
    rw [List.foldl_cons, stepUser_eq nm st k (hm k), ih]
    · rw [List.foldl_cons, List.filter_cons]
      split <;> simp
    · intro i
      rw [List.getElem?_modify, ← hm i]
      cases st.1[i]? with
      | none => rfl
      | some a => split <;> simp [removeSub_idem]

theorem getElem?_foldl_modify (f : Node → Node) (hf : ∀ x, f (f x) = f x) (users : List Nat) (i : Nat) :
    (users.foldl (fun m k => m.modify k f) m)[i]? = if i ∈ users then m[i]?.map f else m[i]? := by
  induction users generalizing m with
  | nil => simp
  | cons k ks ih =>
    rw [List.foldl_cons, ih, List.getElem?_modify]
    cases hm : m[i]? with
    | none => simp
    | some a =>
      by_cases hk : k = i
      · subst hk; simp [hf]
      · have hk' : ¬ i = k := fun h => hk h.symm
        simp [hk, hk']

end

section
variable {c : WL} {used : List String} {m : Module} {t : String}

/-- the names whose sub references have been removed: the names of the popped items that are the item their name
    resolves to -/
def rmNames (c : WL) (init : Module) (dels : List Nat) : List String :=
  dels.filterMap fun d => match init[d]? with
    | some n => if indexOf c init n.name = some d then some n.name else none
    | none => none

theorem mem_rmNames {init : Module} {dels : List Nat} :
    t ∈ rmNames c init dels ↔ ∃ d ∈ dels, indexOf c init t = some d := by
  unfold rmNames
  rw [List.mem_filterMap]
  constructor
  · rintro ⟨d, hd, h⟩
    cases hi : init[d]? with
    | none => rw [hi] at h; cases h
    | some n =>
      rw [hi] at h
      simp only at h
      split at h
      · rename_i hidx
        cases h
        exact ⟨d, hd, hidx⟩
      · cases h
  · rintro ⟨d, hd, hidx⟩
    obtain ⟨n, hn, _, hname⟩ := indexOf_some hidx
    refine ⟨d, hd, ?_⟩
    rw [hn]
    simp only [hname, hidx, if_true]

/-- invariant of `loop` between two pops (`q` the delete queue, `dels` the indices popped so far, i.e. flagged in
    `to_delete`): queue and flagged indices together are exactly the unused empty items of the current state -/
structure Inv (c : WL) (used : List String) (init : Module) (m : Module) (q dels : List Nat) : Prop where
  state : m = init.map (removeSubs c (rmNames c init dels))
  sound : ∀ d ∈ q ++ dels, ∃ n, m[d]? = some n ∧ queueable c used n = true
  complete : ∀ (i : Nat) (n : Node), m[i]? = some n → queueable c used n = true → i ∈ q ++ dels

theorem mem_initQueue {i : Nat} :
    i ∈ initQueue c used m ↔ ∃ n, m[i]? = some n ∧ queueable c used n = true := by
  simp only [initQueue, List.mem_reverse, List.mem_map, List.mem_filter, List.mem_zipIdx_iff_getElem?, Prod.exists,
    exists_eq_right]

theorem Inv.init : Inv c used m m (initQueue c used m) [] where
  state := by
    show m = m.map (removeSubs c [])
    rw [List.map_congr_left fun n _ => removeSubs_eq_self fun ⟨_, _, _, _, h⟩ => nomatch h]
    exact (List.map_id' m).symm
  sound := fun d hd => mem_initQueue.1 (by rwa [List.append_nil] at hd)
  complete := fun i n h1 h2 => by rw [List.append_nil]; exact mem_initQueue.2 ⟨n, h1, h2⟩

theorem Inv.getElem? {init m : Module} {q dels : List Nat}
    (h : Inv c used init m q dels) (i : Nat) : m[i]? = init[i]?.map (removeSubs c (rmNames c init dels)) := by
  rw [← List.getElem?_map, ← h.state]

/-- `hr` is the negated hypothesis of `removeSubs_eq_self` for the names `[nm]`, the form in which `Inv.step` has it -/
theorem Inv.isUser {init m : Module} {q dels : List Nat}
    (h : Inv c used init m q dels) {i d : Nat} {a : Node} {nm : String} (ha : m[i]? = some a)
    (hidx : indexOf c init nm = some d)
    (hr : a.tag = c.tag ∧ ∃ r ∈ a.refs, r.site = c.subSite ∧ r.target ∈ [nm]) : i ∈ userOf c init d := by
  obtain ⟨ht, r, hr, hs, hn⟩ := hr
  rw [List.mem_singleton] at hn
  rw [h.getElem?, Option.map_eq_some_iff] at ha
  obtain ⟨ni, hi, rfl⟩ := ha
  exact mem_userOf.2 ⟨ni, hi, (removeSubs_tag ..).symm.trans ht, r, (mem_removeSubs_refs.1 hr).1, hs, hn ▸ hidx⟩

theorem Inv.step {init m : Module} {d : Nat} {q dels : List Nat}
    (h : Inv c used init m (d :: q) dels) :
    let name := match m[d]? with
      | some n => n.name
      | none => ""
    let st := (userOf c init d).foldl (stepUser c used name) (m, q)
    Inv c used init st.1 st.2 (d :: dels) := by
  obtain ⟨nd, hnd, hqd⟩ := h.sound d (List.mem_append_left _ List.mem_cons_self)
  simp only [hnd]
  rw [foldl_stepUser nd.name _ (m, q) (fun _ => rfl)]
  -- the initial item at d has the same name
  have hnd' := hnd
  rw [h.getElem?, Option.map_eq_some_iff] at hnd'
  obtain ⟨n0, hi, rfl⟩ := hnd'
  rw [removeSubs_name] at *
  -- queued or flagged after the pop: whatever is so before it, and the indices `l` it pushes
  have hperm : ∀ {l : List Nat} {x : Nat}, x ∈ (l ++ q) ++ d :: dels ↔ x ∈ l ∨ x ∈ (d :: q) ++ dels := by
    simp only [List.mem_append, List.mem_cons, or_assoc, or_left_comm, implies_true]
  by_cases hidx : indexOf c init n0.name = some d
  · -- `d` is the item its name resolves to: the sub references to that name go
    have hrm : rmNames c init (d :: dels) = [n0.name] ++ rmNames c init dels := by
      unfold rmNames
      rw [List.filterMap_cons]
      simp only [hi, hidx, if_true, List.singleton_append]
    have hA : (userOf c init d).foldl (fun m k => m.modify k (removeSub c n0.name)) m =
        m.map (removeSub c n0.name) := by
      apply List.ext_getElem?
      intro i
      rw [getElem?_foldl_modify _ (removeSub_idem c _), List.getElem?_map]
      split
      · rfl
      · rename_i hni
        cases hmi : m[i]? with
        | none => rfl
        | some a =>
          rw [Option.map_some, removeSub_eq, removeSubs_eq_self (fun hr => hni (h.isUser hmi hidx hr))]
    rw [hA]
    refine ⟨?_, ?_, ?_⟩
    · rw [hrm, h.state, List.map_map]
      apply List.map_congr_left
      intro n _
      rw [Function.comp, removeSubs_append, removeSub_eq]
    · intro x hx
      rw [List.getElem?_map]
      rcases hperm.1 hx with hx | hx
      · rw [List.mem_reverse, List.mem_filter, pushed_iff] at hx
        obtain ⟨_, n, hn, hq⟩ := hx
        exact ⟨_, by rw [hn]; rfl, hq⟩
      · obtain ⟨n, hn, hq⟩ := h.sound x hx
        exact ⟨_, by rw [hn]; rfl, removeSub_eq _ ▸ queueable_removeSubs hq⟩
    · intro i n' hi' hq'
      rw [List.getElem?_map, Option.map_eq_some_iff] at hi'
      obtain ⟨a, hmi, rfl⟩ := hi'
      by_cases hqa : queueable c used a = true
      · exact hperm.2 (Or.inr (h.complete i a hmi hqa))
      · -- the item became empty by this pop: it is a user of `d`
        have hr : a.tag = c.tag ∧ ∃ r ∈ a.refs, r.site = c.subSite ∧ r.target ∈ [n0.name] := by
          apply Classical.byContradiction
          intro hr
          rw [removeSub_eq, removeSubs_eq_self hr] at hq'
          exact hqa hq'
        refine hperm.2 (Or.inl ?_)
        rw [List.mem_reverse, List.mem_filter, pushed_iff]
        exact ⟨h.isUser hmi hidx hr, a, hmi, hq'⟩
  · -- another item has that name: nothing refers to `d`, nothing changes
    have hu : userOf c init d = [] := by
      rw [List.eq_nil_iff_forall_not_mem]
      intro k hk
      obtain ⟨_, _, _, r, _, _, hri⟩ := mem_userOf.1 hk
      obtain ⟨n', hn', _, hn'n⟩ := indexOf_some hri
      rw [hi] at hn'
      cases hn'
      exact hidx (hn'n ▸ hri)
    have hrm : rmNames c init (d :: dels) = rmNames c init dels := by
      unfold rmNames
      rw [List.filterMap_cons]
      simp only [hi, hidx, if_false]
    rw [hu]
    exact ⟨by rw [hrm]; exact h.state, fun x hx => h.sound x ((hperm.1 hx).resolve_left List.not_mem_nil),
      fun i n hi' hq' => hperm.2 (Or.inr (h.complete i n hi' hq'))⟩

theorem loop_inv (init : Module) (fuel : Nat) (q dels : List Nat)
    (h : Inv c used init m q dels) :
    ∃ q', Inv c used init (loop c used init fuel m q dels).1 q' (loop c used init fuel m q dels).2.1 ∧
      ((loop c used init fuel m q dels).2.2 = true → q' = []) := by
  induction fuel generalizing m q dels with
  | zero => exact ⟨q, h, fun hq => List.isEmpty_iff.1 hq⟩
  | succ fuel ih =>
    cases q with
    | nil => exact ⟨[], h, fun _ => rfl⟩
    | cons d q => exact ih _ _ h.step

end

section
variable {c : WL} {used names T : List String} {m s : Module} {n n' : Node} {r : Ref}

theorem mem_dropIdx {dels : List Nat} :
    n ∈ dropIdx c dels m ↔ ∃ i : Nat, m[i]? = some n ∧ ¬(n.tag = c.tag ∧ i ∈ dels) := by
  simp only [dropIdx, List.mem_map, List.mem_filter, List.mem_zipIdx_iff_getElem?, Prod.exists, Bool.not_eq_true',
    Bool.and_eq_false_iff, beq_eq_false_iff_ne, ne_eq, List.contains_eq_mem, decide_eq_false_iff_not,
    ← Decidable.not_and_iff_not_or_not, exists_and_right, exists_eq_right]

theorem dropIdx_eq (dels : List Nat) :
    dropIdx c dels m = (m.zipIdx.filter fun p => !(p.1.tag == c.tag && dels.contains p.2)).map (·.1) := rfl

theorem dropIdx_sublist (c : WL) (dels : List Nat) (m : Module) : (dropIdx c dels m).Sublist m := by
  rw [dropIdx_eq]
  conv => rhs; rw [← List.zipIdx_map_fst 0 m]
  exact List.filter_sublist.map _

theorem only_dropIdx_untouched (q : String → Bool) (dels : List Nat) (h : q c.tag = false) :
    only q (dropIdx c dels m) = only q m := by
  unfold only
  rw [dropIdx_eq]
  conv => rhs; rw [← List.zipIdx_map_fst 0 m]
  rw [List.filter_map, List.filter_map, List.filter_filter]
  congr 1
  apply List.filter_congr
  intro p _
  simp only [Function.comp]
  cases hq : q p.1.tag
  · rfl
  · have : (p.1.tag == c.tag) = false := beq_eq_false_iff_ne.2 fun he => by rw [he, h] at hq; cases hq
    rw [this]; rfl

theorem run_spec (c : WL) (s : Module) :
    ∃ q', Inv c (targetsOf c.usedSel s) s (runLoop c s).1 q' (runLoop c s).2.1 ∧
      ((runLoop c s).2.2 = true → q' = []) :=
  loop_inv s (fuel s) _ [] Inv.init

theorem mem_deleteEmpty :
    n' ∈ deleteEmpty c s ↔ ∃ (i : Nat) (n : Node), s[i]? = some n ∧ ¬(n.tag = c.tag ∧ i ∈ (runLoop c s).2.1) ∧
      n' = removeSubs c (rmNames c s (runLoop c s).2.1) n := by
  obtain ⟨q', hinv, _⟩ := run_spec c s
  unfold deleteEmpty
  simp only [mem_dropIdx, hinv.getElem?, Option.map_eq_some_iff]
  constructor
  · rintro ⟨i, ⟨n, hn, rfl⟩, hnot⟩
    exact ⟨i, n, hn, by rwa [removeSubs_tag] at hnot, rfl⟩
  · rintro ⟨i, n, hn, hnot, rfl⟩
    exact ⟨i, ⟨n, hn, rfl⟩, by rwa [removeSubs_tag]⟩

theorem only_map_removeSubs_untouched (q : String → Bool)
    (h : q c.tag = false) : only q (m.map (removeSubs c names)) = only q m := by
  unfold only
  rw [List.filter_map]
  have : ((fun n : Node => q n.tag) ∘ removeSubs c names) = fun n => q n.tag := by
    funext n; simp [Function.comp]
  rw [this]
  conv => rhs; rw [← List.map_id (List.filter (fun n => q n.tag) m)]
  apply List.map_congr_left
  intro n hn
  have hq : q n.tag = true := (List.mem_filter.1 hn).2
  apply removeSubs_eq_self
  rintro ⟨ht, _⟩
  rw [ht, h] at hq
  cases hq

theorem only_deleteEmpty_untouched (q : String → Bool) (h : q c.tag = false) :
    only q (deleteEmpty c s) = only q s := by
  obtain ⟨q', hinv, _⟩ := run_spec c s
  unfold deleteEmpty
  simp only
  rw [only_dropIdx_untouched q _ h, hinv.state, only_map_removeSubs_untouched q h]

theorem keys_deleteEmpty {c : WL} {s : Module} : ((deleteEmpty c s).map key).Sublist (s.map key) := by
  obtain ⟨q', hinv, _⟩ := run_spec c s
  have h1 := (dropIdx_sublist c (runLoop c s).2.1 (runLoop c s).1).map key
  have h2 : ((runLoop c s).1).map key = s.map key := by
    rw [hinv.state, List.map_map]
    exact List.map_congr_left fun n _ => by simp [key]
  rwa [h2] at h1

theorem deleteEmpty_eq_self (h : ∀ n ∈ s, queueable c (targetsOf c.usedSel s) n = false) : deleteEmpty c s = s := by
  have hq : initQueue c (targetsOf c.usedSel s) s = [] := by
    rw [List.eq_nil_iff_forall_not_mem]
    intro i hi
    obtain ⟨n, hn, hqn⟩ := mem_initQueue.1 hi
    rw [h n (List.mem_of_getElem? hn)] at hqn
    cases hqn
  show dropIdx c (loop c _ s (fuel s) s (initQueue c (targetsOf c.usedSel s) s) []).2.1 (loop c _ s _ s _ []).1 = s
  rw [hq]
  show dropIdx c [] s = s
  rw [dropIdx_eq, List.filter_eq_self.2 (fun p _ => by simp), List.zipIdx_map_fst]

theorem deleteEmpty_no_queueable (hd : drained c s = true)
    (h : n' ∈ deleteEmpty c s) : queueable c (targetsOf c.usedSel s) n' = false := by
  obtain ⟨q', hinv, hq⟩ := run_spec c s
  obtain rfl : q' = [] := hq hd
  obtain ⟨i, n, hn, hnot, rfl⟩ := mem_deleteEmpty.1 h
  rw [Bool.eq_false_iff]
  intro hqn
  have hmem := hinv.complete i _ (by rw [hinv.getElem?, hn]; rfl) hqn
  exact hnot ⟨removeSubs_tag ▸ (queueable_iff.1 hqn).1, hmem⟩

end

section
variable {used : List String} {m : Module} {n : Node} {t : String}

/-- body of the inner loop: `changed |= used_units.insert(..)` -/
def insStep (st : List String × Bool) (r : Ref) : List String × Bool :=
  if st.1.contains r.target then st else (r.target :: st.1, true)

/-- body of `for unit in &module.unit` -/
def unitStep (st : List String × Bool) (n : Node) : List String × Bool :=
  if n.tag == "UNIT" && st.1.contains n.name then
    (n.refs.filter fun r => r.site == "RefUnit.unit").foldl insStep st
  else st

theorem unitRound_eq : unitRound m used = m.foldl unitStep (used, false) := rfl

theorem mem_insStep (st : List String × Bool) (r : Ref) : t ∈ (insStep st r).1 ↔ t ∈ st.1 ∨ r.target = t := by
  unfold insStep
  split
  · rename_i hc
    exact ⟨Or.inl, fun h => h.elim id fun e => e ▸ List.contains_iff_mem.1 hc⟩
  · rw [List.mem_cons, or_comm, eq_comm]

theorem inner_mem (rs : List Ref) (st : List String × Bool) :
    t ∈ (rs.foldl insStep st).1 ↔ t ∈ st.1 ∨ ∃ r ∈ rs, r.target = t := by
  induction rs generalizing st with
  | nil => simp
  | cons r rs ih => simp only [List.foldl_cons, ih, mem_insStep, or_assoc, List.mem_cons, exists_eq_or_imp]

/-- `st'` comes from `st` by inserting names, the flag being raised exactly when a new name went in -/
structure Grows (st st' : List String × Bool) : Prop where
  mono : ∀ t ∈ st.1, t ∈ st'.1
  unchanged : st'.2 = false → st' = st
  new : st'.2 = true → st.2 = true ∨ ∃ t ∈ st'.1, t ∉ st.1

theorem Grows.refl (st : List String × Bool) : Grows st st := ⟨fun _ h => h, fun _ => rfl, Or.inl⟩

theorem Grows.trans {a b d : List String × Bool} (h1 : Grows a b) (h2 : Grows b d) : Grows a d where
  mono := fun t h => h2.mono t (h1.mono t h)
  unchanged := fun hd => by
    obtain rfl := h2.unchanged hd
    exact h1.unchanged hd
  new := fun hd => by
    rcases h2.new hd with hb | ⟨t, ht, hn⟩
    · exact (h1.new hb).imp_right fun ⟨t, ht, hn⟩ => ⟨t, h2.mono t ht, hn⟩
    · exact Or.inr ⟨t, ht, fun h => hn (h1.mono t h)⟩

theorem Grows.foldl {β : Type} {f : List String × Bool → β → List String × Bool} (hf : ∀ st b, Grows st (f st b))
    (l : List β) (st : List String × Bool) : Grows st (l.foldl f st) :=
  List.foldlRecOn (motive := Grows st) l f (.refl st) fun _ h b _ => h.trans (hf _ b)

theorem grows_insStep (st : List String × Bool) (r : Ref) : Grows st (insStep st r) := by
  unfold insStep
  split
  · exact .refl st
  · rename_i hc
    exact ⟨fun t h => List.mem_cons_of_mem _ h, fun h => Bool.noConfusion h,
      fun _ => Or.inr ⟨r.target, List.mem_cons_self, fun h => hc (List.contains_iff_mem.2 h)⟩⟩

theorem grows_unitStep (st : List String × Bool) (n : Node) : Grows st (unitStep st n) := by
  unfold unitStep
  split
  · exact Grows.foldl grows_insStep _ st
  · exact .refl st

def unitTargets (ns : Module) : List String := targetsOf [("UNIT", "RefUnit.unit")] ns

theorem outer_covers (ns : Module) (st : List String × Bool) {n : Node} {r : Ref} (hn : n ∈ ns)
    (ht : n.tag = "UNIT") (hname : n.name ∈ st.1) (hr : r ∈ n.refs) (hs : r.site = "RefUnit.unit") :
    r.target ∈ (ns.foldl unitStep st).1 := by
  induction ns generalizing st with
  | nil => cases hn
  | cons n' ns ih =>
    rw [List.foldl_cons]
    rcases List.mem_cons.1 hn with rfl | hn
    · apply (Grows.foldl grows_unitStep ns _).mono
      rw [unitStep, if_pos (by simp [ht, hname]), inner_mem]
      exact Or.inr ⟨r, by simp [hr, hs], rfl⟩
    · exact ih _ hn ((grows_unitStep st n').mono _ hname)

inductive UReach (m : Module) (used0 : List String) : String → Prop
  | base {t : String} : t ∈ used0 → UReach m used0 t
  | step {n : Node} {r : Ref} : n ∈ m → n.tag = "UNIT" → UReach m used0 n.name → r ∈ n.refs →
      r.site = "RefUnit.unit" → UReach m used0 r.target

theorem outer_inv {P : String → Prop} (ns : Module)
    (hP : ∀ n ∈ ns, n.tag = "UNIT" → P n.name → ∀ r ∈ n.refs, r.site = "RefUnit.unit" → P r.target)
    (st : List String × Bool) (h : ∀ t ∈ st.1, P t) : ∀ t ∈ (ns.foldl unitStep st).1, P t := by
  refine List.foldlRecOn (motive := fun st => ∀ t ∈ st.1, P t) ns unitStep h fun st h n hn t ht => ?_
  unfold unitStep at ht
  split at ht
  · rename_i hc
    simp only [Bool.and_eq_true, beq_iff_eq, List.contains_iff_mem] at hc
    rcases (inner_mem _ _).1 ht with h1 | ⟨r, hr, rfl⟩
    · exact h t h1
    · rw [List.mem_filter] at hr
      exact hP n hn hc.1 (h _ hc.2) r hr.1 (by simpa using hr.2)
  · exact h t ht

/-- the termination measure of `while changed`: the names a round can insert that are not yet in the set -/
def unitMeasure (m : Module) (used : List String) : Nat := (unitTargets m).countP fun t => !used.contains t

theorem unitRound_measure (h : (unitRound m used).2 = true) :
    unitMeasure m (unitRound m used).1 < unitMeasure m used := by
  rw [unitRound_eq] at h ⊢
  have hg := Grows.foldl grows_unitStep m (used, false)
  rcases hg.new h with h1 | ⟨t, hin, hn⟩
  · cases h1
  · -- the new name is a candidate that was missing and is not any more; whatever is missing afterwards was before
    have ht : t ∈ unitTargets m := (outer_inv (P := fun t => t ∈ used ∨ t ∈ unitTargets m) m
      (fun n hn ht _ r hr hs => Or.inr (mem_targetsOf.2 ⟨n, hn, r, hr, List.mem_singleton.2 (ht ▸ hs ▸ rfl), rfl⟩)) (used, false)
      (fun _ => Or.inl) t hin).resolve_left hn
    refine countP_lt_of_imp (fun x _ hx => ?_) ht (by simpa using hn) (by simpa using hin)
    rw [Bool.not_eq_true', ← Bool.not_eq_true, List.contains_iff_mem] at hx ⊢
    exact fun hu => hx (hg.mono x hu)

theorem unitMeasure_lt : unitMeasure m used < refCount m + 1 := by
  unfold unitMeasure unitTargets
  have h1 := List.countP_le_length (p := fun t => !used.contains t) (l := targetsOf [("UNIT", "RefUnit.unit")] m)
  have h2 := length_targetsOf_le [("UNIT", "RefUnit.unit")] m
  omega

def UClosed (m : Module) (used : List String) : Prop :=
  ∀ n ∈ m, n.tag = "UNIT" → n.name ∈ used → ∀ r ∈ n.refs, r.site = "RefUnit.unit" → r.target ∈ used

theorem UReach.mem_of_closed {used0 u : List String} (h0 : ∀ t ∈ used0, t ∈ u) (hc : UClosed m u)
    (h : UReach m used0 t) : t ∈ u := by
  induction h with
  | base h => exact h0 _ h
  | step hn ht _ hr hs ih => exact hc _ hn ht ih _ hr hs

/-- with fuel above the measure the loop ends by a round that changes nothing -/
theorem unitClosure_spec (used0 : List String) (fuel : Nat) (hs : ∀ t ∈ used, UReach m used0 t)
    (hf : unitMeasure m used < fuel) :
    (∀ t ∈ unitClosure m fuel used, UReach m used0 t) ∧ (∀ t ∈ used, t ∈ unitClosure m fuel used) ∧
      UClosed m (unitClosure m fuel used) := by
  induction fuel generalizing used with
  | zero => omega
  | succ fuel ih =>
    have hg := Grows.foldl grows_unitStep m (used, false)
    have hs' := outer_inv m (fun n hn ht hp r hr hs => UReach.step hn ht hp hr hs) (used, false) hs
    rw [← unitRound_eq] at hg hs'
    unfold unitClosure
    simp only
    split
    · rename_i hc
      obtain ⟨h1, h2, h3⟩ := ih hs' (by have := unitRound_measure hc; omega)
      exact ⟨h1, fun t ht => h2 t (hg.mono t ht), h3⟩
    · rename_i hc
      have h1 := hg.unchanged (by simpa using hc)
      rw [h1] at hs' ⊢
      refine ⟨hs', fun _ h => h, fun n hn ht hname r hr hs => ?_⟩
      have := outer_covers m (used, false) hn ht hname hr hs
      rwa [← unitRound_eq, h1] at this

/-- the fuel `refCount m + 1` that `removeUnusedSubElements` passes suffices: every round but the last inserts one of
    the at most `refCount m` names of `unitTargets` (`unitRound_measure`, `unitMeasure_lt`) -/
theorem mem_unitClosure (used0 : List String) :
    t ∈ unitClosure m (refCount m + 1) used0 ↔ UReach m used0 t := by
  obtain ⟨h1, h2, h3⟩ := unitClosure_spec (used := used0) used0 _ (fun t h => UReach.base h) unitMeasure_lt
  exact ⟨h1 t, UReach.mem_of_closed h2 h3⟩

end

/-- keywords of the children that `cleanup` never deletes -/
def nh (t : String) : Bool := !helperTags.contains t

/-- what `cleanup` does to a child that is not deletable: the function references (FUNCTION_LIST) to functions
    that do not exist are dropped, the conversions that do not exist are replaced by NO_COMPU_METHOD -/
def repair (m : Module) (n : Node) : Node :=
  dropIn convRepairSel (fun t => (namesOf ["COMPU_METHOD"] m).contains t)
    (dropIn funcRefSel (fun t => (namesOf ["FUNCTION"] m).contains t) n)

section
variable {c : WL} {tags : List String} {sel : Sel} {keep : String → Bool} {m s : Module}

def Sub (s s' : Module) : Prop :=
  ∀ n' ∈ s', ∃ n ∈ s, n.tag = n'.tag ∧ n.name = n'.name ∧ ∀ r ∈ n'.refs, r ∈ n.refs

theorem Sub.refl (s : Module) : Sub s s := fun n hn => ⟨n, hn, rfl, rfl, fun _ h => h⟩

theorem Sub.trans {s s' s'' : Module} (h1 : Sub s s') (h2 : Sub s' s'') : Sub s s'' := by
  intro n'' hn''
  obtain ⟨n', hn', ht', hm', hr'⟩ := h2 n'' hn''
  obtain ⟨n, hn, ht, hm, hr⟩ := h1 n' hn'
  exact ⟨n, hn, ht.trans ht', hm.trans hm', fun r h => hr r (hr' r h)⟩

theorem sub_dropRefs : Sub s (dropRefs sel keep s) := by
  intro n' hn'
  obtain ⟨n, hn, rfl⟩ := mem_dropRefs.1 hn'
  exact ⟨n, hn, rfl, rfl, fun r h => (mem_dropIn_refs.1 h).1⟩

theorem sub_retainNodes : Sub s (retainNodes tags keep s) := by
  intro n' hn'
  exact ⟨n', (mem_retainNodes.1 hn').1, rfl, rfl, fun _ h => h⟩

theorem sub_deleteEmpty : Sub s (deleteEmpty c s) := by
  intro n' hn'
  obtain ⟨i, n, hn, -, rfl⟩ := mem_deleteEmpty.1 hn'
  exact ⟨n, List.mem_of_getElem? hn, (removeSubs_tag ..).symm, (removeSubs_name ..).symm,
    fun r h => (mem_removeSubs_refs.1 h).1⟩

end

section
variable {c : WL} {tags T : List String} {sel : Sel} {keep : String → Bool} {ok : String → String → Prop} {s : Module}

/-- the references sitting in fields that satisfy `ok` keep their target among the keywords `T` -/
def Pres (T : List String) (ok : String → String → Prop) (s s' : Module) : Prop :=
  ∀ n' ∈ s', ∀ r ∈ n'.refs, ok n'.tag r.site → r.target ∈ namesOf T s → r.target ∈ namesOf T s'

theorem Pres.trans {s s' s'' : Module}
    (h1 : Pres T ok s s') (hs : Sub s' s'') (h2 : Pres T ok s' s'') : Pres T ok s s'' := by
  intro n'' hn'' r hr hok hres
  obtain ⟨n', hn', ht', _, hr'⟩ := hs n'' hn''
  exact h2 n'' hn'' r hr hok (h1 n' hn' r (hr' r hr) (ht' ▸ hok) hres)

theorem pres_of_names {s s' : Module}
    (h : namesOf T s' = namesOf T s) : Pres T ok s s' := by
  intro _ _ r _ _ hr
  rw [h]; exact hr

theorem namesOf_dropRefs : namesOf T (dropRefs sel keep s) = namesOf T s := by
  unfold namesOf
  rw [dropRefs_eq_map, List.filter_map, List.map_map]
  rfl

theorem pres_retain (hok : ∀ tag site, ok tag site → (∃ t ∈ tags, t ∈ T) → (tag, site) ∈ sel) :
    Pres T ok s (retainNodes tags (fun t => (targetsOf sel s).contains t) s) := by
  intro n' hn' r hr hokr hres
  obtain ⟨n0, hn0, ht0, hname0⟩ := mem_namesOf.1 hres
  refine mem_namesOf.2 ⟨n0, mem_retainNodes.2 ⟨hn0, fun htags => ?_⟩, ht0, hname0⟩
  rw [List.contains_iff_mem, hname0]
  exact mem_targetsOf.2 ⟨n', (mem_retainNodes.1 hn').1, r, hr, hok _ _ hokr ⟨_, htags, ht0⟩, rfl⟩

/-- `hok`: if the items of the pass are among `T`, the references in question sit in the fields the pass looks at
    (uses from outside, or the sub list) -/
theorem pres_deleteEmpty
    (hok : ∀ tag site, ok tag site → c.tag ∈ T → (tag, site) ∈ (c.tag, c.subSite) :: c.usedSel) :
    Pres T ok s (deleteEmpty c s) := by
  intro n' h r hr hokr hres
  have hsite : c.tag ∈ T → (n'.tag = c.tag ∧ r.site = c.subSite) ∨ (n'.tag, r.site) ∈ c.usedSel := fun hT => by
    have := hok _ _ hokr hT
    rwa [List.mem_cons, Prod.mk.injEq] at this
  obtain ⟨q', hinv, _⟩ := run_spec c s
  obtain ⟨n0, hn0, ht0, hname0⟩ := mem_namesOf.1 hres
  obtain ⟨j0, hj0⟩ := List.mem_iff_getElem?.1 hn0
  -- the child at `j` is left (minus sub references) unless it is a flagged item
  have left : ∀ (j : Nat) (nj : Node), s[j]? = some nj → nj.tag ∈ T → nj.name = r.target →
      ¬(nj.tag = c.tag ∧ j ∈ (runLoop c s).2.1) → r.target ∈ namesOf T (deleteEmpty c s) :=
    fun j nj hj hT hname hnot => mem_namesOf.2 ⟨_, mem_deleteEmpty.2 ⟨j, nj, hj, hnot, rfl⟩,
      by rwa [removeSubs_tag], by rwa [removeSubs_name]⟩
  by_cases hc : n0.tag = c.tag
  · obtain ⟨i, n, hsi, -, rfl⟩ := mem_deleteEmpty.1 h
    rcases (hsite (hc ▸ ht0)).symm with hu | ⟨htag, hsub⟩
    · -- a reference from outside: the name is used, no item of that name is ever queued
      rw [removeSubs_tag] at hu
      have hused : r.target ∈ targetsOf c.usedSel s :=
        mem_targetsOf.2 ⟨n, List.mem_of_getElem? hsi, r, (mem_removeSubs_refs.1 hr).1, hu, rfl⟩
      refine left j0 n0 hj0 ht0 hname0 fun ⟨_, hjd⟩ => ?_
      obtain ⟨x, hx, hqx⟩ := hinv.sound j0 (List.mem_append_right _ hjd)
      rw [hinv.getElem?, hj0, Option.map_some, Option.some.injEq] at hx
      subst hx
      exact (queueable_iff.1 hqx).2.1 (by rwa [removeSubs_name, hname0])
    · -- a sub reference that is left: the item its name resolves to is not flagged
      obtain ⟨j, hj⟩ := indexOf_exists (c := c) hj0 hc hname0
      obtain ⟨nj, hnj, htj, hnamej⟩ := indexOf_some hj
      refine left j nj hnj (htj ▸ hc ▸ ht0) hnamej fun ⟨_, hjd⟩ => ?_
      rw [removeSubs_tag] at htag
      exact (mem_removeSubs_refs.1 hr).2 ⟨htag, hsub, mem_rmNames.2 ⟨j, hjd, hj⟩⟩
  · -- the target is not an item of the pass: it is untouched
    exact left j0 n0 hj0 ht0 hname0 fun hh => hc hh.1

/-- the UNIT half of `remove_unused_sub_elements` -/
theorem pres_retainUnits
    (hok : ∀ tag site, ok tag site → "UNIT" ∈ T → (tag, site) ∈ ("UNIT", "RefUnit.unit") :: unitUseSel) :
    Pres T ok s (retainNodes ["UNIT"]
      (fun t => (unitClosure s (refCount s + 1) (targetsOf unitUseSel s)).contains t) s) := by
  intro n' hn' r hr hokr hres
  obtain ⟨n0, hn0, ht0, hname0⟩ := mem_namesOf.1 hres
  refine mem_namesOf.2 ⟨n0, mem_retainNodes.2 ⟨hn0, fun htags => ?_⟩, ht0, hname0⟩
  have hU : n0.tag = "UNIT" := List.mem_singleton.1 htags
  rw [List.contains_iff_mem, hname0, mem_unitClosure]
  obtain ⟨hn's, hkeep⟩ := mem_retainNodes.1 hn'
  rcases List.mem_cons.1 (hok _ _ hokr (hU ▸ ht0)) with h | h
  · rw [Prod.mk.injEq] at h
    have hk := hkeep (List.mem_singleton.2 h.1)
    rw [List.contains_iff_mem, mem_unitClosure] at hk
    exact UReach.step hn's h.1 hk hr h.2
  · exact UReach.base (mem_targetsOf.2 ⟨n', hn's, r, hr, h, rfl⟩)

end

section
variable {c : WL} {used tags T : List String} {sel : Sel} {keep : String → Bool} {s : Module} {n : Node}

theorem isEmpty_dropIn (h : ∀ r ∈ n.refs, (n.tag, r.site) ∈ sel → c.content.contains r.site = false) :
    isEmpty c (dropIn sel keep n) = isEmpty c n := by
  unfold isEmpty
  apply Bool.eq_iff_iff.2
  rw [List.all_eq_true, List.all_eq_true]
  refine ⟨fun h1 r hr => ?_, fun h1 r hr => h1 r (mem_dropIn_refs.1 hr).1⟩
  by_cases hs : (n.tag, r.site) ∈ sel
  · rw [h r hr hs]; rfl
  · exact h1 r (mem_dropIn_refs.2 ⟨hr, fun hs' => absurd hs' hs⟩)

theorem queueable_eq_false_iff :
    queueable c used n = false ↔ (n.tag = c.tag → n.name ∈ used ∨ isEmpty c n = false) := by
  simp only [queueable, Bool.and_eq_false_iff, Bool.not_eq_false', beq_eq_false_iff_ne, List.contains_iff_mem, or_assoc]
  exact Decidable.imp_iff_not_or.symm

end

end A2l.Cl
