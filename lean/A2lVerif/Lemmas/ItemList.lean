import A2lVerif.Model.ItemList
/-! Lemmas for C13. The association-list map as a function of the key; the coherence invariant read as "positions and
    name index are partial functions inverse to each other", preserved by removing a pair and by adding a fresh one;
    every mutator of `ItemList` is a composition of the two (or a rebuild, which is `collect`). -/

namespace A2l

@[simp] theorem Map.get_nil (k : String) : Map.get [] k = none := rfl

theorem Map.get_cons (a : String × Nat) (m : Map) (k : String) :
    Map.get (a :: m) k = if a.1 = k then some a.2 else m.get k := by
  simp only [Map.get, List.find?_cons]
  by_cases h : a.1 = k
  · rw [if_pos h, beq_iff_eq.2 h]
    rfl
  · rw [if_neg h, beq_eq_false_iff_ne.2 h]

theorem Map.get_erase (m : Map) (k k' : String) :
    (m.erase k).get k' = if k = k' then none else m.get k' := by
  induction m with
  | nil => exact (ite_self none).symm
  | cons a m ih =>
    unfold Map.erase at ih ⊢
    rw [List.filter_cons, Map.get_cons]
    by_cases ha : a.1 = k
    · rw [if_neg (by rw [ha, bne_self_eq_false]; exact Bool.false_ne_true), ih]
      by_cases hk : k = k'
      · rw [if_pos hk, if_pos hk]
      · rw [if_neg hk, if_neg hk, if_neg (ha ▸ hk)]
    · rw [if_pos (bne_iff_ne.2 ha), Map.get_cons, ih]
      by_cases hk : a.1 = k'
      · rw [if_pos hk, if_pos hk, if_neg fun e => ha (hk.trans e.symm)]
      · rw [if_neg hk, if_neg hk]

theorem Map.get_insert (m : Map) (k k' : String) (v : Nat) :
    (m.insert k v).get k' = if k = k' then some v else m.get k' := by
  unfold Map.insert
  rw [Map.get_cons]
  by_cases hk : k = k'
  · rw [if_pos hk, if_pos hk]
  · rw [if_neg hk, if_neg hk]
    exact (Map.get_erase m k k').trans (if_neg hk)

theorem Map.get_insert_self (m : Map) (k : String) (v : Nat) : (m.insert k v).get k = some v := by
  rw [Map.get_insert, if_pos rfl]

theorem Map.get_erase_self (m : Map) (k : String) : (m.erase k).get k = none := by
  rw [Map.get_erase, if_pos rfl]

namespace IL

/-- Coherence of name index and positions: every position is indexed under its name, and every index entry
    points at a position holding that name. -/
def Inv (l : IL) : Prop :=
  (∀ i (h : i < l.items.length), l.map.get l.items[i] = some i) ∧
  (∀ k i, l.map.get k = some i → l.items[i]? = some k)

/-- `P` (position ↦ name) and `Q` (name ↦ position) invert each other -/
def Coh (P : Nat → Option String) (Q : String → Option Nat) : Prop := ∀ i k, P i = some k ↔ Q k = some i

theorem inv_iff_coh (l : IL) : l.Inv ↔ Coh (fun i => l.items[i]?) l.map.get := by
  constructor
  · intro h i k
    constructor
    · intro hik
      rcases List.getElem?_eq_some_iff.1 hik with ⟨hlt, rfl⟩
      exact h.1 i hlt
    · exact h.2 k i
  · intro h
    exact ⟨fun i hi => (h i _).1 (List.getElem?_eq_getElem hi), fun k i hk => (h i k).2 hk⟩

theorem Coh.congr {P P' Q Q'} (h : Coh P Q) (hP : ∀ j, P' j = P j) (hQ : ∀ k, Q' k = Q k) : Coh P' Q' := by
  intro j k
  rw [hP, hQ]
  exact h j k

theorem Coh.remove {P Q} (h : Coh P Q) {i : Nat} {k : String} (hik : P i = some k) :
    Coh (fun j => if i = j then none else P j) (fun x => if k = x then none else Q x) := by
  intro j x
  dsimp only
  by_cases hj : i = j <;> by_cases hx : k = x
  · rw [if_pos hj, if_pos hx]
    exact ⟨nofun, nofun⟩
  · rw [if_pos hj, if_neg hx, ← h j x, ← hj, hik]
    exact ⟨nofun, fun e => absurd (Option.some.inj e) hx⟩
  · rw [if_neg hj, if_pos hx, ← hx, h j k, (h i k).1 hik]
    exact ⟨fun e => absurd (Option.some.inj e) hj, nofun⟩
  · rw [if_neg hj, if_neg hx]
    exact h j x

theorem Coh.add {P Q} (h : Coh P Q) {i : Nat} {k : String} (hi : P i = none) (hk : Q k = none) :
    Coh (fun j => if i = j then some k else P j) (fun x => if k = x then some i else Q x) := by
  intro j x
  dsimp only
  by_cases hj : i = j <;> by_cases hx : k = x
  · rw [if_pos hj, if_pos hx, hj, hx]
    exact ⟨fun _ => rfl, fun _ => rfl⟩
  · rw [if_pos hj, if_neg hx, ← h j x, ← hj, hi]
    exact ⟨fun e => absurd (Option.some.inj e) hx, nofun⟩
  · rw [if_neg hj, if_pos hx, ← hx, h j k, hk]
    exact ⟨nofun, fun e => absurd (Option.some.inj e) hj⟩
  · rw [if_neg hj, if_neg hx]
    exact h j x

/-- position `i` gets a new name that is free, or the one it has -/
theorem Coh.replace {P Q} (h : Coh P Q) {i : Nat} {k k' : String} (hik : P i = some k) (hk' : k = k' ∨ Q k' = none) :
    Coh (fun j => if i = j then some k' else P j) (fun x => if k' = x then some i else if k = x then none else Q x) := by
  refine ((h.remove hik).add (i := i) (k := k') (if_pos rfl) ?_).congr (fun j => ?_) (fun _ => rfl)
  · by_cases he : k = k'
    · exact if_pos he
    · exact (if_neg he).trans (hk'.resolve_left he)
  · by_cases hj : i = j
    · rw [if_pos hj, if_pos hj]
    · rw [if_neg hj, if_neg hj, if_neg hj]

theorem Inv.lookup {l : IL} (h : l.Inv) (i : Nat) (k : String) :
    l.items[i]? = some k ↔ l.map.get k = some i := (inv_iff_coh l).1 h i k

theorem Inv.get_none {l : IL} (h : l.Inv) {k : String} (hk : k ∉ l.items) : l.map.get k = none := by
  cases hg : l.map.get k with
  | none => rfl
  | some i =>
    have := h.2 k i hg
    exact absurd (List.mem_of_getElem? this) hk

theorem Inv.nodup {l : IL} (h : l.Inv) : l.items.Nodup := by
  rw [List.Nodup, List.pairwise_iff_getElem]
  intro i j hi hj hlt heq
  have h1 := h.1 i hi
  rw [heq, h.1 j hj] at h1
  exact Nat.ne_of_gt hlt (Option.some.inj h1)

theorem empty_inv : empty.Inv :=
  ⟨fun i h => by simp [empty] at h, fun k i h => by simp [empty] at h⟩

theorem getElem?_concat {α} (xs : List α) (x : α) (j : Nat) :
    (xs ++ [x])[j]? = if xs.length = j then some x else xs[j]? := by
  rcases Nat.lt_trichotomy j xs.length with h | h | h
  · rw [if_neg (Nat.ne_of_gt h)]
    exact List.getElem?_append_left h
  · rw [if_pos h.symm, h]
    exact List.getElem?_concat_length
  · rw [if_neg (Nat.ne_of_lt h), List.getElem?_eq_none (Nat.le_of_lt h)]
    exact List.getElem?_eq_none (by rw [List.length_append]; exact h)

theorem getElem?_dropLast {α} (xs : List α) (j : Nat) :
    xs.dropLast[j]? = if xs.length - 1 = j then none else xs[j]? := by
  rw [List.getElem?_dropLast]
  rcases Nat.lt_trichotomy j (xs.length - 1) with h | h | h
  · rw [if_pos h, if_neg (Nat.ne_of_gt h)]
  · rw [if_neg (h ▸ Nat.lt_irrefl _), if_pos h.symm]
  · rw [if_neg (Nat.lt_asymm h), if_neg (Nat.ne_of_lt h), List.getElem?_eq_none (Nat.le_of_pred_lt h)]

/-- `Vec::swap_remove(i)`: the last element moves to position `i`, the vector gets shorter by one -/
theorem getElem?_vecSwapRemove (xs : List String) (i j : Nat) (last : String) (hi : i < xs.length)
    (hlast : xs[xs.length - 1]? = some last) :
    (vecSwapRemove xs i)[j]? = if xs.length - 1 = j then none else if i = j then some last else xs[j]? := by
  rw [vecSwapRemove, getElem?_dropLast, List.length_set, List.getElem?_set, List.getLast?_eq_getElem?, hlast,
    if_pos hi, Option.getD_some]

theorem push_items (l : IL) (x : String) : (l.push x).items = l.items ++ [x] := rfl

theorem push_inv (l : IL) (x : String) (h : l.Inv) (hnew : x ∉ l.items) : (l.push x).Inv := by
  have hn := h.get_none hnew
  rw [inv_iff_coh] at h ⊢
  simp only [push, hn]
  exact (h.add (List.getElem?_eq_none (Nat.le_refl _)) hn).congr (getElem?_concat l.items x)
    (fun k => Map.get_insert l.map x k _)

theorem pop_spec (l : IL) : (l.pop.1.items, l.pop.2) = (l.items.dropLast, l.items.getLast?) := by
  unfold pop
  cases hl : l.items.getLast? with
  | none =>
    have : l.items = [] := by simpa using hl
    simp [this]
  | some x => rfl

theorem pop_inv (l : IL) (h : l.Inv) : (l.pop).1.Inv := by
  unfold pop
  cases hl : l.items.getLast? with
  | none => exact h
  | some x =>
    rw [inv_iff_coh] at h ⊢
    rw [List.getLast?_eq_getElem?] at hl
    exact (h.remove hl).congr (getElem?_dropLast l.items) (Map.get_erase l.map x)

theorem extend_cons (l : IL) (y : String) (ys : List String) :
    l.extend (y :: ys) = (l.push y).extend ys := rfl

theorem extend_items (l : IL) (ys : List String) : (l.extend ys).items = l.items ++ ys := by
  induction ys generalizing l with
  | nil => exact (List.append_nil _).symm
  | cons y ys ih => rw [extend_cons, ih, push_items, List.append_assoc, List.singleton_append]

/-- extending by fresh, pairwise different names keeps the invariant, and enters the names into the index the way a
    rebuild does -/
theorem extend_spec (l : IL) (ys : List String) (h : l.Inv) (hnd : ys.Nodup)
    (hfresh : ∀ y ∈ ys, y ∉ l.items) :
    (l.extend ys).Inv ∧ (l.extend ys).map = rebuildFrom l.map l.items.length ys := by
  induction ys generalizing l with
  | nil => exact ⟨h, rfl⟩
  | cons y ys ih =>
    rw [List.nodup_cons] at hnd
    have hy := hfresh y List.mem_cons_self
    have := ih (l.push y) (push_inv l y h hy) hnd.2 fun y' hy' hmem => by
      rw [push_items, List.mem_append, List.mem_singleton] at hmem
      rcases hmem with hmem | rfl
      · exact hfresh y' (List.mem_cons_of_mem _ hy') hmem
      · exact hnd.1 hy'
    rw [extend_cons]
    refine ⟨this.1, this.2.trans ?_⟩
    simp only [push, h.get_none hy, List.length_append, List.length_singleton, rebuildFrom]

theorem extend_inv (l : IL) (ys : List String) (h : l.Inv) (hnd : ys.Nodup)
    (hfresh : ∀ y ∈ ys, y ∉ l.items) : (l.extend ys).Inv := (extend_spec l ys h hnd hfresh).1

theorem collect_items (ys : List String) : (collect ys).items = ys := by
  unfold collect
  rw [extend_items]
  rfl

theorem collect_inv (ys : List String) (hnd : ys.Nodup) : (collect ys).Inv :=
  extend_inv empty ys empty_inv hnd nofun

theorem rebuild_eq_collect (items : List String) (hnd : items.Nodup) : rebuild items = collect items := by
  have hm := (extend_spec empty items empty_inv hnd nofun).2
  have hi := collect_items items
  unfold collect at hi ⊢
  generalize extend empty items = e at hi hm ⊢
  obtain ⟨its, mp⟩ := e
  dsimp only at hi hm
  subst hi hm
  rfl

theorem rebuild_inv (items : List String) (hnd : items.Nodup) : (rebuild items).Inv := by
  rw [rebuild_eq_collect items hnd]
  exact collect_inv items hnd

theorem truncate_inv (l : IL) (n : Nat) (h : l.Inv) : (l.truncate n).Inv := by
  unfold truncate; split
  · exact rebuild_inv _ (h.nodup.sublist (List.take_sublist _ _))
  · exact h

theorem truncate_items (l : IL) (n : Nat) : (l.truncate n).items = l.items.take n := by
  unfold truncate; split
  · rfl
  · rw [List.take_of_length_le (by omega)]

theorem sortBy_inv (l : IL) (le : String → String → Bool) (h : l.Inv) : (l.sortBy le).Inv :=
  rebuild_inv _ ((List.mergeSort_perm l.items le).nodup_iff.2 h.nodup)

theorem length_vecSwapRemove (xs : List String) (i : Nat) : (vecSwapRemove xs i).length = xs.length - 1 := by
  simp [vecSwapRemove]

theorem swapRemoveIdx_inv (l : IL) (i : Nat) (h : l.Inv) : (l.swapRemoveIdx i).1.Inv := by
  unfold swapRemoveIdx
  cases hi : l.items[i]? with
  | none => exact h
  | some item =>
    rcases List.getElem?_eq_some_iff.1 hi with ⟨hlt, _⟩
    obtain ⟨last, hlast⟩ : ∃ last, l.items[l.items.length - 1]? = some last :=
      ⟨_, List.getElem?_eq_getElem (Nat.sub_one_lt (Nat.ne_of_gt (Nat.zero_lt_of_lt hlt)))⟩
    have hget := fun j => getElem?_vecSwapRemove l.items i j last hlt hlast
    rw [inv_iff_coh] at h ⊢
    by_cases hil : l.items.length - 1 = i
    · -- the last element is removed
      have hsw : (vecSwapRemove l.items i)[i]? = none := by rw [hget, if_pos hil]
      simp only [hsw]
      refine (h.remove hi).congr (fun j => ?_) (Map.get_erase l.map item)
      rw [hget, hil]
      by_cases hj : i = j
      · rw [if_pos hj, if_pos hj]
      · rw [if_neg hj, if_neg hj, if_neg hj]
    · -- an inner element is replaced by the last one
      have hsw : (vecSwapRemove l.items i)[i]? = some last := by rw [hget, if_neg hil, if_pos rfl]
      simp only [hsw]
      refine ((h.remove hlast).replace (k' := last) ((if_neg hil).trans hi) (.inr (if_pos rfl))).congr
        (fun j => ?_) (fun k => ?_)
      · rw [hget]
        by_cases hj : l.items.length - 1 = j
        · rw [if_pos hj, if_neg fun e => hil (hj.trans e.symm), if_pos hj]
        · rw [if_neg hj, if_neg hj]
      · rw [Map.get_insert, Map.get_erase]
        by_cases hk : last = k
        · rw [if_pos hk, if_pos hk]
        · rw [if_neg hk, if_neg hk, if_neg hk]

theorem swapRemoveIdx_spec (l : IL) (i : Nat) :
    ((l.swapRemoveIdx i).1.items, (l.swapRemoveIdx i).2) = specStep l.items (.swapRemoveIdx i) := by
  show _ = (match l.items[i]? with
    | none => (l.items, none)
    | some x => (vecSwapRemove l.items i, some x))
  unfold swapRemoveIdx
  cases l.items[i]? <;> rfl

theorem swapRemove_eq (l : IL) (k : String) (h : l.Inv) :
    l.swapRemove k = match l.map.get k with
      | none => .ok (l, none)
      | some i => .ok (l.swapRemoveIdx i) := by
  unfold swapRemove
  cases hk : l.map.get k with
  | none => rfl
  | some i =>
    have := h.2 k i hk
    simp only [swapRemoveIdx, this]

theorem Inv.index_eq_spec {l : IL} (h : l.Inv) (k : String) : l.map.get k = specIndex l.items k := by
  unfold specIndex
  by_cases hk : k ∈ l.items
  · have hlt : l.items.idxOf k < l.items.length := List.idxOf_lt_length_iff.2 hk
    simp only [hlt, if_true]
    exact (h.lookup _ k).1 (List.getElem?_eq_some_iff.2 ⟨hlt, List.getElem_idxOf hlt⟩)
  · have hlt : ¬ l.items.idxOf k < l.items.length := fun hlt => hk (List.idxOf_lt_length_iff.1 hlt)
    simp only [hlt, if_false]
    exact h.get_none hk

theorem Inv.get_of_mem {l : IL} (h : l.Inv) {k : String} (hk : k ∈ l.items) :
    ∃ i, l.map.get k = some i ∧ l.items[i]? = some k := by
  obtain ⟨i, hi⟩ := List.mem_iff_getElem?.1 hk
  exact ⟨i, (h.lookup i k).1 hi, hi⟩

theorem Inv.get_eq_spec {l : IL} (h : l.Inv) (k : String) :
    l.get k = .ok (if k ∈ l.items then some k else none) := by
  unfold get
  by_cases hk : k ∈ l.items
  · obtain ⟨i, hg, hi⟩ := h.get_of_mem hk
    rw [hg, if_pos hk]
    simp only [hi]
  · rw [h.get_none hk, if_neg hk]

theorem Inv.containsKey_eq_spec {l : IL} (h : l.Inv) (k : String) :
    l.containsKey k = decide (k ∈ l.items) := by
  unfold containsKey Map.contains
  by_cases hk : k ∈ l.items
  · obtain ⟨i, hg, _⟩ := h.get_of_mem hk
    rw [hg, decide_eq_true hk]
    rfl
  · rw [h.get_none hk, decide_eq_false hk]
    rfl

theorem swapRemove_ok (l : IL) (k : String) (h : l.Inv) :
    ∃ l' r, l.swapRemove k = .ok (l', r) ∧ l'.Inv ∧ (l'.items, r) = specStep l.items (.swapRemove k) := by
  rw [swapRemove_eq l k h]
  have hidx := h.index_eq_spec k
  show ∃ (l' : IL) (r : Option String), _ ∧ _ ∧ (l'.items, r) = (match specIndex l.items k with
    | none => (l.items, none)
    | some i => (vecSwapRemove l.items i, some k))
  rw [← hidx]
  cases hk : l.map.get k with
  | none => exact ⟨l, none, rfl, h, rfl⟩
  | some i =>
    refine ⟨_, _, rfl, swapRemoveIdx_inv l i h, ?_⟩
    have hi := h.2 k i hk
    simp only [hi]

theorem renameItem_items (l : IL) (i : Nat) (n : String) : (l.renameItem i n).items = l.items.set i n := by
  unfold renameItem
  cases hi : l.items[i]? with
  | none =>
    have : l.items.length ≤ i := by simpa using hi
    simp [List.set_eq_of_length_le this]
  | some old => rfl

theorem renameItem_inv (l : IL) (i : Nat) (n : String) (h : l.Inv)
    (hok : n ∉ l.items ∨ l.items[i]? = some n) : (l.renameItem i n).Inv := by
  unfold renameItem
  cases hi : l.items[i]? with
  | none => exact h
  | some old =>
    rcases List.getElem?_eq_some_iff.1 hi with ⟨hlt, _⟩
    have hn : old = n ∨ l.map.get n = none :=
      hok.symm.imp (fun hn => Option.some.inj (hi.symm.trans hn)) h.get_none
    rw [inv_iff_coh] at h ⊢
    refine (h.replace hi hn).congr (fun j => ?_) (fun k => ?_)
    · rw [List.getElem?_set, if_pos hlt]
    · rw [Map.get_insert, Map.get_erase]

end IL
end A2l
