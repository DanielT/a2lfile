import A2lVerif.Model.Sort
import A2lVerif.Lemmas.ListOrder
/-! Lemmas for C15, in their own namespace `A2l.Srt.L15` so that they cannot clash with the helpers of C14:
    the comparison functions of `sort_new_items` and of the writer as one lexicographic order; what a call does to one
    element (`Renum`), to a list (every section procedure relates its input to its output member by member), to a
    section and to the module (`presorted m`, the elements with the object lists sorted, is renumbered member by member);
    the growth of the uids over k calls. -/
namespace A2l.Srt.L15
open A2l.ListOrder

theorem newLe_eq (a b : Elem) : newLe a b = lexLe a.uid a.line a.name b.uid b.line b.name := rfl
theorem writerLe_eq (a b : Elem) : writerLe a b = lexLe a.uid a.line a.tag b.uid b.line b.tag := rfl

theorem newLe_total (a b : Elem) : (newLe a b || newLe b a) = true := lexLe_total ..
theorem newLe_trans (a b c : Elem) (h1 : newLe a b = true) (h2 : newLe b c = true) : newLe a c = true :=
  lexLe_trans _ _ _ _ _ _ _ _ _ h1 h2
theorem writerLe_total (a b : Elem) : (writerLe a b || writerLe b a) = true := lexLe_total ..
theorem writerLe_trans (a b c : Elem) (h1 : writerLe a b = true) (h2 : writerLe b c = true) :
    writerLe a c = true :=
  lexLe_trans _ _ _ _ _ _ _ _ _ h1 h2

theorem pairwise_mergeSort_newLe (es : List Elem) : (es.mergeSort newLe).Pairwise (fun a b => newLe a b = true) :=
  List.pairwise_mergeSort newLe_trans newLe_total es

theorem pairwise_mergeSort_writerLe (es : List Elem) :
    (es.mergeSort writerLe).Pairwise (fun a b => writerLe a b = true) :=
  List.pairwise_mergeSort writerLe_trans writerLe_total es

/-- `L.foldl max 0` is `List.max?` of `0 :: L`: it is 0 or a member, and no member is larger -/
theorem foldl_max_spec (L : List Nat) : L.foldl max 0 ∈ 0 :: L ∧ ∀ b ∈ L, b ≤ L.foldl max 0 :=
  (List.max?_eq_some_iff.1 (List.max?_cons' (x := 0) (xs := L))).imp_right fun h b hb => h b (List.mem_cons_of_mem _ hb)

theorem foldl_max_eq_of_max {p : Nat} {L : List Nat} (hp : p ∈ L) (h : ∀ q ∈ L, q ≤ p) : L.foldl max 0 = p :=
  Option.some.inj (List.max?_cons'.symm.trans
    (List.max?_eq_some_iff.2 ⟨List.mem_cons_of_mem _ hp, List.forall_mem_cons.2 ⟨Nat.zero_le _, h⟩⟩))

/-- the uids a call gives to new elements: one more than a doubled uid, or still none -/
def OddOrZero (n : Nat) : Prop := n = 0 ∨ n % 2 = 1

theorem oddOrZero_succ_double (x : Nat) : OddOrZero (2 * x + 1) := .inr (by rw [Nat.mul_add_mod])

theorem OddOrZero.ne_double {n : Nat} (h : OddOrZero n) (h0 : n ≠ 0) (x : Nat) : n ≠ 2 * x := by
  rintro rfl
  rcases h with h | h
  · exact h0 h
  · rw [Nat.mul_mod_right] at h; exact absurd h (by decide)

/-- `e'` is what a call makes of `e`: only the uid changes; that of a placed element is doubled (and the double fits
    into `u32`), a new element gets an odd uid or stays at 0 -/
inductive Renum : Elem → Elem → Prop
  | of_placed {e : Elem} (h : e.uid ≠ 0) (hb : 2 * e.uid ≤ u32max) : Renum e { e with uid := 2 * e.uid }
  | of_new {e : Elem} {n : Nat} (h : e.uid = 0) (hn : OddOrZero n) : Renum e { e with uid := n }

theorem Renum.key {e e' : Elem} (h : Renum e e') : e'.key = e.key := by
  cases h <;> rfl

theorem Renum.grows {e e' : Elem} (h : Renum e e') (hu : e.uid ≠ 0) : 2 * e.uid ≤ u32max ∧ e'.uid = 2 * e.uid := by
  cases h with
  | of_placed _ hb => exact ⟨hb, rfl⟩
  | of_new h0 => exact absurd h0 hu

theorem dbl_eq_ok {u v : Nat} (h : dbl u = .ok v) : v = 2 * u ∧ 2 * u ≤ u32max := by
  unfold dbl at h
  split at h
  · next hb => cases h; exact ⟨rfl, hb⟩
  · cases h

theorem renumber_cons_ok {last : Nat} {e : Elem} {es es' : List Elem}
    (h : renumber last (e :: es) = .ok es') :
    (e.uid ≠ 0 ∧ 2 * e.uid + 1 ≤ u32max ∧
        ∃ es'', renumber (2 * e.uid + 1) es = .ok es'' ∧ es' = { e with uid := 2 * e.uid } :: es'') ∨
    (e.uid = 0 ∧ ∃ es'', renumber last es = .ok es'' ∧ es' = { e with uid := last } :: es'') := by
  rw [renumber] at h
  split at h
  · next hu =>
    split at h
    · cases h
    · next u hd =>
      obtain ⟨rfl, _⟩ := dbl_eq_ok hd
      split at h
      · cases h
      · next last' hl =>
        split at hl
        · next h3 =>
          cases hl
          split at h
          · cases h
          · next es'' hr => cases h; exact .inl ⟨hu, h3, es'', hr, rfl⟩
        · cases hl
  · next hu =>
    split at h
    · cases h
    · next es'' hr => cases h; exact .inr ⟨Decidable.not_not.1 hu, es'', hr, rfl⟩

theorem renumber_renum (es : List Elem) : ∀ (last : Nat) (es' : List Elem), renumber last es = .ok es' →
    OddOrZero last → Forall₂ Renum es es' := by
  induction es with
  | nil => intro _ _ h _; cases h; exact .nil
  | cons a es ih =>
    intro last es' h hl
    rcases renumber_cons_ok h with ⟨ha, hb, es'', hr, rfl⟩ | ⟨ha, es'', hr, rfl⟩
    · exact .cons (.of_placed ha (Nat.le_of_succ_le hb)) (ih _ _ hr (oddOrZero_succ_double _))
    · exact .cons (.of_new ha hl) (ih _ _ hr hl)

theorem renumber_ok (es : List Elem) (hb : ∀ e ∈ es, 2 * e.uid + 1 ≤ u32max) :
    ∀ last, ∃ es', renumber last es = .ok es' := by
  induction es with
  | nil => intro _; exact ⟨[], rfl⟩
  | cons a es ih =>
    intro last
    have ha := hb a List.mem_cons_self
    have ih' := ih (fun e he => hb e (List.mem_cons_of_mem _ he))
    rw [renumber]
    by_cases hu : a.uid = 0
    · obtain ⟨es', h⟩ := ih' last
      simp [hu, h]
    · obtain ⟨es', h⟩ := ih' (2 * a.uid + 1)
      have h2 : 2 * a.uid ≤ u32max := Nat.le_of_succ_le ha
      simp [hu, dbl, h2, ha, h]

/-- sorted by `newLe` the placed elements stand first, their uids ascending: when the loop reaches the new elements,
    `last` is one more than the double of the uid of the last placed one, which is the largest, or still the incoming value -/
theorem renumber_new (es : List Elem) : ∀ (last : Nat) (es' : List Elem),
    es.Pairwise (fun a b => newLe a b = true) → renumber last es = .ok es' →
    ∀ e' ∈ es', (e'.uid % 2 = 1 ∨ e'.uid = 0) →
      (e'.uid = last ∧ ∀ e ∈ es, e.uid = 0) ∨
      ∃ p ∈ es, p.uid ≠ 0 ∧ e'.uid = 2 * p.uid + 1 ∧ ∀ q ∈ es, q.uid ≤ p.uid := by
  induction es with
  | nil => intro _ _ _ h e' he'; cases h; cases he'
  | cons a es ih =>
    intro last es' hs h e' he' hodd
    rw [List.pairwise_cons] at hs
    rcases renumber_cons_ok h with ⟨ha, _, es'', hr, rfl⟩ | ⟨ha, es'', hr, rfl⟩
    · rcases List.mem_cons.1 he' with rfl | he'
      · -- the head is placed: its new uid is even and not 0
        rcases hodd with h | h
        · rw [Nat.mul_mod_right] at h
          exact absurd h (by decide)
        · exact absurd ((Nat.mul_eq_zero.1 h).resolve_left (by decide)) ha
      · rcases ih _ _ hs.2 hr e' he' hodd with ⟨hu, hall⟩ | ⟨p, hp, hp0, hu, hmax⟩
        · exact .inr ⟨a, List.mem_cons_self, ha, hu,
            List.forall_mem_cons.2 ⟨Nat.le_refl _, fun q hq => hall q hq ▸ Nat.zero_le _⟩⟩
        · exact .inr ⟨p, List.mem_cons_of_mem _ hp, hp0, hu,
            List.forall_mem_cons.2 ⟨(lexLe_placed hp0 (hs.1 p hp)).2, hmax⟩⟩
    · -- the head is new: in the sorted list so is everything behind it
      have hall : ∀ b ∈ a :: es, b.uid = 0 := List.forall_mem_cons.2 ⟨ha, fun b hb =>
        Decidable.byContradiction fun hb0 => (lexLe_placed hb0 (hs.1 b hb)).1 ha⟩
      rcases List.mem_cons.1 he' with rfl | he'
      · exact .inl ⟨rfl, hall⟩
      · rcases ih _ _ hs.2 hr e' he' hodd with ⟨hu, _⟩ | ⟨p, hp, hp0, _⟩
        · exact .inl ⟨hu, hall⟩
        · exact absurd (hall p (List.mem_cons_of_mem _ hp)) hp0

theorem sortOptional_renum {es es' : List Elem} {n n' : Nat} (hl : es.length ≤ 1)
    (h : sortOptional es n = .ok (es', n')) (hn : OddOrZero n) : Forall₂ Renum es es' ∧ OddOrZero n' := by
  match es, hl with
  | [], _ => cases h; exact ⟨.nil, hn⟩
  | [a], _ =>
    rw [sortOptional] at h
    split at h
    · next hu => cases h; exact ⟨.cons (.of_new hu hn) .nil, hn⟩
    · next hu =>
      split at h
      · cases h
      · next u hd =>
        obtain ⟨rfl, h2⟩ := dbl_eq_ok hd
        split at h
        · cases h; exact ⟨.cons (.of_placed hu h2) .nil, oddOrZero_succ_double _⟩
        · cases h

theorem sortOptional_ok (es : List Elem) (n : Nat) (hb : ∀ e ∈ es, 2 * e.uid + 1 ≤ u32max) :
    ∃ r, sortOptional es n = .ok r := by
  match es with
  | [] => exact ⟨_, rfl⟩
  | a :: rest =>
    have ha := hb a List.mem_cons_self
    rw [sortOptional]
    by_cases hu : a.uid = 0
    · simp [hu]
    · have h2 : 2 * a.uid ≤ u32max := Nat.le_of_succ_le ha
      simp [hu, dbl, h2, ha]

theorem doubleAll_renum (es : List Elem) : ∀ es', doubleAll es = .ok es' → Forall₂ Renum es es' := by
  induction es with
  | nil => intro _ h; cases h; exact .nil
  | cons a es ih =>
    intro es' h
    rw [doubleAll] at h
    split at h
    · next u es'' hd hr =>
      cases h
      obtain ⟨rfl, h2⟩ := dbl_eq_ok hd
      -- a comment without a position stays at `2 * 0`
      by_cases hu : a.uid = 0
      · exact .cons (.of_new hu (.inl (by rw [hu]))) (ih _ hr)
      · exact .cons (.of_placed hu h2) (ih _ hr)
    · cases h

theorem doubleAll_ok (es : List Elem) (hb : ∀ e ∈ es, 2 * e.uid + 1 ≤ u32max) :
    ∃ es', doubleAll es = .ok es' := by
  induction es with
  | nil => exact ⟨[], rfl⟩
  | cons a es ih =>
    have ha := hb a List.mem_cons_self
    obtain ⟨es', h⟩ := ih (fun e he => hb e (List.mem_cons_of_mem _ he))
    have h2 : 2 * a.uid ≤ u32max := Nat.le_of_succ_le ha
    rw [doubleAll]; simp [dbl, h2, h]

/-- the body of the `foldr` in `sortKeepList` -/
def keepF (maxid : Nat) (e : Elem) (acc : Out (List Elem)) : Out (List Elem) :=
  match acc with
  | .panic => .panic
  | .ok rest =>
    if e.uid ≠ 0 then
      match dbl e.uid with | .panic => .panic | .ok u => .ok ({ e with uid := u } :: rest)
    else
      match dblInc maxid with | .panic => .panic | .ok u => .ok ({ e with uid := u } :: rest)

theorem sortKeepList_eq (es : List Elem) :
    sortKeepList es =
      if (es.map (·.uid)).foldl max 0 = 0 then .ok es
      else es.foldr (keepF ((es.map (·.uid)).foldl max 0)) (.ok []) := by
  rw [List.foldl_map]; rfl

theorem keepF_renum (M : Nat) (es : List Elem) : ∀ es', es.foldr (keepF M) (.ok []) = .ok es' →
    Forall₂ Renum es es' := by
  induction es with
  | nil => intro _ h; cases h; exact .nil
  | cons a es ih =>
    intro es' h
    rw [List.foldr_cons, keepF.eq_def] at h
    split at h
    · cases h
    · next rest hr =>
      split at h
      · next hu =>
        split at h
        · cases h
        · next u hd =>
          cases h
          obtain ⟨rfl, h2⟩ := dbl_eq_ok hd
          exact .cons (.of_placed hu h2) (ih _ hr)
      · next hu =>
        unfold dblInc at h
        split at h
        · cases h
        · next u hd =>
          cases h
          split at hd
          · cases hd; exact .cons (.of_new (Decidable.not_not.1 hu) (oddOrZero_succ_double _)) (ih _ hr)
          · cases hd

theorem keepF_ok (M : Nat) (hM : 2 * M + 1 ≤ u32max) (es : List Elem) (hb : ∀ e ∈ es, 2 * e.uid + 1 ≤ u32max) :
    ∃ es', es.foldr (keepF M) (.ok []) = .ok es' := by
  refine List.foldrRecOn (motive := fun r : Out (List Elem) => ∃ es', r = .ok es') es _ ⟨[], rfl⟩ fun _ ⟨es', h⟩ a ha => ?_
  have h2 : 2 * a.uid ≤ u32max := Nat.le_of_succ_le (hb a ha)
  rw [h]
  by_cases hu : a.uid = 0
  · simp [keepF, hu, dblInc, hM]
  · simp [keepF, hu, dbl, h2]

theorem renum_refl_of_new (es : List Elem) (h : ∀ e ∈ es, e.uid = 0) : Forall₂ Renum es es := by
  induction es with
  | nil => exact .nil
  | cons a es ih =>
    have ha := h a List.mem_cons_self
    exact .cons (.of_new (n := a.uid) ha (.inl ha)) (ih (fun e he => h e (List.mem_cons_of_mem _ he)))

theorem sortKeepList_renum {es es' : List Elem} (h : sortKeepList es = .ok es') : Forall₂ Renum es es' := by
  rw [sortKeepList_eq] at h
  split at h
  · -- the maximum is 0: nothing is placed
    rename_i h0
    cases h
    refine renum_refl_of_new es (fun e he => ?_)
    exact Nat.le_zero.1 (h0 ▸ (foldl_max_spec _).2 _ (List.mem_map_of_mem (f := (·.uid)) he))
  · exact keepF_renum _ _ _ h

theorem sortKeepList_ok (es : List Elem) (hb : ∀ e ∈ es, 2 * e.uid + 1 ≤ u32max) :
    ∃ es', sortKeepList es = .ok es' := by
  rw [sortKeepList_eq]
  split
  · exact ⟨_, rfl⟩
  · refine keepF_ok _ ?_ es hb
    rcases List.mem_cons.1 (foldl_max_spec (es.map (·.uid))).1 with h | h
    · rw [h]; decide
    · obtain ⟨e, he, hx⟩ := List.mem_map.1 h
      exact hx ▸ hb e he

/-- the rules of the `Option<T>` sections -/
def isSingle (r : NewRule) : Prop := r = .threaded ∨ r = .optionalZero

/-- every `Option` field holds at most one element, as in the Rust type -/
abbrev Singles (rs : List RSection) : Prop := ∀ r ∈ rs, isSingle r.rule → r.sec.elems.length ≤ 1

/-- the list a call renumbers: an object list is sorted first -/
def presort (r : RSection) : List Elem := if r.rule = .objectList then r.sec.elems.mergeSort newLe else r.sec.elems

theorem presort_perm (r : RSection) : (presort r).Perm r.sec.elems := by
  unfold presort
  split
  · exact List.mergeSort_perm _ _
  · exact .refl _

/-- `r'` is the section `r` after a call: its elements renumbered, those of an object list sorted first -/
def SecCall (r r' : RSection) : Prop := r'.rule = r.rule ∧ Forall₂ Renum (presort r) r'.sec.elems

/-- the uid handed from one `Option` field to the next starts at 1 and is then one more than a doubled uid: it is odd -/
theorem sniSections_secCall (rs : List RSection) : ∀ (next : Nat) (rs' : List RSection),
    sniSections next rs = .ok rs' → OddOrZero next → Singles rs → Forall₂ SecCall rs rs' := by
  induction rs with
  | nil => intro _ _ h _ _; cases h; exact .nil
  | cons r rs ih =>
    intro next rs' h hn hwf
    have hwf' : Singles rs := fun r' hr' => hwf r' (List.mem_cons_of_mem _ hr')
    rw [sniSections] at h
    cases hrule : r.rule <;> simp only [hrule] at h
    · split at h
      · cases h
      · next es n' h1 =>
        obtain ⟨e1, hn'⟩ := sortOptional_renum (hwf r List.mem_cons_self (.inl hrule)) h1 hn
        split at h
        · cases h
        · next rs'' h2 =>
          cases h
          exact .cons ⟨hrule.symm, by simpa [presort, hrule] using e1⟩ (ih _ _ h2 hn' hwf')
    · split at h
      · cases h
      · next es h1 =>
        split at h
        · cases h
        · next rs'' h2 =>
          cases h
          exact .cons ⟨hrule.symm, by simpa [presort, hrule] using sortKeepList_renum h1⟩ (ih _ _ h2 hn hwf')
    · split at h
      · cases h
      · next es h1 =>
        split at h
        · cases h
        · next rs'' h2 =>
          cases h
          exact .cons ⟨hrule.symm, by simpa [presort, hrule] using renumber_renum _ _ _ h1 (.inl rfl)⟩ (ih _ _ h2 hn hwf')
    · split at h
      · cases h
      · next es n' h1 =>
        obtain ⟨e1, _⟩ := sortOptional_renum (hwf r List.mem_cons_self (.inr hrule)) h1 (.inl rfl)
        split at h
        · cases h
        · next rs'' h2 =>
          cases h
          exact .cons ⟨hrule.symm, by simpa [presort, hrule] using e1⟩ (ih _ _ h2 hn hwf')

theorem sniSections_ok (rs : List RSection) (hb : ∀ r ∈ rs, ∀ e ∈ r.sec.elems, 2 * e.uid + 1 ≤ u32max) :
    ∀ next, ∃ rs', sniSections next rs = .ok rs' := by
  induction rs with
  | nil => intro _; exact ⟨[], rfl⟩
  | cons r rs ih =>
    intro next
    have hr := hb r List.mem_cons_self
    have ih' := ih (fun r hr => hb r (List.mem_cons_of_mem _ hr))
    rw [sniSections]
    cases hrule : r.rule <;> simp only
    · obtain ⟨⟨es, n'⟩, h1⟩ := sortOptional_ok r.sec.elems next hr
      obtain ⟨rs', h2⟩ := ih' n'
      simp [h1, h2]
    · obtain ⟨es, h1⟩ := sortKeepList_ok r.sec.elems hr
      obtain ⟨rs', h2⟩ := ih' next
      simp [h1, h2]
    · obtain ⟨es, h1⟩ : ∃ es, sortObjectlistNew r.sec.elems = .ok es :=
        renumber_ok _ (fun e he => hr e (List.mem_mergeSort.1 he)) 0
      obtain ⟨rs', h2⟩ := ih' next
      simp [h1, h2]
    · obtain ⟨⟨es, n'⟩, h1⟩ := sortOptional_ok r.sec.elems 0 hr
      obtain ⟨rs', h2⟩ := ih' next
      simp [h1, h2]

theorem all_eq (m : RModule) : m.toModule.all = m.sections.flatMap (·.sec.elems) ++ m.comments := by
  simp [Module.all, RModule.toModule, List.flatMap_map]

theorem mem_all_iff (m : RModule) (e : Elem) :
    e ∈ m.toModule.all ↔ (∃ r ∈ m.sections, e ∈ r.sec.elems) ∨ e ∈ m.comments := by
  rw [all_eq, List.mem_append, List.mem_flatMap]

theorem sortNewItems_secCall {m m' : RModule} (h : sortNewItems m = .ok m')
    (hwf : Singles m.sections) :
    Forall₂ SecCall m.sections m'.sections ∧ Forall₂ Renum m.comments m'.comments := by
  rw [sortNewItems] at h
  split at h
  · next ss cs h1 h2 =>
    cases h
    exact ⟨sniSections_secCall _ _ _ h1 (.inr rfl) hwf, doubleAll_renum _ _ h2⟩
  · cases h

/-- the elements of the module as a call renumbers them -/
def presorted (m : RModule) : List Elem := m.sections.flatMap presort ++ m.comments

theorem flatMap_presort_perm (rs : List RSection) : (rs.flatMap presort).Perm (rs.flatMap (·.sec.elems)) := by
  induction rs with
  | nil => exact .refl _
  | cons r rs ih => exact (presort_perm r).append ih

theorem presorted_perm (m : RModule) : (presorted m).Perm m.toModule.all :=
  all_eq m ▸ (flatMap_presort_perm m.sections).append_right _

theorem sortNewItems_presorted {m m' : RModule} (h : sortNewItems m = .ok m') (hwf : Singles m.sections) :
    Forall₂ Renum (presorted m) m'.toModule.all := by
  obtain ⟨hs, hc⟩ := sortNewItems_secCall h hwf
  rw [all_eq]
  exact (hs.flatMap fun _ _ hr => hr.2).append hc

theorem sortNewItems_singles {m m' : RModule} (h : sortNewItems m = .ok m')
    (hwf : Singles m.sections) :
    Singles m'.sections := by
  intro r' hr' hs
  obtain ⟨r, hr, hrule, hc⟩ := (sortNewItems_secCall h hwf).1.mem_right hr'
  rw [hrule] at hs
  have hno : r.rule ≠ .objectList := by
    rcases hs with h | h <;> rw [h] <;> decide
  rw [presort, if_neg hno] at hc
  rw [hc.length_eq]
  exact hwf r hr hs

theorem iterate_succ_ok {k : Nat} {m m' : RModule} (h : iterate (k + 1) m = .ok m') :
    ∃ m1, sortNewItems m = .ok m1 ∧ iterate k m1 = .ok m' := by
  rw [iterate] at h
  split at h
  · cases h
  · next m1 h1 => exact ⟨m1, h1, h⟩

theorem iterate_grows (k : Nat) : ∀ (m m' : RModule), iterate k m = .ok m' →
    Singles m.sections →
    ∀ e ∈ m.toModule.all, e.uid ≠ 0 →
      (1 ≤ k → 2 ^ k * e.uid ≤ u32max) ∧ ∃ e' ∈ m'.toModule.all, e'.key = e.key ∧ e'.uid = 2 ^ k * e.uid := by
  induction k with
  | zero =>
    intro m m' h _ e he _
    cases h
    exact ⟨fun h => absurd h (by decide), e, he, rfl, (Nat.one_mul _).symm⟩
  | succ k ih =>
    intro m m' h hwf e he hu
    obtain ⟨m1, h1, h⟩ := iterate_succ_ok h
    -- the first call doubles the uid, and the double is in range
    obtain ⟨e1, he1, hr⟩ := (sortNewItems_presorted h1 hwf).mem_left ((presorted_perm m).mem_iff.2 he)
    obtain ⟨hb, hu1⟩ := hr.grows hu
    have hk1 := hr.key
    obtain ⟨hb', e', he', hk', hu'⟩ := ih m1 m' h (sortNewItems_singles h1 hwf) e1 he1
      (hu1 ▸ Nat.mul_ne_zero (by decide) hu)
    -- the uid after the first call, `2 * e.uid`, grows by `2 ^ k` in the others
    have hpow : 2 ^ (k + 1) * e.uid = 2 ^ k * e1.uid := by rw [hu1, Nat.pow_succ, Nat.mul_assoc]
    rw [hpow]
    refine ⟨fun _ => ?_, e', he', hk'.trans hk1, hu'⟩
    cases k with
    | zero => rw [Nat.pow_zero, Nat.one_mul, hu1]; exact hb
    | succ k => exact hb' (Nat.succ_pos k)

theorem iterate_add (j k : Nat) : ∀ m : RModule,
    iterate (j + k) m = match iterate j m with | .panic => .panic | .ok m' => iterate k m' := by
  induction j with
  | zero => intro m; simp [iterate]
  | succ j ih =>
    intro m
    rw [Nat.add_right_comm, iterate, iterate]
    cases sortNewItems m with
    | panic => rfl
    | ok m1 => exact ih m1

end A2l.Srt.L15
