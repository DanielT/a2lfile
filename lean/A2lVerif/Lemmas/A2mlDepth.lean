import A2lVerif.Lemmas.A2ml
import A2lVerif.Lemmas.Basics
/-!
# the nesting limit of the A2ML definition parser (`MAX_NESTING_DEPTH`, `spec_depth`, `check_nesting`)

* every type that the parser functions can return at `depth` (`Made`, Lemmas/A2ml.lean) has `depth + specDepth ≤ 100`
  (`Made.depth`), whatever is stored: a reference is checked when it is used;
* every state of the top-level loop of `parse_a2ml` (`Reached`) holds made types only, stored and as IF_DATA block
  (`reached_state`), and so the result is one (`parseA2ml_made`); with `Made.depth`: only types with `specDepth ≤ 100`
  (`parseA2ml_depth`). The height of the tree, which is what the IF_DATA interpreter recurses over,
  is at most one more (`specHeight_le`);
* `n` anonymous structs around `int` are accepted for `n ≤ 99` and rejected for `n ≥ 100`, on the token list
  (`parseToks_nest`) and on the text (`parseA2ml_nest`); so are `k` array dimensions behind `int` (`parseToks_dims`).
  Both token lists are a single `block "IF_DATA"` declaration (`parseToks_block`).
-/
namespace A2l.Aml

theorem checkNesting_false_iff (d i : Nat) : checkNesting d i = false ↔ 100 < d + i := by
  rw [← Bool.not_eq_true, checkNesting_iff, Nat.not_le]

theorem specDepth_none : specDepth .none = 0 := rfl
theorem specDepth_int (w : Nat) : specDepth (.int w) = 1 := rfl
theorem specDepth_float : specDepth .float = 1 := rfl
theorem specDepth_double : specDepth .double = 1 := rfl
theorem specDepth_enum (items : List (List Char × Option Int)) : specDepth (.enum items) = 1 := rfl
theorem specDepth_array (of : Spec) (dim : Nat) : specDepth (.array of dim) = specDepth of + 1 := rfl
theorem specDepth_seq (of : Spec) : specDepth (.seq of) = specDepth of + 1 := rfl
theorem specDepth_struct (items : List Spec) : specDepth (.struct items) = specDepthL items + 1 := rfl
theorem specDepth_taggedStruct (items : List (Tagged Spec)) : specDepth (.taggedStruct items) = specDepthT items + 1 := rfl
theorem specDepth_taggedUnion (items : List (Tagged Spec)) : specDepth (.taggedUnion items) = specDepthT items + 1 := rfl
theorem specDepthL_nil : specDepthL [] = 0 := rfl
theorem specDepthL_cons (s : Spec) (rest : List Spec) : specDepthL (s :: rest) = max (specDepth s) (specDepthL rest) := rfl
theorem specDepthT_nil : specDepthT [] = 0 := rfl
theorem specDepthT_cons (t : Tagged Spec) (rest : List (Tagged Spec)) :
    specDepthT (t :: rest) = max (specDepth t.item) (specDepthT rest) := rfl

theorem specDepthL_le_iff (n : Nat) : ∀ (l : List Spec), specDepthL l ≤ n ↔ ∀ s ∈ l, specDepth s ≤ n
  | [] => by rw [specDepthL_nil]; exact ⟨fun _ => nofun, fun _ => Nat.zero_le _⟩
  | s :: rest => by rw [specDepthL_cons, Nat.max_le, specDepthL_le_iff n rest, List.forall_mem_cons]

theorem specDepthT_le_iff (n : Nat) : ∀ (l : List (Tagged Spec)), specDepthT l ≤ n ↔ ∀ t ∈ l, specDepth t.item ≤ n
  | [] => by rw [specDepthT_nil]; exact ⟨fun _ => nofun, fun _ => Nat.zero_le _⟩
  | t :: rest => by rw [specDepthT_cons, Nat.max_le, specDepthT_le_iff n rest, List.forall_mem_cons]

/-- a tag without member has the type `none` of 0 levels -/
theorem specDepth_le_of_ne_none {n : Nat} {sp : Spec} (h : sp ≠ .none → n + specDepth sp ≤ 100) : specDepth sp ≤ 100 - n := by
  by_cases hn : sp = .none
  · rw [hn]; exact Nat.zero_le _
  · have := h hn; omega

/-- for every `S`: a reference is checked when it is used -/
theorem Made.depth {S : Spec → Prop} {d : Nat} {sp : Spec} (h : Made S d sp) : d + specDepth sp ≤ 100 := by
  induction h with
  | int _ h | float h | double h | enum _ h => exact h
  | array _ _ h _ => exact h
  | seq _ ih => rw [specDepth_seq]; omega
  | @struct d items hd _ ih =>
    have : specDepthL items ≤ 99 - d := (specDepthL_le_iff _ items).2 (fun s hs => by have := ih s hs; omega)
    rw [specDepth_struct]
    omega
  | @taggedStruct d items hd _ _ ih =>
    rw [specDepth_taggedStruct]
    have := (specDepthT_le_iff _ items).2 fun t ht => specDepth_le_of_ne_none (ih t ht)
    omega
  | @taggedUnion d items hd _ _ ih =>
    rw [specDepth_taggedUnion]
    have := (specDepthT_le_iff _ items).2 fun t ht => specDepth_le_of_ne_none (ih t ht)
    omega
  | ref _ h => exact h

def KVBounded (m : List (List Char × Spec)) : Prop := ∀ kv ∈ m, specDepth kv.2 ≤ 100

def TypesBounded (types : TypeSet) : Prop :=
  KVBounded types.enums ∧ KVBounded types.structs ∧ KVBounded types.taggedstructs ∧ KVBounded types.taggedunions

/-- the states of the `while` loop of `parse_a2ml` on the token list `toks0`: the named types stored so far, the
    IF_DATA block found so far, the tokens left. One step = one declaration and the `;` behind it. -/
inductive Reached (fuel : Nat) (toks0 : List ATok) : TypeSet → Option Spec → List ATok → Prop where
  | start : Reached fuel toks0 {} none toks0
  | step {types : TypeSet} {ifdata : Option Spec} {tok : ATok} {rest : List ATok} {types' : TypeSet}
      {ifdata' : Option Spec} {rest2 : List ATok} :
      Reached fuel toks0 types ifdata (tok :: rest) →
      declStep fuel types ifdata tok rest = .ok (types', ifdata') (.semicolon :: rest2) →
      Reached fuel toks0 types' ifdata' rest2

theorem reached_state (S : Spec → Prop) (hS : ∀ sp, Made S 0 sp → S sp) {fuel : Nat} {toks0 : List ATok} {types : TypeSet}
    {ifdata : Option Spec} {toks : List ATok} (h : Reached fuel toks0 types ifdata toks) : State S types ifdata := by
  induction h with
  | start => exact .start S
  | step _ hs ih => exact (declStep_good S hS fuel _ _ _ _ ih).post hs

theorem Made.bounded {sp : Spec} (h : Made (fun sp => specDepth sp ≤ 100) 0 sp) : specDepth sp ≤ 100 :=
  Nat.zero_add (specDepth sp) ▸ h.depth

theorem declLoop_reached (fuel : Nat) (toks0 : List ATok) (n : Nat) (types : TypeSet) (ifdata : Option Spec)
    (toks : List ATok) (S : Spec) (hr : Reached fuel toks0 types ifdata toks) (h : declLoop fuel n types ifdata toks = .ok S) :
    ∃ types', Reached fuel toks0 types' (some S) [] := by
  fun_induction declLoop fuel n types ifdata toks with
  | case1 => cases h
  | case2 n types s => cases h; exact ⟨types, hr⟩
  | case3 => cases h
  | case4 n types ifdata tok rest types' ifdata' rest1 heq ih => exact ih (.step hr heq) h
  | case5 => cases h
  | case6 => cases h
  | case7 => cases h

theorem parseToks_reached (toks : List ATok) (S : Spec) (h : parseToks toks = .ok S) :
    ∃ types, Reached (parseFuel toks.length) toks types (some S) [] :=
  declLoop_reached _ toks _ _ _ _ S .start h

theorem parseA2ml_made (S : Spec → Prop) (hS : ∀ sp, Made S 0 sp → S sp) (cs : List Char) (sp : Spec)
    (h : parseA2ml cs = .ok sp) : Made S 0 sp := by
  unfold parseA2ml at h
  split at h
  · obtain ⟨types, hr⟩ := parseToks_reached _ sp h
    exact (reached_state S hS hr).2 sp rfl
  · cases h
  · cases h

theorem parseA2ml_depth (cs : List Char) (S : Spec) (h : parseA2ml cs = .ok S) : specDepth S ≤ 100 :=
  (parseA2ml_made _ (fun _ => Made.bounded) cs S h).bounded

mutual
/-- the height of a type tree, every node counted (`None` too): the number of nested activations of
    `parse_ifdata_item` (Model/IfData.lean `itemP`, structurally recursive over the tree) on this definition -/
def specHeight : Spec → Nat
  | .none => 1
  | .int _ => 1
  | .float => 1
  | .double => 1
  | .enum _ => 1
  | .array of _ => specHeight of + 1
  | .seq of => specHeight of + 1
  | .struct items => specHeightL items + 1
  | .taggedStruct items => specHeightT items + 1
  | .taggedUnion items => specHeightT items + 1
def specHeightL : List Spec → Nat
  | [] => 0
  | s :: rest => max (specHeight s) (specHeightL rest)
def specHeightT : List (Tagged Spec) → Nat
  | [] => 0
  | t :: rest => max (specHeight t.item) (specHeightT rest)
end

mutual
theorem specHeight_le : ∀ (sp : Spec), specHeight sp ≤ specDepth sp + 1
  | .none => by rw [specHeight, specDepth_none]; exact Nat.le_refl _
  | .int _ => by rw [specHeight, specDepth_int]; exact Nat.le_succ _
  | .float => by rw [specHeight, specDepth_float]; exact Nat.le_succ _
  | .double => by rw [specHeight, specDepth_double]; exact Nat.le_succ _
  | .enum _ => by rw [specHeight, specDepth_enum]; exact Nat.le_succ _
  | .array of _ => by rw [specHeight, specDepth_array]; exact Nat.succ_le_succ (specHeight_le of)
  | .seq of => by rw [specHeight, specDepth_seq]; exact Nat.succ_le_succ (specHeight_le of)
  | .struct items => by rw [specHeight, specDepth_struct]; exact Nat.succ_le_succ (specHeightL_le items)
  | .taggedStruct items => by rw [specHeight, specDepth_taggedStruct]; exact Nat.succ_le_succ (specHeightT_le items)
  | .taggedUnion items => by rw [specHeight, specDepth_taggedUnion]; exact Nat.succ_le_succ (specHeightT_le items)
theorem specHeightL_le : ∀ (l : List Spec), specHeightL l ≤ specDepthL l + 1
  | [] => by rw [specHeightL]; exact Nat.zero_le _
  | s :: rest => by
    rw [specHeightL, specDepthL_cons]
    exact Nat.max_le.2 ⟨Nat.le_trans (specHeight_le s) (Nat.succ_le_succ (Nat.le_max_left ..)),
      Nat.le_trans (specHeightL_le rest) (Nat.succ_le_succ (Nat.le_max_right ..))⟩
theorem specHeightT_le : ∀ (l : List (Tagged Spec)), specHeightT l ≤ specDepthT l + 1
  | [] => by rw [specHeightT]; exact Nat.zero_le _
  | t :: rest => by
    rw [specHeightT, specDepthT_cons]
    exact Nat.max_le.2 ⟨Nat.le_trans (specHeight_le t.item) (Nat.succ_le_succ (Nat.le_max_left ..)),
      Nat.le_trans (specHeightT_le rest) (Nat.succ_le_succ (Nat.le_max_right ..))⟩
end

/-- `struct { struct { ... int; ... }; }` with `n` structs -/
def nestToks : Nat → List ATok
  | 0 => [.kint]
  | n + 1 => .kstruct :: .ocurly :: (nestToks n ++ [.semicolon, .ccurly])

def nestSpec : Nat → Spec
  | 0 => .int 1
  | n + 1 => .struct [nestSpec n]

/-- `block "IF_DATA" struct { ... };` -/
def nestDecl (n : Nat) : List ATok := .kblock :: .tag "IF_DATA".toList :: (nestToks n ++ [.semicolon])

theorem specDepth_nestSpec : ∀ n, specDepth (nestSpec n) = n + 1
  | 0 => by rw [nestSpec, specDepth_int]
  | n + 1 => by
    rw [nestSpec, specDepth_struct, specDepthL_cons, specDepthL_nil, specDepth_nestSpec n]
    omega

theorem length_nestToks : ∀ n, (nestToks n).length = 4 * n + 1
  | 0 => rfl
  | n + 1 => by
    simp only [nestToks, List.length_cons, List.length_append, length_nestToks n, List.length_nil]
    omega

theorem arrayDims_noSquare (d levels : Nat) (base : Spec) (toks : List ATok) (h : ∀ r, toks ≠ .osquare :: r) :
    arrayDims d levels base toks = .ok base toks := by
  unfold arrayDims
  split
  · rename_i rest; exact absurd rfl (h rest)
  · rfl

theorem member_nest (types : TypeSet) : ∀ (n fuel d : Nat) (rest : List ATok), 3 * n + 2 ≤ fuel →
    (∀ r, rest ≠ .osquare :: r) →
    member fuel types d (nestToks n ++ rest) = if d + (n + 1) ≤ 100 then .ok (nestSpec n) rest else .err
  | 0, fuel, d, rest, hf, hr => by
    obtain ⟨f, rfl⟩ : ∃ f, fuel = f + 2 := ⟨fuel - 2, by omega⟩
    simp only [nestToks, List.cons_append, List.nil_append, member, type_]
    by_cases hc : d + 1 ≤ 100
    · rw [if_pos ((checkNesting_iff _ _).2 hc), if_pos hc]
      dsimp only
      rw [arrayDims_noSquare _ _ _ _ hr, nestSpec]
    · rw [if_neg (by rw [checkNesting_iff]; exact hc), if_neg hc]
  | n + 1, fuel, d, rest, hf, hr => by
    obtain ⟨f, rfl⟩ : ∃ f, fuel = f + 3 := ⟨fuel - 3, by omega⟩
    have ih := member_nest types n f (d + 1) (.semicolon :: .ccurly :: rest) (by omega) nofun
    have happ : nestToks (n + 1) ++ rest = .kstruct :: .ocurly :: (nestToks n ++ (.semicolon :: .ccurly :: rest)) := by
      simp [nestToks]
    rw [happ]
    simp only [member, type_, optionalName, structLoop, ih]
    by_cases hc : d + (n + 1 + 1) ≤ 100
    · rw [if_pos ((checkNesting_iff _ _).2 (by omega)), if_pos (by omega), if_pos hc]
      dsimp only
      rw [arrayDims_noSquare _ _ _ _ hr, nestSpec]
      rfl
    · rw [if_neg hc]
      by_cases hc1 : d + 1 ≤ 100
      · rw [if_pos ((checkNesting_iff _ _).2 hc1), if_neg (by omega)]
      · rw [if_neg (by rw [checkNesting_iff]; exact hc1)]

theorem parseToks_block {c : Prop} [Decidable c] (body : List ATok) (S : Spec) (hb : ∀ r, body ≠ .oround :: r)
    (hm : ∀ f, 4 * body.length ≤ f → member f {} 0 body = if c then .ok S [.semicolon] else .err) :
    parseToks (.kblock :: .tag "IF_DATA".toList :: body) = if c then .ok S else .err := by
  have htd : taggedDef (4 * body.length + 15 + 1) {} 0 body = member (4 * body.length + 15) {} 0 body := by
    rw [taggedDef.eq_def]
    dsimp only
    split
    · rename_i rest; exact absurd rfl (hb rest)
    · rfl
  rw [parseToks, List.length_cons, List.length_cons,
    show parseFuel (body.length + 1 + 1) = 4 * body.length + 15 + 1 by unfold parseFuel; omega]
  simp only [declLoop, declStep, htd, hm (4 * body.length + 15) (by omega)]
  by_cases hc : c
  · rw [if_pos hc, if_pos hc]
    simp only [declLoop]
    rfl
  · rw [if_neg hc, if_neg hc]

theorem parseToks_nest (n : Nat) : parseToks (nestDecl n) = if n + 1 ≤ 100 then .ok (nestSpec n) else .err := by
  rw [nestDecl]
  refine parseToks_block (c := n + 1 ≤ 100) _ _ (fun r h => by cases n <;> simp [nestToks] at h) (fun f hf => ?_)
  rw [List.length_append, length_nestToks] at hf
  rw [member_nest {} n f 0 [.semicolon] (by omega) nofun, Nat.zero_add]

/-- `[1][1]...[1]` with `k` dimensions -/
def dimToks : Nat → List ATok
  | 0 => []
  | k + 1 => .osquare :: .constant 1 :: .csquare :: dimToks k

def arrSpec (base : Spec) : Nat → Spec
  | 0 => base
  | k + 1 => arrSpec (.array base 1) k

/-- `block "IF_DATA" int[1][1]...[1];` -/
def dimDecl (k : Nat) : List ATok := .kblock :: .tag "IF_DATA".toList :: .kint :: (dimToks k ++ [.semicolon])

theorem length_dimToks : ∀ k, (dimToks k).length = 3 * k
  | 0 => rfl
  | k + 1 => by simp only [dimToks, List.length_cons, length_dimToks k]; omega

/-- the array loop on `k` dimensions: every dimension is one more level; the check of a dimension comes before its
    tokens are consumed, so the first dimension that is too deep is an error wherever it is -/
theorem arrayDims_dims : ∀ (k d levels : Nat) (base : Spec) (rest : List ATok), (∀ r, rest ≠ .osquare :: r) →
    d + levels ≤ 100 →
    arrayDims d levels base (dimToks k ++ rest) = if d + levels + k ≤ 100 then .ok (arrSpec base k) rest else .err
  | 0, d, levels, base, rest, hr, hl => by
    rw [dimToks, List.nil_append, arrayDims_noSquare _ _ _ _ hr, if_pos (by omega), arrSpec]
  | k + 1, d, levels, base, rest, hr, hl => by
    simp only [dimToks, List.cons_append, arrayDims]
    by_cases hc : d + (levels + 1) ≤ 100
    · rw [if_pos ((checkNesting_iff _ _).2 hc), arrayDims_dims k d (levels + 1) _ rest hr hc, arrSpec,
        show dimOf 1 = 1 from rfl, show d + (levels + 1) + k = d + levels + (k + 1) by omega]
    · rw [if_neg (by rw [checkNesting_iff]; exact hc), if_neg (by omega)]

theorem member_dims (types : TypeSet) (k f d : Nat) (rest : List ATok) (hr : ∀ r, rest ≠ .osquare :: r) :
    member (f + 2) types d (.kint :: (dimToks k ++ rest)) =
      if d + 1 + k ≤ 100 then .ok (arrSpec (.int 1) k) rest else .err := by
  rw [member.eq_def]
  dsimp only
  rw [type_.eq_def]
  dsimp only
  by_cases hc : d + 1 ≤ 100
  · rw [if_pos ((checkNesting_iff _ _).2 hc)]
    dsimp only
    rw [specDepth_int, arrayDims_dims k d 1 _ rest hr hc]
  · rw [if_neg (by rw [checkNesting_iff]; exact hc), if_neg (by omega)]

theorem parseToks_dims (k : Nat) : parseToks (dimDecl k) = if k + 1 ≤ 100 then .ok (arrSpec (.int 1) k) else .err := by
  rw [dimDecl]
  refine parseToks_block (c := k + 1 ≤ 100) _ _ (fun _ h => nomatch h) (fun f hf => ?_)
  obtain ⟨f, rfl⟩ : ∃ g, f = g + 2 := ⟨f - 2, by rw [List.length_cons] at hf; omega⟩
  rw [member_dims {} k f 0 [.semicolon] nofun, Nat.zero_add, Nat.add_comm 1 k]

theorem specDepth_arrSpec : ∀ (k : Nat) (base : Spec), specDepth (arrSpec base k) = specDepth base + k
  | 0, base => by rw [arrSpec]; rfl
  | k + 1, base => by rw [arrSpec, specDepth_arrSpec k, specDepth_array]; omega

theorem startsWith_include_ne (c : Char) (r : List Char) (h : c ≠ '/') : startsWith "/include".toList (c :: r) = false := by
  rw [startsWith, toList_of_eq_ofList (by with_reducible rfl)]
  simp [h]

theorem tokAux_ws (f : Nat) (c : Char) (r : List Char) (acc : List ATok) (h : isWs c = true) :
    tokAux (f + 1) (c :: r) acc = tokAux f r acc := by
  rw [tokAux, if_pos h]

/-- The conditions on `c` are one conjunction: a call discharges them with a single `by decide`. -/
theorem tokAux_single (f : Nat) (c : Char) (r : List Char) (acc : List ATok) (t : ATok)
    (h : isWs c = false ∧ c ≠ '/' ∧ c ≠ '"' ∧ single c = some t) : tokAux (f + 1) (c :: r) acc = tokAux f r (t :: acc) := by
  obtain ⟨h1, h2, h3, h4⟩ := h
  rw [tokAux]
  simp only [h1, h2, h3, h4, startsWith_include_ne c r h2, false_and, if_false, Bool.false_eq_true]

theorem spanWord_append : ∀ (w : List Char) (c0 : Char) (r : List Char), (∀ x ∈ w, isWord x = true) → isWord c0 = false →
    spanWord (w ++ c0 :: r) = (w, c0 :: r)
  | [], c0, r, _, h0 => by rw [List.nil_append, spanWord, if_neg (by rw [h0]; exact Bool.false_ne_true)]
  | x :: w, c0, r, hw, h0 => by
    rw [List.cons_append, spanWord, if_pos (hw x (List.mem_cons_self ..)),
      spanWord_append w c0 r (fun y hy => hw y (List.mem_cons_of_mem _ hy)) h0]

theorem tokAux_word (f : Nat) (c : Char) (w : List Char) (c0 : Char) (r : List Char) (acc : List ATok)
    (hc : isWs c = false ∧ c ≠ '/' ∧ c ≠ '"' ∧ single c = none ∧ c.isDigit = false ∧ (c.isAlpha || c = '_') = true)
    (hw : ∀ x ∈ w, isWord x = true) (h0 : isWord c0 = false) :
    tokAux (f + 1) (c :: (w ++ c0 :: r)) acc = tokAux f (c0 :: r) (keyword (c :: w) :: acc) := by
  obtain ⟨h1, h2, h3, h4, h5, h6⟩ := hc
  rw [tokAux]
  simp only [h1, h2, h3, h4, h5, h6, startsWith_include_ne c _ h2, false_and, if_false, Bool.false_eq_true, if_true,
    spanWord_append w c0 r hw h0]

theorem takeTag_append : ∀ (w r : List Char), (∀ x ∈ w, x ≠ '"') → takeTag (w ++ '"' :: r) = some (w, r)
  | [], r, _ => by rw [List.nil_append, takeTag, if_pos rfl]
  | x :: w, r, hw => by
    rw [List.cons_append, takeTag, if_neg (hw x (List.mem_cons_self ..)),
      takeTag_append w r (fun y hy => hw y (List.mem_cons_of_mem _ hy))]

theorem tokAux_tag (f : Nat) (w r : List Char) (acc : List ATok) (hw : ∀ x ∈ w, x ≠ '"') :
    tokAux (f + 1) ('"' :: (w ++ '"' :: r)) acc = tokAux f r (.tag w :: acc) := by
  rw [tokAux]
  have h1 : isWs '"' = false := by decide
  have h2 : '"' ≠ '/' := by decide
  simp only [h1, h2, startsWith_include_ne _ _ h2, false_and, if_false, Bool.false_eq_true, if_true, takeTag_append w r hw]

/-- the three words of the text below (evaluated together: the kernel decodes the literals of `keyword` once) -/
theorem keyword_nest : keyword ['i', 'n', 't'] = .kint ∧ keyword ['s', 't', 'r', 'u', 'c', 't'] = .kstruct ∧
    keyword ['b', 'l', 'o', 'c', 'k'] = .kblock := by
  decide +kernel

def nestText : Nat → List Char
  | 0 => ['i', 'n', 't']
  | n + 1 => ['s', 't', 'r', 'u', 'c', 't', ' ', '{', ' '] ++ nestText n ++ [';', ' ', '}']

/-- `block "IF_DATA" struct { struct { ... int; ... }; };` with `n` structs -/
def nestDeclText (n : Nat) : List Char := ['b', 'l', 'o', 'c', 'k', ' ', '\"', 'I', 'F', '_', 'D', 'A', 'T', 'A', '\"', ' '] ++ nestText n ++ [';']

theorem length_nestText : ∀ n, (nestText n).length = 12 * n + 3
  | 0 => rfl
  | n + 1 => by
    simp only [nestText, List.length_append, length_nestText n, List.length_cons, List.length_nil]
    omega

theorem tokAux_nest : ∀ (n f : Nat) (tail : List Char) (acc : List ATok),
    tokAux (f + (7 * n + 1)) (nestText n ++ ';' :: tail) acc = tokAux f (';' :: tail) ((nestToks n).reverse ++ acc)
  | 0, f, tail, acc => by
    rw [show nestText 0 ++ ';' :: tail = 'i' :: (['n', 't'] ++ ';' :: tail) from rfl,
      tokAux_word f 'i' ['n', 't'] ';' tail acc (by decide) (by decide) (by decide), keyword_nest.1]
    rfl
  | n + 1, f, tail, acc => by
    have h1 : nestText (n + 1) ++ ';' :: tail =
        's' :: (['t', 'r', 'u', 'c', 't'] ++ ' ' :: '{' :: ' ' :: (nestText n ++ ';' :: ' ' :: '}' :: ';' :: tail)) := by
      simp [nestText]
    rw [h1, show f + (7 * (n + 1) + 1) = (f + 3 + (7 * n + 1)) + 3 + 1 by omega,
      tokAux_word _ 's' ['t', 'r', 'u', 'c', 't'] ' ' _ acc (by decide) (by decide) (by decide), keyword_nest.2.1,
      tokAux_ws _ ' ' _ _ (by decide),
      tokAux_single _ '{' _ _ .ocurly (by decide),
      tokAux_ws _ ' ' _ _ (by decide),
      tokAux_nest n (f + 3) _ _,
      tokAux_single _ ';' _ _ .semicolon (by decide),
      tokAux_ws _ ' ' _ _ (by decide),
      tokAux_single _ '}' _ _ .ccurly (by decide)]
    simp [nestToks]

theorem tokenize_nest (n : Nat) : tokenize (nestDeclText n) = .ok (nestDecl n) := by
  unfold tokenize
  have hlen : (nestDeclText n).length + 1 = (5 * n + 14) + 1 + 1 + (7 * n + 1) + 1 + 1 + 1 + 1 := by
    simp only [nestDeclText, List.length_append, length_nestText, List.length_cons, List.length_nil]
    omega
  have h1 : nestDeclText n = 'b' :: (['l', 'o', 'c', 'k'] ++ ' ' :: '"' :: (['I', 'F', '_', 'D', 'A', 'T', 'A'] ++ '"' :: ' ' :: (nestText n ++ ';' :: []))) := by
    simp [nestDeclText]
  rw [hlen, h1,
    tokAux_word _ 'b' ['l', 'o', 'c', 'k'] ' ' _ [] (by decide) (by decide) (by decide), keyword_nest.2.2,
    tokAux_ws _ ' ' _ _ (by decide),
    tokAux_tag _ ['I', 'F', '_', 'D', 'A', 'T', 'A'] _ _ (by decide),
    tokAux_ws _ ' ' _ _ (by decide),
    tokAux_nest n _ _ _,
    tokAux_single _ ';' _ _ .semicolon (by decide),
    tokAux]
  simp [nestDecl]

theorem parseA2ml_nest (n : Nat) : parseA2ml (nestDeclText n) = if n + 1 ≤ 100 then .ok (nestSpec n) else .err := by
  unfold parseA2ml
  rw [tokenize_nest]
  exact parseToks_nest n

end A2l.Aml
