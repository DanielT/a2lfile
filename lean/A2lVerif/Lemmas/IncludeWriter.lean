import A2lVerif.Model.IncludeWriter
namespace A2l.IncW

theorem elements_go (seen : List (List Char)) (items : List Item) :
    elements (go seen items) = (items.filter fun it => it.incfile.isNone).map (·.name) := by
  induction items generalizing seen with
  | nil => rfl
  | cons it rest ih =>
    cases hi : it.incfile with
    | none => simp [go, hi, elements] at ih ⊢; exact ih seen
    | some f =>
      simp only [go, hi, List.filter_cons, Option.isNone_some, Bool.false_eq_true, if_false]
      split
      · exact ih seen
      · simp only [elements, List.filterMap_cons] at ih ⊢
        exact ih (f :: seen)

theorem mem_directives_go (seen : List (List Char)) (items : List Item) (f : List Char) :
    f ∈ directives (go seen items) ↔ f ∉ seen ∧ ∃ it ∈ items, it.incfile = some f := by
  induction items generalizing seen with
  | nil => simp [go, directives]
  | cons it rest ih =>
    cases hi : it.incfile with
    | none => simpa [go, hi, directives] using ih seen
    | some g =>
      by_cases hs : g ∈ seen
      · have := ih seen
        simp only [directives] at this
        simp only [go, hi, List.contains_iff_mem, hs, if_true, directives, this, List.mem_cons, exists_eq_or_imp,
          Option.some.injEq]
        constructor
        · exact fun ⟨h1, h2⟩ => ⟨h1, .inr h2⟩
        · rintro ⟨h1, rfl | h2⟩
          · exact absurd hs h1
          · exact ⟨h1, h2⟩
      · have := ih (g :: seen)
        simp only [directives] at this
        simp only [go, hi, List.contains_iff_mem, hs, if_false, directives, List.filterMap_cons, this, List.mem_cons,
          exists_eq_or_imp, Option.some.injEq, not_or]
        constructor
        · rintro (rfl | ⟨⟨_, h1⟩, h2⟩)
          · exact ⟨hs, .inl rfl⟩
          · exact ⟨h1, .inr h2⟩
        · rintro ⟨h1, rfl | h2⟩
          · exact .inl rfl
          · by_cases hfg : f = g
            · exact .inl hfg
            · exact .inr ⟨⟨hfg, h1⟩, h2⟩

theorem nodup_directives_go (seen : List (List Char)) (items : List Item) : (directives (go seen items)).Nodup := by
  induction items generalizing seen with
  | nil => simp [go, directives]
  | cons it rest ih =>
    cases hi : it.incfile with
    | none => simp only [go, hi, directives, List.filterMap_cons] at ih ⊢; exact ih seen
    | some g =>
      simp only [go, hi]
      by_cases hs : seen.contains g = true
      · simp only [hs, if_true]; exact ih seen
      · simp only [hs, Bool.false_eq_true, if_false, directives, List.filterMap_cons, List.nodup_cons] at ih ⊢
        refine ⟨?_, ih (g :: seen)⟩
        intro hm
        have := (mem_directives_go (g :: seen) rest g).1 hm
        exact this.1 List.mem_cons_self

theorem directive_at_first_go (seen : List (List Char)) (pre post : List Item) (it : Item) (f : List Char)
    (h : it.incfile = some f) (hf : f ∉ seen) (hpre : ∀ x ∈ pre, x.incfile ≠ some f) :
    ∃ tail, go seen (pre ++ it :: post) = go seen pre ++ Entry.directive f :: tail ∧ f ∉ directives tail := by
  induction pre generalizing seen with
  | nil =>
    refine ⟨go (f :: seen) post, ?_, fun hm => ((mem_directives_go _ post f).1 hm).1 List.mem_cons_self⟩
    have : seen.contains f = false := by simpa using hf
    simp only [List.nil_append, go, h, this, Bool.false_eq_true, if_false]
  | cons x pre ih =>
    have hx : x.incfile ≠ some f := hpre x List.mem_cons_self
    have hrest : ∀ y ∈ pre, y.incfile ≠ some f := fun y hy => hpre y (List.mem_cons_of_mem _ hy)
    cases hi : x.incfile with
    | none =>
      obtain ⟨tail, h1, h2⟩ := ih seen hf hrest
      exact ⟨tail, by simp only [List.cons_append, go, hi, h1], h2⟩
    | some g =>
      by_cases hs : seen.contains g = true
      · obtain ⟨tail, h1, h2⟩ := ih seen hf hrest
        exact ⟨tail, by simp only [List.cons_append, go, hi, hs, if_true, h1], h2⟩
      · obtain ⟨tail, h1, h2⟩ :=
          ih (g :: seen) (by simp only [List.mem_cons, not_or]; exact ⟨fun e => hx (by rw [hi, e]), hf⟩) hrest
        exact ⟨tail, by simp only [List.cons_append, go, hi, hs, Bool.false_eq_true, if_false, h1], h2⟩

end A2l.IncW
