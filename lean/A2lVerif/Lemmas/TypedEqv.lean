import A2lVerif.Lemmas.TypedStore
/-!
# Typed IF_DATA access: `load (store v) == v` for every value of the generated type, whatever its layout

`load_store_rec` needs the locations in `__block_info` to be consistent (`TypedOk`). A value that a user builds with
the generated `new(..)` and by pushing to the `Vec`s has default locations (and, for a sequence, possibly fewer
locations than elements: `store` then uses `unwrap_or_default()`), so it is not `TypedOk` in general. Here:
`Shaped S v` (the fields have the right types; nothing is said about `__block_info`) implies that the stored value
loads, and the result is `Eqv` to `v`: equal in the sense of the generated `PartialEq`, which compares all fields and
ignores `__block_info` at every level.
-/
namespace A2l.Typed
open A2l.Aml A2l.IfData

def shBlockWith (shf : List TVal → Bool) (v : TVal) : Bool :=
  match v with
  | .struct _ fs => shf fs
  | _ => false

def shMemberWith (shf : List TVal → Bool) (rep : Bool) (field : TVal) : Bool :=
  match field with
  | .opt none => !rep
  | .opt (some v) => !rep && shBlockWith shf v
  | .multi vs => rep && vs.all (shBlockWith shf)
  | _ => false

mutual
/-- `v` is a value of the Rust type of an item of type `t` (nothing is required of the `__block_info` inside) -/
def shItem : OTy → TVal → Bool
  | .none, _ => false
  | .int _, v => match v with | .int _ => true | _ => false
  | .float, v => match v with | .float _ => true | _ => false
  | .double, v => match v with | .double _ => true | _ => false
  | .str, v => match v with | .str _ => true | _ => false
  | .array of dim, v => match v with | .array vs => vs.length == dim && vs.all (shItem of) | _ => false
  | .enum names, v => match v with | .enum s => names.contains s | _ => false
  | .struct items, v => match v with | .struct _ fs => shFields items fs | _ => false
  | .seq of, v => match v with | .seq vs => vs.all (shItem of) | _ => false
  | .tagged _ _, _ => false
def shFields : List OTy → List TVal → Bool
  | [], fs => fs.isEmpty
  | t :: rest, fs =>
    match t with
    | .tagged _ members => shMembers members fs && shFields rest (fs.drop members.length)
    | t =>
      match fs with
      | v :: fs' => shItem t v && shFields rest fs'
      | [] => false
def shMembers : List (OTag OTy) → List TVal → Bool
  | [], _ => true
  | m :: rest, fs =>
    match fs with
    | f :: fs' => shMemberWith (shFields m.items) m.rep f && shMembers rest fs'
    | [] => false
end

/-- `v` is a value of the root type generated for `S`, with any `__block_info` -/
def Shaped (S : Spec) (v : TVal) : Prop := shBlockWith (shFields (rootItems S)) v = true

instance (S : Spec) (v : TVal) : Decidable (Shaped S v) := by unfold Shaped; infer_instance

mutual
/-- the generated `PartialEq`: all fields, not `__block_info` -/
def Eqv : TVal → TVal → Prop
  | .int a, w => w = .int a
  | .float a, w => w = .float a
  | .double a, w => w = .double a
  | .str a, w => w = .str a
  | .enum a, w => w = .enum a
  | .array a, w => ∃ b, w = .array b ∧ EqvL a b
  | .seq a, w => ∃ b, w = .seq b ∧ EqvL a b
  | .struct _ fs, w => ∃ info' fs', w = .struct info' fs' ∧ EqvL fs fs'
  | .opt none, w => w = .opt none
  | .opt (some v), w => ∃ v', w = .opt (some v') ∧ Eqv v v'
  | .multi a, w => ∃ b, w = .multi b ∧ EqvL a b
def EqvL : List TVal → List TVal → Prop
  | [], b => b = []
  | x :: a, b => ∃ y b', b = y :: b' ∧ Eqv x y ∧ EqvL a b'
end

theorem EqvL_append : ∀ {a b a' b' : List TVal}, EqvL a b → EqvL a' b' → EqvL (a ++ a') (b ++ b')
  | [], b, a', b', h, h' => by obtain rfl : b = [] := h; exact h'
  | x :: a, b, a', b', h, h' => by
    obtain ⟨y, b1, rfl, h1, h2⟩ := h
    exact ⟨y, b1 ++ b', rfl, h1, EqvL_append h2 h'⟩

theorem EqvL_length : ∀ {a b : List TVal}, EqvL a b → a.length = b.length
  | [], b, h => by obtain rfl : b = [] := h; rfl
  | x :: a, b, h => by
    obtain ⟨y, b1, rfl, _, h2⟩ := h
    simp [EqvL_length h2]

theorem shItem_int (w : Nat) (v : TVal) : shItem (.int w) v = match v with | .int _ => true | _ => false := rfl
theorem shItem_float (v : TVal) : shItem .float v = match v with | .float _ => true | _ => false := rfl
theorem shItem_double (v : TVal) : shItem .double v = match v with | .double _ => true | _ => false := rfl
theorem shItem_str (v : TVal) : shItem .str v = match v with | .str _ => true | _ => false := rfl
theorem shItem_array (of : OTy) (dim : Nat) (v : TVal) : shItem (.array of dim) v =
    match v with | .array vs => vs.length == dim && vs.all (shItem of) | _ => false := rfl
theorem shItem_enum (names : List (List Char)) (v : TVal) : shItem (.enum names) v =
    match v with | .enum s => names.contains s | _ => false := rfl
theorem shItem_struct (items : List OTy) (v : TVal) : shItem (.struct items) v =
    match v with | .struct _ fs => shFields items fs | _ => false := rfl
theorem shItem_seq (of : OTy) (v : TVal) : shItem (.seq of) v =
    match v with | .seq vs => vs.all (shItem of) | _ => false := rfl

theorem shFields_nil (fs : List TVal) : shFields [] fs = fs.isEmpty := rfl
theorem shFields_cons_tagged (u : Bool) (ms : List (OTag OTy)) (rest : List OTy) (fs : List TVal) :
    shFields (.tagged u ms :: rest) fs = (shMembers ms fs && shFields rest (fs.drop ms.length)) := rfl
theorem shFields_cons_item (t : OTy) (ht : isTagged t = false) (rest : List OTy) (fs : List TVal) :
    shFields (t :: rest) fs = match fs with | v :: fs' => shItem t v && shFields rest fs' | [] => false := by
  cases t with
  | tagged u ms => cases ht
  | _ => rfl
theorem shMembers_cons (m : OTag OTy) (rest : List (OTag OTy)) (fs : List TVal) : shMembers (m :: rest) fs =
    match fs with | f :: fs' => shMemberWith (shFields m.items) m.rep f && shMembers rest fs' | [] => false := rfl

theorem mapL_storeList_eqv {f : Gen → LRes (TVal × Loc)} {sf : TVal → Loc → Gen} {sh : TVal → Bool} (d : Loc)
    (h : ∀ v l, sh v = true → LOk (f (sf v l)) (fun r => Eqv v r.1)) : ∀ (vs : List TVal) (ls : List Loc),
    vs.all sh = true → LOk (mapL f (storeList sf d vs ls)) (fun rs => EqvL vs (rs.map (·.1)))
  | [], _, _ => ⟨[], rfl, rfl⟩
  | v :: vs, ls, h' =>
    have h' := Bool.and_eq_true_iff.1 h'
    (h v _ h'.1).bind fun r he => (mapL_storeList_eqv d h vs ls.tail h'.2).bind fun rs hes =>
      ⟨r :: rs, rfl, r.1, _, rfl, he, hes⟩

theorem mapL_map_eqv {α : Type} {f : α → LRes TVal} {g : TVal → α} : ∀ (vs : List TVal),
    (∀ v ∈ vs, LOk (f (g v)) (Eqv v)) → LOk (mapL f (vs.map g)) (EqvL vs)
  | [], _ => ⟨[], rfl, rfl⟩
  | v :: vs, h =>
    (h v (List.mem_cons_self ..)).bind fun v' he =>
      (mapL_map_eqv vs (fun w hw => h w (List.mem_cons_of_mem _ hw))).bind fun ws hes => ⟨v' :: ws, rfl, v', ws, rfl, he, hes⟩

theorem loadMember_storeMember_eqv {lf : List Gen → LRes (List TVal × List Loc)} {sf : List TVal → List Loc → List Gen}
    {shf : List TVal → Bool} (h : ∀ fs locs, shf fs = true → LOk (lf (sf fs locs)) (fun r => EqvL fs r.1))
    (tag : List Char) (rep b : Bool) (f : TVal) (hf : shMemberWith shf rep f = true) (items : List (TItem Gen))
    (hitems : itemsOf items tag = storeMember sf tag b f) : LOk (loadMember lf tag rep items) (Eqv f) := by
  have hblock : ∀ v, shBlockWith shf v = true → LOk
      (loadBlockWith lf (mkItem sf tag b v).data (mkItem sf tag b v).uid (mkItem sf tag b v).startOff (mkItem sf tag b v).endOff)
      (Eqv v) := by
    intro v hv
    cases v with
    | struct info fs => exact (h fs info.locs hv).bind fun r he => ⟨_, rfl, _, _, rfl, he⟩
    | _ => cases hv
  cases f with
  | opt o =>
    cases o with
    | none =>
      obtain rfl : rep = false := Bool.not_eq_true' _ ▸ hf
      exact ⟨.opt none, loadMember_absent hitems, rfl⟩
    | some v =>
      have hf : (!rep) = true ∧ shBlockWith shf v = true := Bool.and_eq_true_iff.1 hf
      obtain rfl : rep = false := Bool.not_eq_true' _ ▸ hf.1
      obtain ⟨v', hv, he⟩ := hblock v hf.2
      exact ⟨.opt (some v'), loadMember_first hitems hv, v', rfl, he⟩
  | multi vs =>
    have hf : rep = true ∧ vs.all (shBlockWith shf) = true := Bool.and_eq_true_iff.1 hf
    obtain rfl := hf.1
    obtain ⟨ws, hws, hes⟩ := mapL_map_eqv (f := fun it : TItem Gen => loadBlockWith lf it.data it.uid it.startOff it.endOff)
      (g := mkItem sf tag b) vs (fun v hv => hblock v (List.all_eq_true.1 hf.2 v hv))
    exact ⟨.multi ws, loadMember_rep (hitems ▸ hws), ws, rfl, hes⟩
  | _ => cases hf

/-- the induction of `load_store_rec`, with `LOk _ (Eqv ·)` in place of equality -/
theorem load_store_eqv_rec :
    (∀ t, distinctTy t = true → ∀ v l, shItem t v = true → LOk (loadItem t (storeItem t v l)) (fun r => Eqv v r.1)) ∧
    (∀ ts, distinctL ts = true → ∀ fs locs, shFields ts fs = true →
      LOk (loadFields ts (storeFields ts fs locs)) (fun r => EqvL fs r.1)) ∧
    (∀ ms, distinctM ms = true → ∀ fs its g, shMembers ms fs = true → tagItems g = .ok its →
      (∀ p ∈ ms.zip fs, itemsOf its p.1.tag = storeMember (storeFields p.1.items) p.1.tag p.1.isBlock p.2) →
      LOk (loadMembers ms g) (EqvL (fs.take ms.length))) := by
  refine OTy.induct ?_ ?_ ?_ ?_ ?_ ?_ ?_ ?_ ?_ ?_ ?_ ?_ ?_ ?_ ?_
  · intro _ v l h; cases h
  · intro w _ v l h
    rw [shItem_int] at h
    split at h
    · exact ⟨_, if_pos rfl, rfl⟩
    · cases h
  · intro _ v l h
    rw [shItem_float] at h
    split at h
    · exact ⟨_, rfl, rfl⟩
    · cases h
  · intro _ v l h
    rw [shItem_double] at h
    split at h
    · exact ⟨_, rfl, rfl⟩
    · cases h
  · intro _ v l h
    rw [shItem_str] at h
    split at h
    · exact ⟨_, rfl, rfl⟩
    · cases h
  · intro of dim ih hd v l h
    rw [shItem_array] at h
    split at h
    · rename_i vs
      rw [Bool.and_eq_true, beq_iff_eq] at h
      rw [storeItem_array, loadItem_array]
      dsimp only
      rw [← h.1, ← storeList_length (storeItem of) (defLoc of) vs l.listOf, loadArr_length]
      exact (mapL_storeList_eqv (defLoc of) (ih hd) vs l.listOf h.2).bind fun _ hes => ⟨_, rfl, _, rfl, hes⟩
    · cases h
  · intro names _ v l h
    rw [shItem_enum] at h
    split at h
    · exact ⟨_, if_pos h, rfl⟩
    · cases h
  · intro items ih hd v l h
    rw [shItem_struct] at h
    split at h
    · rename_i info fs
      rw [storeItem_struct, loadItem_struct]
      dsimp only
      exact (ih hd fs info.locs h).bind fun _ he => ⟨_, rfl, _, _, rfl, he⟩
    · cases h
  · intro of ih hd v l h
    rw [shItem_seq] at h
    split at h
    · rename_i vs
      rw [storeItem_seq, loadItem_seq]
      dsimp only
      exact (mapL_storeList_eqv (defLoc of) (ih hd) vs l.listOf h).bind fun _ hes => ⟨_, rfl, _, rfl, hes⟩
    · cases h
  · intro u ms _ _ v l h; cases h
  · intro _ fs locs h
    rw [shFields_nil, List.isEmpty_iff] at h
    subst h
    exact ⟨_, rfl, rfl⟩
  · intro u ms rest ihm ihr hd fs locs h
    obtain ⟨hn, hdm, hdr⟩ := distinctL_cons_tagged hd
    rw [shFields_cons_tagged, Bool.and_eq_true] at h
    rw [storeFields_cons_tagged, loadFields_cons_tagged]
    refine (ihm hdm fs (storeMembers ms fs) _ h.1 (tagItems_tagged u _)
      (itemsOf_storeMembers ms fs hn)).bind fun ms' hem =>
      (ihr hdr (fs.drop ms.length) locs h.2).bind fun r he => ⟨_, rfl, ?_⟩
    have := EqvL_append hem he
    rwa [List.take_append_drop] at this
  · intro t rest ht iht ihr hd fs locs h
    have hd := distinctL_cons hd
    rw [shFields_cons_item t ht] at h
    split at h
    · rename_i v fs1
      rw [Bool.and_eq_true] at h
      rw [storeFields_cons_item t ht, loadFields_cons_item t ht]
      exact (iht hd.1 v _ h.1).bind fun x hev => (ihr hd.2 fs1 _ h.2).bind fun r he => ⟨_, rfl, x.1, r.1, rfl, hev, he⟩
    · cases h
  · intro _ fs its g _ _ _
    exact ⟨[], rfl, rfl⟩
  · intro m rest ihm ihr hd fs its g hok hg hz
    have hd := distinctM_cons hd
    rw [shMembers_cons] at hok
    split at hok
    · rename_i f fs1
      rw [Bool.and_eq_true] at hok
      rw [loadMembers_cons, hg, LRes.ok_bind]
      exact (loadMember_storeMember_eqv (ihm hd.1) m.tag m.rep m.isBlock f hok.1 its (hz (m, f) (List.mem_cons_self ..))).bind
        fun f' hef => (ihr hd.2 fs1 its g hok.2 hg (fun p hp => hz p (List.mem_cons_of_mem _ hp))).bind fun fs' hes =>
          ⟨_, rfl, f', fs', rfl, hef, hes⟩
    · cases hok

end A2l.Typed
